/-
Numeric values inside `finalize`.  Definitions first (`isNum`, `wfV`,
`displaysZero`, `Decimal`, `Exact`, `exactV`); then `balance += amount` and
`balance -= amount` on a `Value` (denotation, and that a numeric balance with one
entry per commodity stays so); what `Amount.add`, `sub`, `div`, `abs` return; the
display-zero test read per commodity; and the decimal grid of amounts written
with at most their commodity's display precision.
-/
import LedgerModel.Model.Finalize
import LedgerModel.Lemmas.Value

namespace Ledger
namespace FinX

/-- VOID / INTEGER / AMOUNT / BALANCE (what `balance` can be inside finalize). -/
def isNum : Value → Bool
  | .bool _ => false
  | _ => true

def wfV : Value → Prop
  | .bal b => b.comms.Nodup
  | _ => True

/-- The exact quantity `q` of commodity `c` prints as all zeros at `c`'s display
    precision: `amount_t::is_zero` of an amount whose precision counter exceeds
    the display precision (for the null commodity: `q = 0`). -/
def displaysZero (env : PrecEnv) (c : Comm) (q : Rat) : Bool :=
  Amount.isZero env { q := q, prec := env c + 1, keep := false, comm := c }

/-- a posting amount as the reader produces it: commoditized decimal with
    `prec` decimals, precision not kept -/
def Decimal (a : Amount) : Prop :=
  a.hasComm = true ∧ a.keep = false ∧ ∃ k : Int, a.q = mkRat k (10 ^ a.prec)

/-- `a` is a commoditized decimal written with at most the display precision of
    its commodity (what the journal reader produces for a posting amount once the
    commodity's precision has been raised to cover it, amount.cc 1190-1195). -/
def Exact (env : PrecEnv) (a : Amount) : Prop :=
  a.hasComm = true ∧ a.keep = false ∧ a.prec ≤ env a.comm ∧
    ∃ m : Int, a.q = mkRat m (10 ^ env a.comm)

def exactV (env : PrecEnv) : Value → Prop
  | .void => True
  | .amt a => Exact env a
  | .bal b => ∀ a ∈ b, Exact env a
  | _ => False

theorem wfV_simplify (v : Value) (h : wfV v) : wfV v.simplify := by
  unfold Value.simplify
  split
  · trivial
  · split
    · trivial
    · exact h

theorem isNum_simplify (v : Value) (hv : isNum v = true) : isNum v.simplify = true := by
  unfold Value.simplify
  split
  · rfl
  · split
    · rfl
    · exact hv

/-- On an amount, an integer behaves as the commodity-less amount of that quantity. -/
theorem add_int_amt (n : Int) (a : Amount) :
    Value.add (.int n) (.amt a) = Value.add (.amt (Amount.ofInt n)) (.amt a) := by
  by_cases h : a.comm = "" <;> simp [Value.add, Amount.hasComm, Amount.ofInt, h]

theorem sub_int_amt (n : Int) (a : Amount) :
    Value.sub (.int n) (.amt a) = Value.sub (.amt (Amount.ofInt n)) (.amt a) := by
  -- rests on the generated flag; if the source changes it, `C03.sub_flag` is the obligation that reports it
  have hflag : Gen.intSubAmtPromotes = true := by decide
  by_cases h : a.comm = "" <;> simp [Value.sub, hflag, Amount.hasComm, Amount.ofInt, h]

theorem den_int (n : Int) (c : Comm) : (Value.int n).den c = (Value.amt (Amount.ofInt n)).den c := by
  simp only [Value.den, Amount.den_ofInt]

theorem add_amt_amt (x a : Amount) : Value.add (.amt x) (.amt a) =
    if x.comm ≠ a.comm then .ok (.bal (Balance.addAmt (Balance.ofAmt x) a))
    else (Amount.add x a).map .amt := rfl

theorem sub_amt_amt (x a : Amount) : Value.sub (.amt x) (.amt a) =
    if x.comm ≠ a.comm then .ok (Value.simplify (.bal (Balance.subAmt (Balance.ofAmt x) a)))
    else (Amount.sub x a).map (fun r => Value.simplify (.amt r)) := rfl

theorem add_amt_den (v : Value) (a : Amount) (r : Value) (h : Value.add v (.amt a) = .ok r)
    (c : Comm) : r.den c = v.den c + a.den c := by
  have amtc : ∀ x : Amount, Value.add (.amt x) (.amt a) = .ok r → r.den c = x.den c + a.den c := by
    intro x h
    rw [add_amt_amt] at h
    by_cases hxy : x.comm = a.comm
    · rw [if_neg (not_not_intro hxy)] at h
      obtain ⟨r', hr, rfl⟩ := Except.map_eq_ok h
      exact Amount.add_den hr hxy c
    · rw [if_pos hxy] at h
      cases h; simp only [Value.den, Balance.addAmt_den, Balance.den_ofAmt]
  cases v with
  | void => cases h; exact (Rat.zero_add _).symm
  | bool b => cases h
  | int n => rw [add_int_amt] at h; rw [den_int]; exact amtc _ h
  | amt x => exact amtc x h
  | bal x => cases h; simp only [Value.den, Balance.addAmt_den]

theorem sub_amt_den (v : Value) (a : Amount) (r : Value) (h : Value.sub v (.amt a) = .ok r)
    (c : Comm) : r.den c = v.den c - a.den c := by
  have amtc : ∀ x : Amount, Value.sub (.amt x) (.amt a) = .ok r → r.den c = x.den c - a.den c := by
    intro x h
    rw [sub_amt_amt] at h
    by_cases hxy : x.comm = a.comm
    · rw [if_neg (not_not_intro hxy)] at h
      obtain ⟨r', hr, rfl⟩ := Except.map_eq_ok h
      rw [Value.simplify_den]
      exact Amount.sub_den hr hxy c
    · rw [if_pos hxy] at h
      cases h; rw [Value.simplify_den]; simp only [Value.den, Balance.subAmt_den, Balance.den_ofAmt]
  cases v with
  | void => cases h
  | bool b => cases h
  | int n => rw [sub_int_amt] at h; rw [den_int]; exact amtc _ h
  | amt x => exact amtc x h
  | bal x => cases h; rw [Value.simplify_den]; simp only [Value.den, Balance.subAmt_den]

theorem add_amt_spec (v : Value) (a : Amount) (hn : isNum v = true) :
    ∃ r, Value.add v (.amt a) = .ok r ∧ isNum r = true ∧ (wfV v → wfV r) := by
  have amtc : ∀ x : Amount,
      ∃ r, Value.add (.amt x) (.amt a) = .ok r ∧ isNum r = true ∧ (True → wfV r) := by
    intro x
    rw [add_amt_amt]
    by_cases hc : x.comm = a.comm
    · rw [if_neg (not_not_intro hc), Amount.add, if_neg (fun h => h.2.2 hc)]
      exact ⟨_, rfl, rfl, fun _ => trivial⟩
    · rw [if_pos hc]
      exact ⟨_, rfl, rfl, fun _ => Balance.nodup_comms_addAmt (Balance.nodup_comms_ofAmt _) _⟩
  cases v with
  | void => exact ⟨_, rfl, rfl, fun _ => trivial⟩
  | bool b => cases hn
  | int n => rw [add_int_amt]; exact amtc _
  | amt x => exact amtc x
  | bal x => exact ⟨_, rfl, rfl, fun hw => Balance.nodup_comms_addAmt hw _⟩

theorem sub_amt_spec (v : Value) (a : Amount) (r : Value) (h : Value.sub v (.amt a) = .ok r)
    (hw : wfV v) : isNum r = true ∧ wfV r := by
  have amtc : ∀ x : Amount, Value.sub (.amt x) (.amt a) = .ok r → isNum r = true ∧ wfV r := by
    intro x h
    rw [sub_amt_amt] at h
    by_cases hxy : x.comm = a.comm
    · rw [if_neg (not_not_intro hxy)] at h
      obtain ⟨r', _, rfl⟩ := Except.map_eq_ok h
      exact ⟨isNum_simplify _ rfl, wfV_simplify _ trivial⟩
    · rw [if_pos hxy] at h
      cases h; exact ⟨isNum_simplify _ rfl, wfV_simplify _ (Balance.nodup_comms_subAmt (Balance.nodup_comms_ofAmt _) _)⟩
  cases v with
  | void => cases h
  | bool b => cases h
  | int n => rw [sub_int_amt] at h; exact amtc _ h
  | amt x => exact amtc x h
  | bal x => cases h; exact ⟨isNum_simplify _ rfl, wfV_simplify _ (Balance.nodup_comms_subAmt hw _)⟩

theorem amount_sub_ok {a b r : Amount} (h : Amount.sub a b = .ok r) :
    r.q = a.q - b.q ∧ r.keep = a.keep ∧ r.comm = a.comm := by
  unfold Amount.sub at h
  split at h
  · cases h
  · cases h; exact ⟨rfl, rfl, rfl⟩

theorem amount_add_ok {a b r : Amount} (h : Amount.add a b = .ok r) : r.q = a.q + b.q ∧ r.comm = a.comm := by
  unfold Amount.add at h
  split at h
  · cases h
  · cases h; exact ⟨rfl, rfl⟩

theorem div_comm_of_hasComm {env : PrecEnv} {a b r : Amount} (h : Amount.div env a b = .ok r)
    (ha : a.hasComm = true) : r.comm = a.comm := by
  unfold Amount.div at h
  split at h
  · cases h
  · cases h; simp [Amount.clampPrec_comm]

theorem abs_comm (a : Amount) : a.abs.comm = a.comm := by
  unfold Amount.abs; split <;> rfl

theorem abs_q_mul (a : Amount) (x y : Rat) (hx : x ≠ 0) (h : a.q = y / x) :
    a.abs.q * x = y ∨ a.abs.q * x = -y := by
  have hc := Rat.div_mul_cancel (a := y) hx
  unfold Amount.abs
  split
  · right; simp only [Amount.neg, h]; rw [Rat.neg_mul, hc]
  · left; rw [h]; exact hc

theorem displaysZero_zero (env : PrecEnv) (c : Comm) : displaysZero env c 0 = true := by
  unfold displaysZero Amount.isZero
  by_cases hc : ({ q := 0, prec := env c + 1, keep := false, comm := c } : Amount).hasComm = true
  · simp [hc]
  · simp [hc]

/-- `amount_t::is_zero` is exact unless the precision counter exceeds the display precision -/
theorem isZero_iff_q_zero (env : PrecEnv) (a : Amount)
    (h : a.hasComm = false ∨ a.keep = true ∨ a.prec ≤ env a.comm) : a.isZero env = true ↔ a.q = 0 := by
  unfold Amount.isZero
  cases hh : a.hasComm with
  | false => simp
  | true =>
    have hk : a.keep = true ∨ a.prec ≤ env a.comm := by
      rcases h with h | h
      · rw [hh] at h; cases h
      · exact h
    simp only [↓reduceIte, if_pos hk, decide_eq_true_eq]

theorem displaysZero_of_isZero (env : PrecEnv) (a : Amount) (h : a.isZero env = true) :
    displaysZero env a.comm a.q = true := by
  by_cases hex : a.hasComm = false ∨ a.keep = true ∨ a.prec ≤ env a.comm
  · rw [(isZero_iff_q_zero env a hex).1 h]; exact displaysZero_zero env a.comm
  · -- otherwise `is_zero` looks only at the quantity and the commodity's display precision
    simp only [not_or, Bool.not_eq_false, Bool.not_eq_true, Nat.not_le] at hex
    have hh : ({ q := a.q, prec := env a.comm + 1, keep := false, comm := a.comm } : Amount).hasComm
        = true := hex.1
    unfold displaysZero
    unfold Amount.isZero at h ⊢
    rw [hex.1, if_pos rfl, if_neg (fun hk => hk.elim (fun hk => Bool.false_ne_true (hex.2.1.symm.trans hk))
      (Nat.not_le_of_gt hex.2.2))] at h
    rw [hh, if_pos rfl, if_neg (fun hk => hk.elim Bool.false_ne_true (Nat.not_succ_le_self _))]
    exact h

theorem balance_isZero_den (env : PrecEnv) (b : Balance) (hw : b.comms.Nodup)
    (h : b.all (Amount.isZero env) = true) (c : Comm) : displaysZero env c (b.den c) = true := by
  induction b with
  | nil => exact displaysZero_zero env c
  | cons x xs ih =>
    rw [Balance.comms_cons, List.nodup_cons] at hw
    simp only [List.all_cons, Bool.and_eq_true] at h
    simp only [Balance.den_cons, Amount.den]
    by_cases hc : x.comm = c
    · rw [if_pos hc, Balance.den_eq_zero_of_not_mem xs c (hc ▸ hw.1)]
      have := displaysZero_of_isZero env x h.1
      rw [hc] at this
      rw [Rat.add_zero]; exact this
    · rw [if_neg hc]
      rw [Rat.zero_add]; exact ih hw.2 h.2

theorem value_isZero_den (env : PrecEnv) (v : Value) (hw : wfV v) (hn : isNum v = true)
    (h : valueIsZero env v = true) (c : Comm) : displaysZero env c (v.den c) = true := by
  cases v with
  | void => exact displaysZero_zero env c
  | bool b => cases hn
  | int n =>
    cases of_decide_eq_true h
    simp only [Value.den]
    split <;> exact displaysZero_zero env c
  | amt a =>
    simp only [Value.den, Amount.den]
    split
    · rename_i hc; rw [← hc]; exact displaysZero_of_isZero env a h
    · exact displaysZero_zero env c
  | bal b => exact balance_isZero_den env b hw h c

theorem pow10_ne (p : Nat) : (10 ^ p : Nat) ≠ 0 := Nat.ne_of_gt (Nat.pow_pos (by decide))

theorem mkRat_rescale (k : Int) (p e : Nat) (h : p ≤ e) :
    mkRat k (10 ^ p) = mkRat (k * (10 : Int) ^ (e - p)) (10 ^ e) := by
  apply (Rat.mkRat_eq_iff (pow10_ne p) (pow10_ne e)).2
  have : (10 : Int) ^ e = (10 : Int) ^ (e - p) * (10 : Int) ^ p := by
    rw [← Int.pow_add, Nat.sub_add_cancel h]
  have e1 : ((10 ^ e : Nat) : Int) = (10 : Int) ^ e := Int.natCast_pow 10 e
  have e2 : ((10 ^ p : Nat) : Int) = (10 : Int) ^ p := Int.natCast_pow 10 p
  rw [e1, e2, this]
  exact (Int.mul_assoc _ _ _).symm

theorem exact_of_decimal (env : PrecEnv) (a : Amount) (hd : Decimal a) (hp : a.prec ≤ env a.comm) :
    Exact env a := by
  obtain ⟨h1, h2, k, hk⟩ := hd
  exact ⟨h1, h2, hp, k * (10 : Int) ^ (env a.comm - a.prec), by rw [hk, mkRat_rescale k _ _ hp]⟩

theorem mkRat_add_same (m n : Int) (d : Nat) (hd : d ≠ 0) :
    mkRat m d + mkRat n d = mkRat (m + n) d := by
  rw [Rat.mkRat_add_mkRat _ _ hd hd]
  apply (Rat.mkRat_eq_iff (Nat.mul_ne_zero hd hd) hd).2
  rw [Int.natCast_mul, ← Int.add_mul, Int.mul_assoc]

theorem roundUnits_grid (m : Int) (p : Nat) : Amount.roundUnits (mkRat m (10^p)) p = m := by
  unfold Amount.roundUnits
  have hdpos : (0 : Int) < ((mkRat m (10^p)).den : Int) := Int.natCast_pos.2 (Rat.den_pos _)
  have e : ((10 ^ p : Nat) : Int) = (10 : Int) ^ p := Int.natCast_pow 10 p
  have key : (mkRat m (10^p)).num * (10 : Int) ^ p = m * (mkRat m (10^p)).den := by
    rw [← e]
    exact (Rat.mkRat_eq_iff (Rat.den_nz _) (pow10_ne p)).1 (Rat.mkRat_self _)
  simp only [key]
  -- the quotient is `m` and the remainder 0, so nothing is rounded up
  rw [Int.mul_fdiv_cancel _ (Int.ne_of_gt hdpos), Int.mul_fmod_left, Int.mul_zero]
  exact if_neg fun h => h.elim (Int.lt_asymm hdpos) fun h => Int.ne_of_lt hdpos h.1

/-- a non-zero multiple of the display unit never prints as zero -/
theorem displaysZero_grid_false (env : PrecEnv) (c : Comm) (hc : c ≠ "") (m : Int) (hm : m ≠ 0) :
    displaysZero env c (mkRat m (10 ^ env c)) = false := by
  have hq : mkRat m (10 ^ env c) ≠ 0 := fun h => hm ((Rat.mkRat_eq_zero (pow10_ne _)).1 h)
  unfold displaysZero Amount.isZero
  have hh : ({ q := mkRat m (10 ^ env c), prec := env c + 1, keep := false, comm := c } : Amount).hasComm
      = true := decide_eq_true hc
  rw [hh]
  simp only [↓reduceIte]
  rw [if_neg (fun hk => hk.elim Bool.false_ne_true (Nat.not_succ_le_self _))]
  simp only [hq, decide_false, roundUnits_grid, hm]
  rw [if_neg not_false, ite_self]

theorem exact_combine (env : PrecEnv) (x a : Amount) (hx : Exact env x) (ha : Exact env a)
    (hc : x.comm = a.comm) :
    Exact env { x with q := x.q + a.q, prec := max x.prec a.prec } := by
  obtain ⟨x1, x2, x3, m, xm⟩ := hx
  obtain ⟨_, _, a3, n, an⟩ := ha
  refine ⟨x1, x2, ?_, m + n, ?_⟩
  · exact Nat.max_le.2 ⟨x3, hc ▸ a3⟩
  · simp only
    rw [xm, an, ← hc, mkRat_add_same _ _ _ (pow10_ne _)]

theorem exactB_addGo (env : PrecEnv) (b : Balance) (a : Amount) (hb : ∀ x ∈ b, Exact env x)
    (ha : Exact env a) : ∀ x ∈ Balance.addGo b a, Exact env x := by
  induction b with
  | nil => intro x hx; cases List.mem_singleton.1 hx; exact ha
  | cons y ys ih =>
    intro x hx
    unfold Balance.addGo at hx
    split at hx
    · rename_i hc
      rcases List.mem_cons.1 hx with rfl | hx'
      · exact exact_combine env y a (hb y List.mem_cons_self) ha hc
      · exact hb x (List.mem_cons_of_mem _ hx')
    · rcases List.mem_cons.1 hx with rfl | hx'
      · exact hb _ List.mem_cons_self
      · exact ih (fun z hz => hb z (List.mem_cons_of_mem _ hz)) x hx'

theorem exactB_addAmt (env : PrecEnv) (b : Balance) (a : Amount) (hb : ∀ x ∈ b, Exact env x)
    (ha : Exact env a) : ∀ x ∈ Balance.addAmt b a, Exact env x := by
  unfold Balance.addAmt
  split
  · exact hb
  · exact exactB_addGo env b a hb ha

theorem exactB_ofAmt (env : PrecEnv) (a : Amount) (ha : Exact env a) :
    ∀ x ∈ Balance.ofAmt a, Exact env x := by
  unfold Balance.ofAmt
  split
  · intro x hx; cases hx
  · intro x hx; cases List.mem_singleton.1 hx; exact ha

theorem exactV_add_amt (env : PrecEnv) (v : Value) (a : Amount) (r : Value)
    (h : Value.add v (.amt a) = .ok r) (hv : exactV env v) (ha : Exact env a) : exactV env r := by
  cases v with
  | void => cases h; exact ha
  | bool b => cases hv
  | int x => cases hv
  | amt x =>
    rw [add_amt_amt] at h
    by_cases hc : x.comm = a.comm
    · rw [if_neg (not_not_intro hc)] at h
      obtain ⟨r', hr, rfl⟩ := Except.map_eq_ok h
      rw [Amount.add, if_neg (fun h => h.2.2 hc)] at hr
      cases hr
      rw [hv.1, ha.1]
      exact exact_combine env x a hv ha hc
    · rw [if_pos hc] at h; cases h; exact exactB_addAmt env _ a (exactB_ofAmt env x hv) ha
  | bal x => cases h; exact exactB_addAmt env x a hv ha

theorem exactV_isZero_den (env : PrecEnv) (v : Value) (hv : exactV env v)
    (hz : valueIsZero env v = true) (c : Comm) : v.den c = 0 := by
  cases v with
  | void => rfl
  | bool b => cases hv
  | int n => cases hv
  | amt a =>
    have := (isZero_iff_q_zero env a (Or.inr (Or.inr hv.2.2.1))).1 hz
    simp only [Value.den, Amount.den, this]; split <;> rfl
  | bal b =>
    replace hz : ∀ x ∈ b, x.isZero env = true := List.all_eq_true.1 hz
    simp only [Value.den]
    induction b with
    | nil => rfl
    | cons x xs ih =>
      have hx := (isZero_iff_q_zero env x (Or.inr (Or.inr (hv x List.mem_cons_self).2.2.1))).1
        (hz x List.mem_cons_self)
      simp only [Balance.den_cons, Amount.den, hx]
      rw [ih (fun a ha => hv a (List.mem_cons_of_mem _ ha)) (fun a ha => hz a (List.mem_cons_of_mem _ ha))]
      rw [ite_self, Rat.add_zero]

end FinX
end Ledger
