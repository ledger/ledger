/-
Helper lemmas behind Props/C17 (transaction groups, truncate_xacts).
`runs` is characterised as the decomposition into good blocks (`runs_eq_iff`).
For truncate_xacts: flush is `selRuns` over `truncPrint` on the runs
(`truncFlush_eq_selRuns`); without the early stop the handler is its final
flush (`truncate_eq_flush`); under `--head N` alone the state after the
postings `pre` is `truncSeen pre`, and the early stop yields the same `take N`
as the flush would (`truncRun_head`); hence the handler keeps the runs that
pass the window for every pair of counts (`truncate_eq_selRuns`), and a window
of the shape true / false / true is `take a ++ drop b` (`truncate_window_eq`).
-/
import LedgerModel.Model.Regroup

namespace Ledger
namespace Regroup

open List

variable {α : Type} (xid : α → Nat)

/-- `gs` is a list of non-empty blocks, each of one transaction, neighbouring
    blocks of different transactions; `prev` is the transaction in front. -/
def GoodRuns : Option Nat → List (List α) → Prop
  | _, [] => True
  | prev, g :: gs => ∃ p g', g = p :: g' ∧ (∀ q ∈ g', xid q = xid p) ∧ prev ≠ some (xid p) ∧
      GoodRuns (some (xid p)) gs

theorem GoodRuns.weaken {prev : Option Nat} {gs : List (List α)} (h : GoodRuns xid prev gs) :
    GoodRuns xid none gs := by
  cases gs with
  | nil => trivial
  | cons g gs =>
    obtain ⟨p, g', h1, h2, _, h4⟩ := h
    exact ⟨p, g', h1, h2, by simp, h4⟩

theorem runs_flatten (l : List α) : (runs xid l).flatten = l := by
  induction l with
  | nil => rfl
  | cons p ps ih =>
    simp only [runs]
    generalize runs xid ps = gs at ih
    subst ih
    match gs with
    | [] => simp [consRun]
    | [] :: gs => simp [consRun]
    | (q :: g) :: gs =>
      simp only [consRun]
      split <;> simp

theorem runs_cons_head (p : α) (ps : List α) : ∃ g gs, runs xid (p :: ps) = (p :: g) :: gs := by
  simp only [runs]
  match runs xid ps with
  | [] => exact ⟨[], [], rfl⟩
  | [] :: gs => exact ⟨[], gs, rfl⟩
  | (q :: g) :: gs =>
    simp only [consRun]
    split
    · exact ⟨q :: g, gs, rfl⟩
    · exact ⟨[], (q :: g) :: gs, rfl⟩

theorem runs_good (l : List α) : GoodRuns xid none (runs xid l) := by
  induction l with
  | nil => trivial
  | cons p ps ih =>
    show GoodRuns xid none (consRun xid p (runs xid ps))
    generalize runs xid ps = gs at ih
    rcases gs with _ | ⟨_ | ⟨q, g⟩, gs⟩
    · exact ⟨p, [], rfl, (fun _ h => nomatch h), (fun h => nomatch h), trivial⟩
    · obtain ⟨_, _, h1, _⟩ := ih
      cases h1
    · obtain ⟨q', g', h1, h2, _, h4⟩ := ih
      cases h1
      rw [consRun]
      by_cases he : xid p = xid q
      · rw [if_pos he]
        refine ⟨p, q :: g, rfl, ?_, (fun h => nomatch h), ?_⟩
        · intro r hr
          rcases List.mem_cons.mp hr with rfl | hr
          · exact he.symm
          · rw [h2 r hr, he]
        · rw [he]; exact h4
      · rw [if_neg he]
        exact ⟨p, [], rfl, (fun _ h => nomatch h), (fun h => nomatch h), q, g, rfl, h2,
          fun e => he (Option.some.inj e), h4⟩

/-- at a boundary between two transactions `runs` distributes over `++` -/
theorem runs_append_boundary (A B : List α)
    (h : ∀ a, A.getLast? = some a → ∀ b, B.head? = some b → xid a ≠ xid b) :
    runs xid (A ++ B) = runs xid A ++ runs xid B := by
  induction A with
  | nil => rfl
  | cons a A' ih =>
    cases A' with
    | nil =>
      cases B with
      | nil => rfl
      | cons b B' =>
        obtain ⟨g, gs, hg⟩ := runs_cons_head xid b B'
        have hne : xid a ≠ xid b := h a rfl b rfl
        show consRun xid a (runs xid (b :: B')) = consRun xid a [] ++ runs xid (b :: B')
        rw [hg, consRun, if_neg hne]
        rfl
    | cons a' A'' =>
      have ih' := ih (fun x hx b hb => h x (List.getLast?_cons_cons.trans hx) b hb)
      obtain ⟨g, gs, hg⟩ := runs_cons_head xid a' A''
      calc runs xid (a :: a' :: A'' ++ B)
          = consRun xid a (runs xid ((a' :: A'') ++ B)) := rfl
        _ = consRun xid a (runs xid (a' :: A'') ++ runs xid B) := by rw [ih']
        _ = consRun xid a (runs xid (a' :: A'')) ++ runs xid B := by
          rw [hg, List.cons_append, consRun, consRun]
          by_cases e : xid a = xid a'
          · rw [if_pos e, if_pos e]; rfl
          · rw [if_neg e, if_neg e]; rfl
        _ = runs xid (a :: a' :: A'') ++ runs xid B := rfl

theorem runs_const (p : α) (g : List α) (h : ∀ q ∈ g, xid q = xid p) : runs xid (p :: g) = [p :: g] := by
  induction g generalizing p with
  | nil => rfl
  | cons q g ih =>
    have hq : xid q = xid p := h q List.mem_cons_self
    have := ih q (fun r hr => by rw [h r (List.mem_cons_of_mem _ hr), hq])
    show consRun xid p (runs xid (q :: g)) = _
    rw [this]
    simp [consRun, hq]

theorem goodRuns_nonempty {prev : Option Nat} {gs : List (List α)} (h : GoodRuns xid prev gs) :
    ∀ g ∈ gs, g ≠ [] := by
  induction gs generalizing prev with
  | nil => simp
  | cons g gs ih =>
    obtain ⟨p, g', rfl, _, _, h4⟩ := h
    intro g hg
    rcases List.mem_cons.mp hg with rfl | hg
    · simp
    · exact ih h4 g hg

/-- good blocks are the runs of their concatenation -/
theorem runs_flatten_good : ∀ (prev : Option Nat) (gs : List (List α)), GoodRuns xid prev gs →
    runs xid gs.flatten = gs := by
  intro prev gs
  induction gs generalizing prev with
  | nil => intro _; rfl
  | cons g gs ih =>
    intro hg
    obtain ⟨p, g', rfl, h2, _, h4⟩ := hg
    have hb : runs xid ((p :: g') ++ gs.flatten) = runs xid (p :: g') ++ runs xid gs.flatten := by
      apply runs_append_boundary
      intro u hu v hv
      have hux : xid u = xid p := by
        rcases List.mem_cons.mp (List.mem_of_getLast? hu) with rfl | h
        · rfl
        · exact h2 u h
      rw [hux]
      cases gs with
      | nil => cases hv
      | cons g2 gs2 =>
        obtain ⟨q, g2', rfl, _, h3', _⟩ := h4
        cases hv
        exact fun e => h3' (congrArg some e)
    rw [List.flatten_cons, hb, ih _ h4, runs_const xid p g' h2]
    rfl

/-- `runs` is the only decomposition into non-empty one-transaction blocks with neighbours of different transactions -/
theorem runs_eq_iff (l : List α) (gs : List (List α)) :
    runs xid l = gs ↔ gs.flatten = l ∧ GoodRuns xid none gs :=
  ⟨fun h => h ▸ ⟨runs_flatten xid l, runs_good xid l⟩, fun ⟨h1, h2⟩ => h1 ▸ runs_flatten_good xid none gs h2⟩

/-- `post->xact` as the model sees it -/
abbrev pxid : RPost → Nat := fun p => p.xid

theorem sortXacts_eq (ks : List SortKey) (l : List RPost) :
    sortXacts ks l = (runs pxid l).flatMap (sortPosts ks) := rfl

theorem runs_mem_nonempty (l : List RPost) : ∀ g ∈ runs pxid l, g ≠ [] :=
  goodRuns_nonempty pxid (runs_good pxid l)

theorem runs_mem_subset (l : List RPost) (g : List RPost) (hg : g ∈ runs pxid l) : ∀ p ∈ g, p ∈ l := by
  intro p hp
  rw [← runs_flatten pxid l]
  exact List.mem_flatten.mpr ⟨g, hg, hp⟩

theorem runs_flatMap_blocks {J : Type} (js : List J) (f : J → List RPost) (idf : J → Nat)
    (hconst : ∀ j ∈ js, ∀ p ∈ f j, p.xid = idf j) (hinj : js.Pairwise (fun a b => idf a ≠ idf b)) :
    runs pxid (js.flatMap f) = (js.map f).filter (fun g => !g.isEmpty) := by
  induction js with
  | nil => rfl
  | cons x xs ih =>
    have hd' := List.pairwise_cons.mp hinj
    have ih' := ih (fun j hj => hconst j (List.mem_cons_of_mem _ hj)) hd'.2
    simp only [List.flatMap_cons, List.map_cons, List.filter_cons]
    cases hg : f x with
    | nil => simp [ih']
    | cons a g =>
      have hxid := hconst x List.mem_cons_self
      rw [hg] at hxid
      have hb : runs pxid ((a :: g) ++ xs.flatMap f) = runs pxid (a :: g) ++ runs pxid (xs.flatMap f) := by
        apply runs_append_boundary
        intro u hu v hv
        have hu' : u ∈ a :: g := List.mem_of_getLast? hu
        have hv' : v ∈ xs.flatMap f := List.mem_of_head? hv
        obtain ⟨y, hy, hvy⟩ := List.mem_flatMap.mp hv'
        show u.xid ≠ v.xid
        rw [hxid u hu', hconst y (List.mem_cons_of_mem _ hy) v hvy]
        exact hd'.1 y hy
      rw [hb, ih', runs_const pxid a g (fun q hq => (hxid q (List.mem_cons_of_mem _ hq)).trans (hxid a List.mem_cons_self).symm)]
      simp

/-- keep the blocks whose index satisfies `pr` -/
def selRuns (pr : Nat → Bool) : Nat → List (List α) → List α
  | _, [] => []
  | k, g :: gs => (if pr k then g else []) ++ selRuns pr (k + 1) gs

/-- a selection that, counted from block `k`, holds below `a`, fails from `a` to `b` and holds from `b` on
    keeps the first `a` and all but the first `b` blocks -/
theorem selRuns_window_from (pr : Nat → Bool) (gs : List (List α)) : ∀ (a b k : Nat), a ≤ b →
    (∀ j, j < a → pr (k + j) = true) → (∀ j, a ≤ j → j < b → pr (k + j) = false) →
    (∀ j, b ≤ j → j < gs.length → pr (k + j) = true) →
    selRuns pr k gs = (gs.take a ++ gs.drop b).flatten := by
  induction gs with
  | nil => intros; simp [selRuns]
  | cons g gs ih =>
    intro a b k hab h1 h2 h3
    have hs : ∀ j, k + 1 + j = k + (j + 1) := fun j => by rw [Nat.add_assoc, Nat.add_comm 1 j]
    rw [selRuns]
    rcases a with _ | a
    · rcases b with _ | b
      · rw [show pr k = true from h3 0 (Nat.le_refl 0) (Nat.succ_pos _), ih 0 0 (k + 1) (Nat.le_refl 0)
          (fun j hj => absurd hj (Nat.not_lt_zero j))
          (fun j ha hb => absurd hb (Nat.not_lt_zero j))
          (fun j hb hl => hs j ▸ h3 (j + 1) (Nat.zero_le _) (Nat.succ_lt_succ hl))]
        rfl
      · rw [show pr k = false from h2 0 (Nat.le_refl 0) (Nat.succ_pos b), ih 0 b (k + 1) (Nat.zero_le b)
          (fun j hj => absurd hj (Nat.not_lt_zero j))
          (fun j ha hb => hs j ▸ h2 (j + 1) (Nat.zero_le _) (Nat.succ_lt_succ hb))
          (fun j hb hl => hs j ▸ h3 (j + 1) (Nat.succ_le_succ hb) (Nat.succ_lt_succ hl))]
        rfl
    · rcases b with _ | b
      · exact absurd hab (Nat.not_succ_le_zero a)
      · rw [show pr k = true from h1 0 (Nat.succ_pos a), ih a b (k + 1) (Nat.le_of_succ_le_succ hab)
          (fun j hj => hs j ▸ h1 (j + 1) (Nat.succ_lt_succ hj))
          (fun j ha hb => hs j ▸ h2 (j + 1) (Nat.succ_le_succ ha) (Nat.succ_lt_succ hb))
          (fun j hb hl => hs j ▸ h3 (j + 1) (Nat.succ_le_succ hb) (Nat.succ_lt_succ hl))]
        rfl
theorem selRuns_window (pr : Nat → Bool) (a b : Nat) (hab : a ≤ b) (gs : List (List α))
    (h1 : ∀ j, j < a → pr j = true) (h2 : ∀ j, a ≤ j → j < b → pr j = false)
    (h3 : ∀ j, b ≤ j → j < gs.length → pr j = true) :
    selRuns pr 0 gs = (gs.take a ++ gs.drop b).flatten :=
  selRuns_window_from pr gs a b 0 hab (fun j => (Nat.zero_add j).symm ▸ h1 j)
    (fun j => (Nat.zero_add j).symm ▸ h2 j) (fun j => (Nat.zero_add j).symm ▸ h3 j)

variable (head tail len : Int)

/-- one block through the second loop of flush -/
theorem flushGo_block (x : Nat) (i : Int) (p : α) (g rest : List α) (hg : ∀ q ∈ g, xid q = xid p) :
    flushGo xid head tail len x i ((p :: g) ++ rest) =
      (if truncPrint head tail len (if x ≠ xid p then i + 1 else i) then p :: g else []) ++
        flushGo xid head tail len (xid p) (if x ≠ xid p then i + 1 else i) rest := by
  -- inside the block the index stands still
  have same : ∀ (g : List α) (i : Int), (∀ q ∈ g, xid q = xid p) →
      flushGo xid head tail len (xid p) i (g ++ rest) =
        (if truncPrint head tail len i then g else []) ++ flushGo xid head tail len (xid p) i rest := by
    intro g i hg
    induction g with
    | nil => cases truncPrint head tail len i <;> rfl
    | cons q g ih =>
      have hq : xid q = xid p := hg q List.mem_cons_self
      have hi : (if xid p ≠ xid q then i + 1 else i) = i := if_neg (fun h => h hq.symm)
      simp only [List.cons_append, flushGo]
      rw [hi, hq, ih (fun r hr => hg r (List.mem_cons_of_mem _ hr))]
      cases truncPrint head tail len i <;> rfl
  simp only [List.cons_append, flushGo]
  rw [same g _ hg]
  cases truncPrint head tail len (if x ≠ xid p then i + 1 else i) <;> rfl

theorem flushGo_runs (x : Nat) (k : Nat) (gs : List (List α)) (h : GoodRuns xid (some x) gs) :
    flushGo xid head tail len x (k : Int) gs.flatten =
      selRuns (fun j => truncPrint head tail len (j : Int)) (k + 1) gs := by
  induction gs generalizing x k with
  | nil => simp [flushGo, selRuns]
  | cons g gs ih =>
    obtain ⟨p, g', rfl, h2, h3, h4⟩ := h
    have hne : x ≠ xid p := by intro e; apply h3; rw [e]
    simp only [List.flatten_cons, selRuns]
    rw [flushGo_block xid head tail len x k p g' gs.flatten h2]
    simp only [hne, ne_eq, not_false_eq_true, if_true]
    have := ih (xid p) (k + 1) h4
    simp only [Int.natCast_add, Int.cast_ofNat_Int] at this
    rw [this]
    rfl

theorem countChanges_block (x : Nat) (p : α) (g rest : List α) (hg : ∀ q ∈ g, xid q = xid p) :
    countChanges xid x ((p :: g) ++ rest) =
      countChanges xid (xid p) rest + (if x ≠ xid p then 1 else 0) := by
  -- inside the block nothing changes
  have same : ∀ g : List α, (∀ q ∈ g, xid q = xid p) →
      countChanges xid (xid p) (g ++ rest) = countChanges xid (xid p) rest := by
    intro g hg
    induction g with
    | nil => rfl
    | cons q g ih =>
      rw [List.cons_append, countChanges, if_neg (fun h => h (hg q List.mem_cons_self).symm),
        ih (fun r hr => hg r (List.mem_cons_of_mem _ hr))]
  rw [List.cons_append, countChanges]
  by_cases hx : x = xid p
  · rw [if_neg (fun h => h hx), if_neg (fun h => h hx), hx, same g hg]; rfl
  · rw [if_pos hx, if_pos hx, same g hg]

theorem countChanges_runs (x : Nat) (gs : List (List α)) (h : GoodRuns xid (some x) gs) :
    countChanges xid x gs.flatten = gs.length := by
  induction gs generalizing x with
  | nil => simp [countChanges]
  | cons g gs ih =>
    obtain ⟨p, g', rfl, h2, h3, h4⟩ := h
    have hne : x ≠ xid p := by intro e; apply h3; rw [e]
    simp only [List.flatten_cons, List.length_cons]
    rw [countChanges_block xid x p g' gs.flatten h2, ih (xid p) h4]
    simp [hne]

/-- truncate_xacts::flush keeps the transactions whose index passes `truncPrint`,
    `l` being their number. -/
theorem truncFlush_eq_selRuns (posts : List α) :
    truncFlush xid head tail posts =
      selRuns (fun j => truncPrint head tail ((runs xid posts).length : Nat) (j : Int)) 0 (runs xid posts) := by
  cases posts with
  | nil => simp [truncFlush, runs, selRuns]
  | cons p0 ps =>
    have hgood := runs_good xid (p0 :: ps)
    have hflat := runs_flatten xid (p0 :: ps)
    obtain ⟨g, gs, hr⟩ := runs_cons_head xid p0 ps
    rw [hr] at hgood hflat ⊢
    obtain ⟨p, g', h1, h2, _, h4⟩ := hgood
    cases h1
    simp only [truncFlush]
    have hcount : countChanges xid (xid p0) (p0 :: ps) = gs.length := by
      rw [← hflat, List.flatten_cons, countChanges_block xid (xid p0) p0 g gs.flatten h2,
        countChanges_runs xid (xid p0) gs h4]
      simp
    rw [hcount]
    conv => lhs; rw [← hflat]
    simp only [List.flatten_cons]
    rw [flushGo_block xid head tail _ (xid p0) 0 p0 g gs.flatten h2]
    simp only [ne_eq, not_true_eq_false, if_false]
    have := flushGo_runs xid head tail ((gs.length : Nat) + 1 : Int) (xid p0) 0 gs h4
    simp only [Int.natCast_zero, Nat.zero_add] at this
    rw [this]
    simp only [selRuns, List.length_cons, Int.natCast_add, Int.natCast_one, Int.natCast_zero, Nat.zero_add]

theorem runs_length_cons_cons (a b : α) (l : List α) :
    (runs xid (a :: b :: l)).length = (runs xid (b :: l)).length + (if xid a = xid b then 0 else 1) := by
  obtain ⟨g, gs, h⟩ := runs_cons_head xid b l
  show (consRun xid a (runs xid (b :: l))).length = _
  rw [h, consRun]
  split <;> rfl

/-- appending one posting opens a new transaction exactly when its `xact` differs from the last one's -/
theorem runs_length_snoc (pre : List α) (p : α) :
    (runs xid (pre ++ [p])).length =
      if pre.getLast?.map xid = some (xid p) then (runs xid pre).length else (runs xid pre).length + 1 := by
  induction pre with
  | nil => rfl
  | cons a A ih =>
    cases A with
    | nil =>
      rw [List.singleton_append, runs_length_cons_cons]
      simp only [List.getLast?_singleton, Option.map_some, Option.some.injEq]
      split <;> rfl
    | cons b B =>
      rw [List.cons_append, List.cons_append, runs_length_cons_cons, runs_length_cons_cons, ← List.cons_append, ih,
        List.getLast?_cons_cons]
      by_cases c : (b :: B).getLast?.map xid = some (xid p)
      · rw [if_pos c, if_pos c]
      · rw [if_neg c, if_neg c, Nat.add_right_comm]
theorem truncRun_completed (st : TruncState α) (rest : List α) (h : st.completed = true) :
    truncRun xid head tail st rest = st.out ++ truncFlush xid head tail st.posts := by
  induction rest with
  | nil => rfl
  | cons p rest ih => simp only [truncRun, truncStep, h, if_true]; exact ih

theorem truncRun_noStop (hns : ¬ (tail = 0 ∧ head > 0)) (st : TruncState α) (rest : List α)
    (h : st.completed = false) :
    truncRun xid head tail st rest = st.out ++ truncFlush xid head tail (st.posts ++ rest) := by
  induction rest generalizing st with
  | nil => simp [truncRun]
  | cons p rest ih =>
    simp only [truncRun]
    have hstep : truncStep xid head tail st p =
        { completed := false, posts := st.posts ++ [p],
          xactsSeen := (if st.lastXact ≠ some (xid p) then (if st.lastXact.isSome then st.xactsSeen + 1 else st.xactsSeen)
                        else st.xactsSeen),
          lastXact := some (xid p), out := st.out } := by
      unfold truncStep
      simp only [h, Bool.false_eq_true, if_false]
      rw [if_neg (by intro hh; exact hns ⟨hh.1, hh.2.1⟩)]
    rw [hstep, ih _ rfl]
    simp

/-- without the early stop the handler is its final flush -/
theorem truncate_eq_flush (hns : ¬ (tail = 0 ∧ head > 0)) (posts : List α) :
    truncate xid head tail posts = truncFlush xid head tail posts := by
  unfold truncate
  rw [truncRun_noStop xid head tail hns _ _ rfl]
  simp [TruncState.init]

/-- the window of truncate_xacts::flush, over the comparison operators read from the source -/
theorem truncPrint_iff (h t l i : Int) :
    truncPrint h t l i = true ↔
      (h > 0 ∧ i < h) ∨ (h < 0 ∧ i ≥ -h) ∨ (t > 0 ∧ l - i ≤ t) ∨ (t < 0 ∧ l - i > -t) := by
  -- flush's tests of `head_count`, `tail_count` for non-zero are implied by the sign tests inside
  have nz : ∀ (n : Int) (P Q : Prop), n ≠ 0 ∧ (n > 0 ∧ P ∨ n < 0 ∧ Q) ↔ n > 0 ∧ P ∨ n < 0 ∧ Q :=
    fun n P Q => ⟨fun h => h.2, fun h => ⟨h.elim (fun h => Int.ne_of_gt h.1) (fun h => Int.ne_of_lt h.1), h⟩⟩
  simp only [truncPrint, Gen.Regroup.truncHeadPos, Gen.Regroup.truncHeadNeg, Gen.Regroup.truncTailPos,
    Gen.Regroup.truncTailNeg, Gen.Regroup.Cmp.eval, decide_eq_true_eq, Bool.if_true_left, Bool.if_false_right,
    Bool.or_eq_true, Bool.and_eq_true, and_true, nz, or_assoc]

theorem truncPrint_eq_false_iff (h t l i : Int) :
    truncPrint h t l i = false ↔
      ¬ ((h > 0 ∧ i < h) ∨ (h < 0 ∧ i ≥ -h) ∨ (t > 0 ∧ l - i ≤ t) ∨ (t < 0 ∧ l - i > -t)) := by
  rw [← truncPrint_iff, Bool.not_eq_true]

/-- the window for counts that are not negative -/
theorem truncPrint_natCast (N M l j : Nat) :
    truncPrint (N : Int) (M : Int) (l : Nat) (j : Nat) = true ↔ j < N ∨ (0 < M ∧ l ≤ j + M) := by
  rw [truncPrint_iff]; omega

theorem truncFlush_head (N : Nat) (posts : List α) :
    truncFlush xid (N : Int) 0 posts = ((runs xid posts).take N).flatten := by
  -- the window never opens again: `b` is taken past the end
  rw [truncFlush_eq_selRuns, selRuns_window _ N (max N (runs xid posts).length) (Nat.le_max_left _ _),
    List.drop_eq_nil_of_le (Nat.le_max_right _ _), List.append_nil]
  · intro j hj
    exact (truncPrint_natCast N 0 _ j).mpr (.inl hj)
  · intro j hj _
    rw [Bool.eq_false_iff]
    intro h
    rcases (truncPrint_natCast N 0 _ j).mp h with h | ⟨h, _⟩
    · exact Nat.not_lt.mpr hj h
    · exact Nat.lt_irrefl 0 h
  · intro j hj hl
    exact absurd hl (Nat.not_lt.mpr (Nat.le_trans (Nat.le_max_right _ _) hj))

theorem runs_length_pos (l : List α) (h : l ≠ []) : 0 < (runs xid l).length := by
  cases l with
  | nil => exact absurd rfl h
  | cons p ps =>
    obtain ⟨g, gs, h⟩ := runs_cons_head xid p ps
    rw [h]; simp

/-- state of the handler after the postings `pre` when it has not stopped -/
def truncSeen (pre : List α) : TruncState α :=
  { completed := false, posts := pre, xactsSeen := (runs xid pre).length - 1, lastXact := pre.getLast?.map xid,
    out := [] }

/-- under `--head N` alone the handler goes on while no more than `N` transactions have begun, and flushes when
    the next one begins -/
theorem truncStep_seen (N : Nat) (hN : 0 < N) (pre : List α) (p : α) :
    truncStep xid (N : Int) 0 (truncSeen xid pre) p =
      if (runs xid (pre ++ [p])).length ≤ N then truncSeen xid (pre ++ [p])
      else { completed := true, posts := [], xactsSeen := (runs xid (pre ++ [p])).length - 1,
             lastXact := some (xid p), out := truncFlush xid (N : Int) 0 pre } := by
  have hpos := runs_length_pos xid (pre ++ [p]) (List.concat_ne_nil p pre)
  -- `xacts_seen` after the step counts the transactions begun so far but one
  have hseen : (if (truncSeen xid pre).lastXact ≠ some (xid p) then
        (if (truncSeen xid pre).lastXact.isSome then (truncSeen xid pre).xactsSeen + 1 else (truncSeen xid pre).xactsSeen)
      else (truncSeen xid pre).xactsSeen) = (runs xid (pre ++ [p])).length - 1 := by
    show (if pre.getLast?.map xid ≠ some (xid p) then
        (if (pre.getLast?.map xid).isSome then (runs xid pre).length - 1 + 1 else (runs xid pre).length - 1)
      else (runs xid pre).length - 1) = _
    rw [runs_length_snoc]
    cases pre with
    | nil => rfl
    | cons a A =>
      rw [show ((a :: A).getLast?.map xid).isSome = true from rfl, if_pos rfl]
      by_cases h : (a :: A).getLast?.map xid = some (xid p)
      · rw [if_neg (not_not_intro h), if_pos h]
      · rw [if_pos h, if_neg h, Nat.sub_add_cancel (runs_length_pos xid (a :: A) (cons_ne_nil a A)),
          Nat.add_sub_cancel]
  -- the early stop fires when `p` begins transaction `N + 1`
  have hstop : ((0 : Int) = 0 ∧ (N : Int) > 0 ∧
      Gen.Regroup.truncEarlyStop.eval (((runs xid (pre ++ [p])).length - 1 : Nat) : Int) (N : Int) = true) ↔
      ¬ (runs xid (pre ++ [p])).length ≤ N := by
    rw [Nat.not_le, ← Nat.le_sub_one_iff_lt hpos, ← Int.ofNat_le]
    exact ⟨fun h => of_decide_eq_true h.2.2, fun h => ⟨rfl, Int.natCast_pos.mpr hN, decide_eq_true h⟩⟩
  unfold truncStep
  rw [if_neg (c := (truncSeen xid pre).completed = true) Bool.false_ne_true, hseen]
  by_cases hle : (runs xid (pre ++ [p])).length ≤ N
  · rw [if_pos hle, if_neg (fun h => hstop.mp h hle)]
    show _ = TruncState.mk _ _ _ _ _
    rw [List.getLast?_concat]; rfl
  · rw [if_neg hle, if_pos (hstop.mpr hle)]
    rfl

/-- `--head N` alone: from the state `truncSeen pre`, with at most `N` transactions begun in `pre`, feeding `rest`
    yields the first `N` transactions of `pre ++ rest`, whether the early stop fires or the final flush runs -/
theorem truncRun_head (N : Nat) (hN : 0 < N) (rest : List α) :
    ∀ pre : List α, (runs xid pre).length ≤ N →
      truncRun xid (N : Int) 0 (truncSeen xid pre) rest = ((runs xid (pre ++ rest)).take N).flatten := by
  induction rest with
  | nil =>
    intro pre _
    rw [List.append_nil]
    exact truncFlush_head xid N pre
  | cons p rest ih =>
    intro pre hpre
    rw [truncRun, truncStep_seen xid N hN]
    split
    · rename_i hle
      rw [ih _ hle, List.append_assoc, List.singleton_append]
    · -- a new transaction begins with `p`, the `N + 1`st: what follows is not looked at
      rename_i hgt
      have hsnoc := runs_length_snoc xid pre p
      have hne : pre.getLast?.map xid ≠ some (xid p) := by
        intro e; rw [if_pos e] at hsnoc; exact hgt (hsnoc ▸ hpre)
      rw [if_neg hne] at hsnoc
      rw [hsnoc] at hgt
      have hb : runs xid (pre ++ p :: rest) = runs xid pre ++ runs xid (p :: rest) := by
        apply runs_append_boundary
        intro a ha b hb e
        rw [ha, Option.some.inj hb, Option.map_some, e] at hne
        exact hne rfl
      rw [truncRun_completed _ _ _ _ _ rfl, hb, List.take_append_of_le_length (Nat.le_of_lt_succ (Nat.not_le.mp hgt))]
      show truncFlush xid (N : Int) 0 pre ++ truncFlush xid (N : Int) 0 [] = _
      rw [truncFlush_head, truncFlush, List.append_nil]

theorem truncate_head_eq (N : Nat) (posts : List α) :
    truncate xid (N : Int) 0 posts = ((runs xid posts).take N).flatten := by
  by_cases hN : N = 0
  · subst hN
    rw [truncate_eq_flush xid _ _ (by simp)]
    exact truncFlush_head xid 0 posts
  · exact truncRun_head xid N (by omega) posts [] (Nat.zero_le _)

/-- For every pair of counts the handler (state machine, early stop, flush) keeps the
    transactions whose index passes the window of flush. -/
theorem truncate_eq_selRuns (rows : List α) :
    truncate xid head tail rows =
      selRuns (fun j => truncPrint head tail ((runs xid rows).length : Nat) (j : Int)) 0 (runs xid rows) := by
  by_cases hs : tail = 0 ∧ head > 0
  · obtain ⟨ht, hh⟩ := hs
    subst ht
    have hN : head = ((head.toNat : Nat) : Int) := by omega
    rw [hN, truncate_head_eq, ← truncFlush_head, truncFlush_eq_selRuns]
  · rw [truncate_eq_flush xid head tail hs, truncFlush_eq_selRuns]

/-- the handler keeps the first `a` and all but the first `b` transactions when the window of flush holds
    below `a`, fails from `a` to `b` and holds from `b` on -/
theorem truncate_window_eq (a b : Nat) (hab : a ≤ b) (rows : List α)
    (h1 : ∀ j : Nat, j < a → truncPrint head tail ((runs xid rows).length : Nat) j = true)
    (h2 : ∀ j : Nat, a ≤ j → j < b → truncPrint head tail ((runs xid rows).length : Nat) j = false)
    (h3 : ∀ j : Nat, b ≤ j → j < (runs xid rows).length → truncPrint head tail ((runs xid rows).length : Nat) j = true) :
    truncate xid head tail rows = ((runs xid rows).take a ++ (runs xid rows).drop b).flatten := by
  rw [truncate_eq_selRuns]
  exact selRuns_window _ a b hab _ h1 h2 h3

theorem truncate_head_tail_eq (N M : Nat) (rows : List α) :
    truncate xid (N : Int) (M : Int) rows =
      ((runs xid rows).take N ++ (runs xid rows).drop (max N ((runs xid rows).length - M))).flatten := by
  apply truncate_window_eq xid (N : Int) (M : Int) N _ (Nat.le_max_left _ _)
  · intro j hj
    exact (truncPrint_natCast ..).mpr (.inl hj)
  · intro j hj hb
    rw [Bool.eq_false_iff, ne_eq, truncPrint_natCast]
    rintro (h | ⟨_, h⟩)
    · exact Nat.not_lt.mpr hj h
    · exact Nat.not_le.mpr hb (Nat.max_le.mpr ⟨hj, Nat.sub_le_iff_le_add.mpr h⟩)
  · intro j hj hl
    have h := Nat.sub_le_iff_le_add.mp (Nat.max_le.mp hj).2
    exact (truncPrint_natCast ..).mpr (.inr ⟨by omega, h⟩)

end Regroup
end Ledger
