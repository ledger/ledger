/-
Helper lemmas behind Props/C17 (regrouping part): denotation of accumulated
values and running totals, association maps, and keyed accumulation in such a
map as a fold per key.
-/
import LedgerModel.Model.Regroup
import LedgerModel.Props.C03

namespace Ledger
namespace Regroup

open List

/-- an integer, an amount or a balance -/
def isQty : Value → Bool
  | .int _ => true
  | .amt _ => true
  | .bal _ => true
  | _ => false

/-- null or a quantity: what an accumulator holds -/
def isAcc : Value → Bool
  | .void => true
  | v => isQty v

theorem isAcc_of_isQty {v : Value} (h : isQty v = true) : isAcc v = true := by
  cases v <;> simp_all [isAcc, isQty]

theorem isQty_eq_isNum (v : Value) : isQty v = v.isNum := by
  cases v <;> rfl

theorem add_ok (a b : Value) (ha : isAcc a = true) (hb : isQty b = true) :
    ∃ r, Value.add a b = .ok r ∧ isQty r = true := by
  have ha' : a.isNum = true ∨ a = .void := by
    cases a with
    | void => exact Or.inr rfl
    | _ => exact Or.inl ((isQty_eq_isNum _).symm.trans ha)
  obtain ⟨r, hr, hn⟩ := C03.add_total a b ha' ((isQty_eq_isNum b).symm.trans hb)
  exact ⟨r, hr, (isQty_eq_isNum r).trans hn⟩

theorem vplus_isQty (a b : Value) (ha : isAcc a = true) (hb : isQty b = true) : isQty (vplus a b) = true := by
  obtain ⟨r, hr, hq⟩ := add_ok a b ha hb
  simp [vplus, hr, hq]

theorem vplus_den (a b : Value) (ha : isAcc a = true) (hb : isQty b = true) (c : Comm) :
    (vplus a b).den c = a.den c + b.den c := by
  obtain ⟨r, hr, _⟩ := add_ok a b ha hb
  have := C03.add_den a b r hr c
  simp [vplus, hr, this]

/-- weighted sum over a posting list -/
def wsum (w : RPost → Rat) : List RPost → Rat
  | [] => 0
  | p :: ps => w p + wsum w ps

/-- per-commodity sum of a valuation `v` over a posting list -/
def sumDenBy (v : RPost → Value) (ps : List RPost) (c : Comm) : Rat := wsum (fun p => (v p).den c) ps

/-- per-commodity sum of the values (what the register shows as amount) of a posting list -/
def sumDen (ps : List RPost) (c : Comm) : Rat := sumDenBy (fun p => p.value) ps c

theorem wsum_append (w : RPost → Rat) (a b : List RPost) : wsum w (a ++ b) = wsum w a + wsum w b := by
  induction a with
  | nil => exact (Rat.zero_add _).symm
  | cons p ps ih => rw [List.cons_append, wsum, ih, wsum, Rat.add_assoc]

theorem wsum_flatten (w : RPost → Rat) (gs : List (List RPost)) :
    wsum w gs.flatten = (gs.map (wsum w)).foldr (· + ·) 0 := by
  induction gs with
  | nil => rfl
  | cons g gs ih => simp only [List.flatten_cons, wsum_append, ih, List.map_cons, List.foldr_cons]

theorem wsum_filter_split (w : RPost → Rat) (q : RPost → Bool) (ps : List RPost) :
    wsum w ps = wsum w (ps.filter q) + wsum w (ps.filter (fun p => !q p)) := by
  induction ps with
  | nil => exact (Rat.add_zero _).symm
  | cons p ps ih =>
    rw [wsum, ih, List.filter_cons, List.filter_cons]
    cases q p
    · exact Rat.add_left_comm _ _ _
    · exact (Rat.add_assoc _ _ _).symm

theorem wsum_perm (w : RPost → Rat) {a b : List RPost} (h : a.Perm b) : wsum w a = wsum w b := by
  induction h with
  | nil => rfl
  | cons x _ ih => simp only [wsum, ih]
  | swap x y l => exact Rat.add_left_comm _ _ _
  | trans _ _ ih1 ih2 => exact ih1.trans ih2

theorem wsum_congr {w w' : RPost → Rat} {ps : List RPost} (h : ∀ p ∈ ps, w p = w' p) : wsum w ps = wsum w' ps := by
  induction ps with
  | nil => rfl
  | cons p ps ih => rw [wsum, wsum, h p List.mem_cons_self, ih (fun q hq => h q (List.mem_cons_of_mem _ hq))]

/-- every posting value is a quantity -/
def AllQty (ps : List RPost) : Prop := ∀ p ∈ ps, isQty p.value = true

/-- a posting of the plain register belongs to its transaction and is valued at its own single amount -/
theorem mem_xactPosts {f : Filter} {x : Xact} {p : RPost} (h : p ∈ xactPosts f x) :
    p.xid = x.line ∧ ∃ a, p.amount = .amt a ∧ p.value = .amt a := by
  obtain ⟨q, _, hq⟩ := List.mem_filterMap.mp h
  split at hq
  · split at hq
    · cases hq; exact ⟨rfl, _, rfl, rfl⟩
    · cases hq
  · cases hq

theorem foldl_vplus_den (ps : List RPost) (hq : AllQty ps) (v : Value) (hv : isAcc v = true) (c : Comm) :
    (ps.foldl (fun v p => vplus v p.value) v).den c = v.den c + sumDen ps c ∧
    isAcc (ps.foldl (fun v p => vplus v p.value) v) = true := by
  induction ps generalizing v with
  | nil => exact ⟨(Rat.add_zero _).symm, hv⟩
  | cons p ps ih =>
    have hp : isQty p.value = true := hq p List.mem_cons_self
    obtain ⟨h1, h2⟩ := ih (fun r hr => hq r (List.mem_cons_of_mem _ hr)) (vplus v p.value)
      (isAcc_of_isQty (vplus_isQty v p.value hv hp))
    exact ⟨by rw [List.foldl_cons, h1, vplus_den v p.value hv hp c, Rat.add_assoc]; rfl, h2⟩

theorem sumValue_den (ps : List RPost) (hq : AllQty ps) (c : Comm) : (sumValue ps).den c = sumDen ps c :=
  ((foldl_vplus_den ps hq .void rfl c).1).trans (Rat.zero_add _)

theorem runTotals_fst (t : Value) (ps : List RPost) : (runTotals t ps).map (·.1) = ps := by
  induction ps generalizing t with
  | nil => rfl
  | cons p ps ih => simp [runTotals, ih]

theorem runTotals_getElem? (t : Value) (ps : List RPost) (k : Nat) :
    (runTotals t ps)[k]? = ps[k]?.map (fun p => (p, (ps.take (k + 1)).foldl (fun v p => vplus v p.value) t)) := by
  induction ps generalizing t k with
  | nil => rfl
  | cons p ps ih =>
    cases k with
    | zero => rfl
    | succ k => rw [runTotals, List.getElem?_cons_succ, ih]; rfl

/-- the running total printed on row `k` is the sum of the amounts of rows `0..k` -/
theorem runTotals_den (t : Value) (ht : isAcc t = true) (ps : List RPost) (hq : AllQty ps) (c : Comm)
    (k : Nat) (r : RPost × Value) (hr : (runTotals t ps)[k]? = some r) :
    r.2.den c = t.den c + sumDen (ps.take (k + 1)) c := by
  rw [runTotals_getElem?] at hr
  obtain ⟨p, _, rfl⟩ := Option.map_eq_some_iff.mp hr
  exact (foldl_vplus_den _ (fun q hq' => hq q (List.mem_of_mem_take hq')) t ht c).1

namespace AMap

variable {V : Type}

theorem get?_none_iff (m : AMap V) (k : String) : m.get? k = none ↔ k ∉ amapKeys m := by
  induction m with
  | nil => simp [AMap.get?, amapKeys]
  | cons e m ih =>
    obtain ⟨k', v⟩ := e
    simp only [AMap.get?, amapKeys, List.map_cons, List.mem_cons, not_or]
    by_cases h : k = k'
    · simp [h]
    · simp only [h, if_false, not_false_eq_true, true_and]; exact ih

theorem get?_mem {m : AMap V} {k : String} {v : V} (h : m.get? k = some v) : (k, v) ∈ m := by
  induction m with
  | nil => simp [AMap.get?] at h
  | cons e m ih =>
    obtain ⟨k', v'⟩ := e
    simp only [AMap.get?] at h
    by_cases hk : k = k'
    · simp only [hk, if_true, Option.some.injEq] at h; subst h; subst hk; simp
    · simp only [hk, if_false] at h; exact List.mem_cons_of_mem _ (ih h)

theorem mem_get? {m : AMap V} (hn : (amapKeys m).Nodup) {k : String} {v : V} (h : (k, v) ∈ m) :
    m.get? k = some v := by
  induction m with
  | nil => simp at h
  | cons e m ih =>
    obtain ⟨k', v'⟩ := e
    simp only [amapKeys, List.map_cons, List.nodup_cons] at hn
    simp only [AMap.get?]
    rcases List.mem_cons.mp h with he | hm
    · cases he; simp
    · have hk : k ≠ k' := by
        intro e; subst e
        exact hn.1 (List.mem_map.mpr ⟨(k, v), hm, rfl⟩)
      simp only [hk, if_false]; exact ih hn.2 hm

theorem mem_keys_of_get? {m : AMap V} {k : String} {v : V} (h : m.get? k = some v) : k ∈ amapKeys m := by
  have := get?_mem h
  exact List.mem_map.mpr ⟨(k, v), this, rfl⟩

theorem get?_insertSorted_same (m : AMap V) (k : String) (v : V) (h : m.get? k = none) :
    (m.insertSorted k v).get? k = some v := by
  induction m with
  | nil => simp [AMap.insertSorted, AMap.get?]
  | cons e m ih =>
    obtain ⟨k', v'⟩ := e
    simp only [AMap.get?] at h
    by_cases hk : k = k'
    · simp [hk] at h
    · simp only [hk, if_false] at h
      simp only [AMap.insertSorted]
      split
      · simp [AMap.get?]
      · simp only [AMap.get?, hk, if_false]; exact ih h

theorem get?_insertSorted_other (m : AMap V) (k k' : String) (v : V) (h : k' ≠ k) :
    (m.insertSorted k v).get? k' = m.get? k' := by
  induction m with
  | nil => simp [AMap.insertSorted, AMap.get?, h]
  | cons e m ih =>
    obtain ⟨k'', v''⟩ := e
    simp only [AMap.insertSorted]
    split
    · simp [AMap.get?, h]
    · simp only [AMap.get?, ih]

theorem keys_insertSorted (m : AMap V) (k : String) (v : V) :
    (amapKeys (m.insertSorted k v)).Perm (k :: amapKeys m) := by
  induction m with
  | nil => simp [AMap.insertSorted, amapKeys]
  | cons e m ih =>
    obtain ⟨k', v'⟩ := e
    simp only [AMap.insertSorted]
    split
    · simp [amapKeys]
    · simp only [amapKeys, List.map_cons] at ih ⊢
      exact (List.Perm.cons k' ih).trans (List.Perm.swap k k' _)

/-- in-place update of the entry with key `k` -/
def setAt (k : String) (v' : V) (m : AMap V) : AMap V := m.map (fun e => if e.1 = k then (e.1, v') else e)

theorem keys_setAt (m : AMap V) (k : String) (v' : V) : amapKeys (setAt k v' m) = amapKeys m := by
  induction m with
  | nil => rfl
  | cons e m ih =>
    simp only [amapKeys, setAt, List.map_cons, List.map_map] at ih ⊢
    split <;> simp [ih]

theorem get?_setAt_same (m : AMap V) (k : String) (v v' : V) (h : m.get? k = some v) :
    (setAt k v' m).get? k = some v' := by
  induction m with
  | nil => simp [AMap.get?] at h
  | cons e m ih =>
    obtain ⟨k', v''⟩ := e
    simp only [AMap.get?] at h
    by_cases hk : k = k'
    · subst hk; simp [setAt, AMap.get?]
    · simp only [hk, if_false] at h
      have hk' : ¬ k' = k := fun e => hk e.symm
      simp only [setAt, List.map_cons, hk', if_false, AMap.get?, hk]
      exact ih h

theorem get?_setAt_other (m : AMap V) (k k' : String) (v' : V) (h : k' ≠ k) :
    (setAt k v' m).get? k' = m.get? k' := by
  induction m with
  | nil => rfl
  | cons e m ih =>
    obtain ⟨k'', v''⟩ := e
    simp only [setAt, List.map_cons] at ih ⊢
    by_cases hk : k'' = k
    · subst hk; simp only [if_true, AMap.get?, h, if_false]; exact ih
    · simp only [hk, if_false, AMap.get?, ih]

theorem upd_some (m : AMap V) (k : String) (f : Option V → V) (v : V) (h : m.get? k = some v) :
    m.upd k f = setAt k (f (some v)) m := by
  simp [AMap.upd, h, setAt]

theorem upd_none (m : AMap V) (k : String) (f : Option V → V) (h : m.get? k = none) :
    m.upd k f = m.insertSorted k (f none) := by
  simp [AMap.upd, h]

theorem get?_upd_same (m : AMap V) (k : String) (f : Option V → V) :
    (m.upd k f).get? k = some (f (m.get? k)) := by
  cases h : m.get? k with
  | none => rw [upd_none m k f h]; exact get?_insertSorted_same m k _ h
  | some v => rw [upd_some m k f v h]; exact get?_setAt_same m k v _ h

theorem get?_upd_other (m : AMap V) (k k' : String) (f : Option V → V) (hk : k' ≠ k) :
    (m.upd k f).get? k' = m.get? k' := by
  cases h : m.get? k with
  | none => rw [upd_none m k f h]; exact get?_insertSorted_other m k k' _ hk
  | some v => rw [upd_some m k f v h]; exact get?_setAt_other m k k' _ hk

theorem keys_upd_nodup (m : AMap V) (k : String) (f : Option V → V) (hn : (amapKeys m).Nodup) :
    (amapKeys (m.upd k f)).Nodup := by
  cases h : m.get? k with
  | none =>
    rw [upd_none m k f h]
    have hk := (get?_none_iff m k).mp h
    exact (keys_insertSorted m k _).nodup_iff.mpr (List.nodup_cons.mpr ⟨hk, hn⟩)
  | some v => rw [upd_some m k f v h, keys_setAt]; exact hn

theorem mem_keys_upd (m : AMap V) (k k' : String) (f : Option V → V) :
    k' ∈ amapKeys (m.upd k f) ↔ k' = k ∨ k' ∈ amapKeys m := by
  cases h : m.get? k with
  | none =>
    rw [upd_none m k f h, (keys_insertSorted m k _).mem_iff]; simp
  | some v =>
    rw [upd_some m k f v h, keys_setAt]
    constructor
    · exact Or.inr
    · rintro (e | e)
      · subst e; exact mem_keys_of_get? h
      · exact e

end AMap

def accum {V : Type} (key : RPost → String) (step : Option V → RPost → V) (m : AMap V) (ps : List RPost) : AMap V :=
  ps.foldl (fun m p => m.upd (key p) (fun o => step o p)) m

/-- the entry of key `k` is the fold of `step` over the postings with that key -/
theorem get?_accum {V : Type} (key : RPost → String) (step : Option V → RPost → V) (m : AMap V) (ps : List RPost)
    (k : String) :
    (accum key step m ps).get? k =
      (ps.filter (fun p => key p = k)).foldl (fun o p => some (step o p)) (m.get? k) := by
  induction ps generalizing m with
  | nil => rfl
  | cons p ps ih =>
    simp only [accum, List.foldl_cons, List.filter_cons] at ih ⊢
    rw [ih]
    by_cases h : key p = k
    · subst h; simp only [decide_true, if_true, List.foldl_cons, AMap.get?_upd_same]
    · have h' : k ≠ key p := fun e => h e.symm
      simp only [h, decide_false, Bool.false_eq_true, if_false, AMap.get?_upd_other m (key p) k _ h']

theorem or_exists_mem_cons {β : Type} (key : β → String) (k : String) (K : Prop) (p : β) (ps : List β) :
    ((k = key p ∨ K) ∨ ∃ q ∈ ps, key q = k) ↔ (K ∨ ∃ q ∈ p :: ps, key q = k) := by
  constructor
  · rintro ((e | e) | ⟨q, hq, e⟩)
    · exact Or.inr ⟨p, by simp, e.symm⟩
    · exact Or.inl e
    · exact Or.inr ⟨q, by simp [hq], e⟩
  · rintro (e | ⟨q, hq, e⟩)
    · exact Or.inl (Or.inr e)
    · rcases List.mem_cons.mp hq with rfl | hq
      · exact Or.inl (Or.inl e.symm)
      · exact Or.inr ⟨q, hq, e⟩

theorem mem_keys_accum {V : Type} (key : RPost → String) (step : Option V → RPost → V) (m : AMap V) (ps : List RPost)
    (k : String) : k ∈ amapKeys (accum key step m ps) ↔ k ∈ amapKeys m ∨ ∃ p ∈ ps, key p = k := by
  induction ps generalizing m with
  | nil => simp [accum]
  | cons p ps ih =>
    rw [← or_exists_mem_cons, ← AMap.mem_keys_upd m (key p) k (fun o => step o p)]
    exact ih _

theorem keys_accum_nodup {V : Type} (key : RPost → String) (step : Option V → RPost → V) (m : AMap V) (ps : List RPost)
    (hn : (amapKeys m).Nodup) : (amapKeys (accum key step m ps)).Nodup := by
  induction ps generalizing m with
  | nil => exact hn
  | cons p ps ih => exact ih _ (AMap.keys_upd_nodup m _ _ hn)

/-- the accumulation step adds the weight `w c p` to each measure `μ c` (one per commodity) and keeps the
    entries well-formed -/
structure StepOK {V : Type} (ok : V → Prop) (good : RPost → Prop) (μ : Comm → V → Rat) (w : Comm → RPost → Rat)
    (step : Option V → RPost → V) : Prop where
  none : ∀ p, good p → ok (step none p) ∧ ∀ c, μ c (step none p) = w c p
  some : ∀ v p, ok v → good p → ok (step (some v) p) ∧ ∀ c, μ c (step (some v) p) = μ c v + w c p

theorem foldl_stepOK_some {V : Type} {ok : V → Prop} {good : RPost → Prop} {μ : Comm → V → Rat}
    {w : Comm → RPost → Rat} {step : Option V → RPost → V} (hs : StepOK ok good μ w step)
    (ps : List RPost) (hg : ∀ p ∈ ps, good p) (v : V) (hv : ok v) :
    ∃ v', ps.foldl (fun o p => some (step o p)) (some v) = some v' ∧ ok v' ∧
      ∀ c, μ c v' = μ c v + wsum (w c) ps := by
  induction ps generalizing v with
  | nil => exact ⟨v, rfl, hv, fun c => (Rat.add_zero _).symm⟩
  | cons p ps ih =>
    obtain ⟨h1, h2⟩ := hs.some v p hv (hg p List.mem_cons_self)
    obtain ⟨v', e, hok, hμ⟩ := ih (fun q hq => hg q (List.mem_cons_of_mem _ hq)) _ h1
    exact ⟨v', e, hok, fun c => by rw [hμ c, h2 c, wsum, Rat.add_assoc]⟩

/-- an entry of the accumulated map is well-formed and measures the postings of its key -/
theorem mem_accum_stepOK {V : Type} {ok : V → Prop} {good : RPost → Prop} {μ : Comm → V → Rat}
    {w : Comm → RPost → Rat} {step : Option V → RPost → V} (hs : StepOK ok good μ w step) (key : RPost → String)
    (ps : List RPost) (hg : ∀ p ∈ ps, good p) {e : String × V} (he : e ∈ accum key step [] ps) :
    ok e.2 ∧ ∀ c, μ c e.2 = wsum (w c) (ps.filter (fun p => key p = e.1)) := by
  have hget := AMap.mem_get? (keys_accum_nodup key step [] ps List.nodup_nil) he
  rw [get?_accum] at hget
  cases hf : ps.filter (fun p => key p = e.1) with
  | nil => rw [hf] at hget; cases hget
  | cons q qs =>
    have hgq : ∀ r ∈ q :: qs, good r := fun r hr => hg r (List.mem_filter.mp (hf ▸ hr)).1
    obtain ⟨h1, h2⟩ := hs.none q (hgq q List.mem_cons_self)
    obtain ⟨v', e', hok, hμ⟩ := foldl_stepOK_some hs qs (fun r hr => hgq r (List.mem_cons_of_mem _ hr)) _ h1
    rw [hf] at hget
    cases e'.symm.trans hget
    exact ⟨hok, fun c => by rw [hμ c, h2 c, wsum]⟩

theorem AMap.insertSorted_sorted {V : Type} (m : AMap V) (k : String) (v : V)
    (hs : (amapKeys m).Pairwise (· < ·)) (hk : k ∉ amapKeys m) :
    (amapKeys (m.insertSorted k v)).Pairwise (· < ·) := by
  induction m with
  | nil => simp [AMap.insertSorted, amapKeys]
  | cons e m ih =>
    obtain ⟨k', v'⟩ := e
    simp only [amapKeys, List.map_cons, List.pairwise_cons, List.mem_cons, not_or] at hs hk
    simp only [AMap.insertSorted]
    split
    · rename_i hlt
      simp only [amapKeys, List.map_cons, List.pairwise_cons, List.mem_cons]
      refine ⟨?_, hs.1, hs.2⟩
      rintro x (rfl | hx)
      · exact hlt
      · exact String.lt_trans hlt (hs.1 x hx)
    · rename_i hnlt
      have hlt' : k' < k := by
        by_cases h : k' < k
        · exact h
        · exact absurd (String.le_antisymm (String.not_lt.mp h) (String.not_lt.mp hnlt)) hk.1
      have ih' := ih hs.2 hk.2
      simp only [amapKeys, List.map_cons, List.pairwise_cons]
      refine ⟨?_, ih'⟩
      intro x hx
      have := (AMap.keys_insertSorted m k v).subset hx
      rcases List.mem_cons.mp this with rfl | hx'
      · exact hlt'
      · exact hs.1 x hx'

theorem AMap.upd_sorted {V : Type} (m : AMap V) (k : String) (f : Option V → V)
    (hs : (amapKeys m).Pairwise (· < ·)) : (amapKeys (m.upd k f)).Pairwise (· < ·) := by
  cases h : m.get? k with
  | none =>
    rw [AMap.upd_none m k f h]
    exact AMap.insertSorted_sorted m k _ hs ((AMap.get?_none_iff m k).mp h)
  | some v => rw [AMap.upd_some m k f v h, AMap.keys_setAt]; exact hs

theorem accum_sorted {V : Type} (key : RPost → String) (step : Option V → RPost → V) (ps : List RPost) (m : AMap V)
    (hs : (amapKeys m).Pairwise (· < ·)) : (amapKeys (accum key step m ps)).Pairwise (· < ·) := by
  induction ps generalizing m with
  | nil => exact hs
  | cons p ps ih => exact ih _ (AMap.upd_sorted m _ _ hs)

end Regroup
end Ledger
