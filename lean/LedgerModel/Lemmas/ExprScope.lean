/-
Lemmas for C15.lexical_scope: evaluation of compiled code depends on the
run-time scope only through names that compilation left unresolved, so
re-binding a name that was resolved at the definition site changes nothing.

`noFree B e`: no name of `B` is left unresolved in `e`.  `calcStep_noFree` / `calcF_noFree`:
such a tree evaluates alike in scopes that agree off `B` (`AgreeOff`).  `compile_noFree`: a
source tree (`srcOK`) compiled in a frame that binds all of `B` (`GOK`, `DomOK`) is such a tree.
C15.lexical_scope puts the two together.
-/
import LedgerModel.Lemmas.ExprBasic

namespace Ledger

/-- no parameter of the lambda is named in `B` -/
def paramsOff (B : List String) (p : Expr) : Bool :=
  match paramNames p with
  | some ps => ps.all (fun x => !B.contains x)
  | none => true

/-- No identifier named in `B` occurs in `e` unresolved – neither as a free
    name (op.cc 125-130), nor as a lambda parameter or a use of one (PLUG,
    op.cc 188-189) – anywhere, compiled definitions included. -/
def noFree (B : List String) : Expr → Bool
  | .nil => true
  | .plug => true
  | .val _ => true
  | .ident n d => (if d.isNil || d.isPlug then !B.contains n else true) && noFree B d
  | .scope b => noFree B b
  | .un _ e => noFree B e
  | .bin _ l r => noFree B l && noFree B r
  | .query c a b => noFree B c && noFree B a && noFree B b
  | .cons l r => noFree B l && noFree B r
  | .seq l r => noFree B l && noFree B r
  | .define l r => noFree B l && noFree B r
  | .lambda p b => paramsOff B p && noFree B b
  | .call f a => noFree B f && noFree B a

/-- every definition a lookup can return is free of `B` -/
def ScopeNoFree (B : List String) (σ : Scope) : Prop := ∀ n d, σ.lookup n = some d → noFree B d = true

/-- the two scopes bind every name outside `B` alike -/
def AgreeOff (B : List String) (σ1 σ2 : Scope) : Prop :=
  (∀ n, B.contains n = false → σ1.lookup n = σ2.lookup n) ∧ ScopeNoFree B σ1 ∧ ScopeNoFree B σ2

def ResNoFree (B : List String) (r : Res RVal) : Prop := ∀ x, r = .ok x → noFree B x.toExpr = true

theorem noFree_splitCons {B : List String} : ∀ {a : Expr}, noFree B a = true → ∀ x ∈ splitCons a, noFree B x = true := by
  intro a
  induction a with
  | nil => intro _ x hx; simp [splitCons] at hx
  | cons l r _ ihr =>
    intro h x hx
    simp only [noFree, Bool.and_eq_true] at h
    simp only [splitCons, List.mem_cons] at hx
    rcases hx with rfl | hx
    · exact h.1
    · exact ihr h.2 x hx
  | _ => intro h x hx; simp only [splitCons, List.mem_singleton] at hx; subst hx; exact h

theorem paramNames_noFree {B : List String} {p : Expr} {ps : List String} (h : paramsOff B p = true)
    (hp : paramNames p = some ps) : ∀ x ∈ ps, B.contains x = false := by
  simp only [paramsOff, hp, List.all_eq_true, Bool.not_eq_true'] at h
  exact h

theorem ScopeNoFree.cons {B : List String} {σ : Scope} (hσ : ScopeNoFree B σ) {fr : Frame}
    (hfr : ∀ n d, fr.lookup n = some d → noFree B d = true) : ScopeNoFree B (fr :: σ) := by
  intro n d hd
  rw [Scope.lookup_cons] at hd
  cases hf : fr.lookup n with
  | none => rw [hf] at hd; exact hσ n d hd
  | some d' => rw [hf] at hd; cases hd; exact hfr n _ hf

theorem ScopeNoFree.nil (B : List String) : ScopeNoFree B [] := fun _ _ h => nomatch h

theorem lookup_cons_noFree {B : List String} {p : String} {d : Expr} {fr : Frame} (hd : noFree B d = true)
    (hfr : ∀ n x, fr.lookup n = some x → noFree B x = true) :
    ∀ n x, List.lookup n ((p, d) :: fr) = some x → noFree B x = true := by
  intro n x hx
  simp only [List.lookup] at hx
  split at hx
  · cases hx; exact hd
  · exact hfr n x hx

/-- argument binding: same frames on both sides, every entry free of `B` -/
theorem bindArgs_noFree {B : List String} {ev1 ev2 : Expr → Res RVal}
    (hev : ∀ a, noFree B a = true → ev1 a = ev2 a ∧ ResNoFree B (ev1 a)) :
    ∀ (ps : List String) (as : List Expr), (∀ a ∈ as, noFree B a = true) →
      bindArgs ev1 ps as = bindArgs ev2 ps as ∧
      ∀ fr, bindArgs ev1 ps as = .ok fr → ∀ n d, fr.lookup n = some d → noFree B d = true := by
  intro ps
  induction ps with
  | nil =>
    intro as _
    cases as with
    | nil => exact ⟨rfl, fun fr h n d hd => by cases h; cases hd⟩
    | cons a as => exact ⟨rfl, fun fr h => nomatch h⟩
  | cons p ps ih =>
    intro as has
    cases as with
    | nil =>
      obtain ⟨h1, h2⟩ := ih [] (fun _ h => nomatch h)
      refine ⟨by rw [bindArgs, bindArgs, h1], fun fr h => ?_⟩
      rw [bindArgs] at h
      cases hb : bindArgs ev1 ps [] with
      | error e => rw [hb] at h; cases h
      | ok fr' => rw [hb] at h; cases h; exact lookup_cons_noFree rfl (h2 fr' hb)
    | cons a as =>
      obtain ⟨ha1, ha2⟩ := hev a (has a (List.mem_cons_self ..))
      obtain ⟨h1, h2⟩ := ih as (fun x hx => has x (List.mem_cons_of_mem _ hx))
      rw [bindArgs, bindArgs, ← ha1]
      cases hv : ev1 a with
      | error e => exact ⟨rfl, fun fr h => nomatch h⟩
      | ok v =>
        refine ⟨by rw [h1], fun fr h => ?_⟩
        cases hb : bindArgs ev1 ps as with
        | error e => rw [hb] at h; cases h
        | ok fr' => rw [hb] at h; cases h; exact lookup_cons_noFree (ha2 v hv) (h2 fr' hb)

theorem ResNoFree.error (B : List String) (e : Err) : ResNoFree B (.error e) := fun _ h => nomatch h

/-- two runs that agree so far and then continue alike: the shape of every operator node of calc -/
theorem agree_bind {B : List String} {α : Type} {r1 r2 : Res α} {f1 f2 : α → Res RVal} (hr : r1 = r2)
    (hf : ∀ x, r1 = .ok x → f1 x = f2 x ∧ ResNoFree B (f1 x)) : r1.bind f1 = r2.bind f2 ∧ ResNoFree B (r1.bind f1) := by
  subst hr
  cases r1 with
  | error e => exact ⟨rfl, .error B _⟩
  | ok a => exact hf a rfl

/-- a value carries no names -/
theorem ResNoFree.map {B : List String} {α : Type} {r : Res α} {g : α → RVal} (hg : ∀ a, noFree B (g a).toExpr = true) :
    ResNoFree B (r.map g) := by
  cases r with
  | error e => exact .error B e
  | ok a => intro x hx; cases hx; exact hg a

theorem applyUn_noFree (env : PrecEnv) (B : List String) (op : UnOp) (x : RVal) : ResNoFree B (applyUn env op x) := by
  cases op with
  | not => intro r hr; cases hr; rfl
  | neg =>
    cases x with
    | v y => exact .map (fun _ => rfl)
    | fn l => exact .error B _

theorem applyBin_noFree (env : PrecEnv) (B : List String) (op : BinOp) (x y : RVal) : ResNoFree B (applyBin env op x y) := by
  cases x with
  | fn l => exact .error B _
  | v a =>
    cases y with
    | fn l => exact .error B _
    | v b =>
      cases op with
      | and => exact .error B _
      | or => exact .error B _
      | _ => exact .map (fun _ => rfl)

theorem binRest_noFree (env : PrecEnv) (B : List String) (op : BinOp) (x : RVal) (k : Unit → Res RVal)
    (hx : noFree B x.toExpr = true) (hk : ResNoFree B (k ())) : ResNoFree B (binRest env op x k) := by
  rcases binRest_cases op with rfl | rfl | ho
  · rw [binRest_and]; split; exact hk; intro r hr; cases hr; rfl
  · rw [binRest_or]; split; (intro r hr; cases hr; exact hx); exact hk
  · rw [ho]
    cases k () with
    | error e => exact .error B e
    | ok y => exact applyBin_noFree env B op x y

/-- a call of a value free of `B` with arguments free of `B`: the callee's body runs in
    frames that agree off `B` again -/
theorem callLambda_noFree {B : List String} {rec1 rec2 : Scope → Expr → Res RVal}
    (hrec : ∀ t σ1 σ2, noFree B t = true → AgreeOff B σ1 σ2 → rec1 σ1 t = rec2 σ2 t ∧ ResNoFree B (rec1 σ1 t))
    {σ1 σ2 : Scope} (hσ : AgreeOff B σ1 σ2) {fv : RVal} (hfv : noFree B fv.toExpr = true) {a : Expr} (ha : noFree B a = true) :
    callLambda rec1 σ1 fv a = callLambda rec2 σ2 fv a ∧ ResNoFree B (callLambda rec1 σ1 fv a) := by
  cases fv with
  | v x => exact ⟨rfl, .error B _⟩
  | fn lam =>
    by_cases hl : ∃ p b, lam = .lambda p b
    · obtain ⟨p, b, rfl⟩ := hl
      simp only [RVal.toExpr, noFree, Bool.and_eq_true] at hfv
      rw [callLambda_lambda, callLambda_lambda]
      cases paramNames p with
      | none => exact ⟨rfl, .error B _⟩
      | some ps =>
        obtain ⟨hb1, hb2⟩ := bindArgs_noFree (B := B) (ev1 := rec1 σ1) (ev2 := rec2 σ2)
          (fun a ha => hrec a σ1 σ2 ha hσ) ps (splitCons a) (noFree_splitCons ha)
        refine agree_bind hb1 (fun fr hfr => ?_)
        by_cases hs : ∃ b', b = .scope b'
        · obtain ⟨b', rfl⟩ := hs
          exact hrec b' _ _ hfv.2 ⟨fun n hn => by rw [Scope.lookup_cons, Scope.lookup_cons, hσ.1 n hn],
            hσ.2.1.cons (hb2 fr hfr), hσ.2.2.cons (hb2 fr hfr)⟩
        · have hs' : ∀ b', b ≠ .scope b' := fun b' h => hs ⟨b', h⟩
          rw [callBody_nonscope hs', callBody_nonscope hs']
          exact hrec _ _ _ hfv.2 ⟨fun _ _ => rfl, (ScopeNoFree.nil B).cons (hb2 fr hfr), (ScopeNoFree.nil B).cons (hb2 fr hfr)⟩
    · have hl' : ∀ p x, lam ≠ .lambda p x := fun p x h => hl ⟨p, x, h⟩
      rw [callLambda_nonlambda hl', callLambda_nonlambda hl']
      exact ⟨rfl, .error B _⟩

/-- One level of calc gives the same result in two scopes that differ only in the
    bindings of names `B`, for a tree in which `B` does not occur unresolved. -/
theorem calcStep_noFree (env : PrecEnv) (B : List String) (rec1 rec2 : Scope → Expr → Res RVal)
    (hrec : ∀ t σ1 σ2, noFree B t = true → AgreeOff B σ1 σ2 → rec1 σ1 t = rec2 σ2 t ∧ ResNoFree B (rec1 σ1 t)) :
    ∀ t σ1 σ2, noFree B t = true → AgreeOff B σ1 σ2 →
      calcStep env rec1 σ1 t = calcStep env rec2 σ2 t ∧ ResNoFree B (calcStep env rec1 σ1 t) := by
  intro t
  induction t with
  | nil => intro σ1 σ2 _ _; exact ⟨rfl, .error B _⟩
  | plug => intro σ1 σ2 _ _; exact ⟨rfl, .error B _⟩
  | val v => intro σ1 σ2 _ _; exact ⟨rfl, fun x hx => by cases hx; rfl⟩
  | define l r _ _ => intro σ1 σ2 _ _; exact ⟨rfl, fun x hx => by cases hx; rfl⟩
  | lambda p b _ _ => intro σ1 σ2 ht _; exact ⟨rfl, fun x hx => by cases hx; exact ht⟩
  | ident n d _ =>
    intro σ1 σ2 ht hσ
    rw [calcStep_ident, calcStep_ident]
    simp only [noFree, Bool.and_eq_true] at ht
    cases hd : (d.isNil || d.isPlug) with
    | true =>
      -- unresolved: looked up at run time, and its name is outside `B`
      have hn : B.contains n = false := by simpa [hd] using ht.1
      rw [identDef_unres hd, identDef_unres hd, ← hσ.1 n hn]
      cases hlk : σ1.lookup n with
      | none => exact ⟨rfl, .error B _⟩
      | some d' => exact hrec d' σ1 σ2 (hσ.2.1 n d' hlk) hσ
    | false =>
      rw [identDef_res hd, identDef_res hd]
      exact hrec d σ1 σ2 ht.2 hσ
  | scope b ih => intro σ1 σ2 ht hσ; exact ih σ1 σ2 ht hσ
  | un op e ih =>
    intro σ1 σ2 ht hσ
    rw [calcStep_un, calcStep_un]
    exact agree_bind (ih σ1 σ2 ht hσ).1 (fun x _ => ⟨rfl, applyUn_noFree env B op x⟩)
  | bin op l r ihl ihr =>
    intro σ1 σ2 ht hσ
    simp only [noFree, Bool.and_eq_true] at ht
    obtain ⟨h1, h1'⟩ := ihl σ1 σ2 ht.1 hσ
    obtain ⟨h2, h2'⟩ := ihr σ1 σ2 ht.2 hσ
    rw [calcStep_bin, calcStep_bin]
    exact agree_bind h1 (fun x hx => ⟨by rw [h2], binRest_noFree env B op x _ (h1' x hx) h2'⟩)
  | query c a b ihc iha ihb =>
    intro σ1 σ2 ht hσ
    simp only [noFree, Bool.and_eq_true] at ht
    obtain ⟨h2, h2'⟩ := iha σ1 σ2 ht.1.2 hσ
    obtain ⟨h3, h3'⟩ := ihb σ1 σ2 ht.2 hσ
    rw [calcStep_query, calcStep_query]
    exact agree_bind (ihc σ1 σ2 ht.1.1 hσ).1 (fun x _ => ⟨by rw [h2, h3], by split; exact h2'; exact h3'⟩)
  | seq l r ihl ihr =>
    intro σ1 σ2 ht hσ
    simp only [noFree, Bool.and_eq_true] at ht
    rw [calcStep_seq, calcStep_seq]
    exact agree_bind (ihl σ1 σ2 ht.1 hσ).1 (fun _ _ => ihr σ1 σ2 ht.2 hσ)
  | cons l r ihl _ =>
    intro σ1 σ2 ht hσ
    simp only [noFree, Bool.and_eq_true] at ht
    by_cases hr : r = .nil
    · subst hr; exact ihl σ1 σ2 ht.1 hσ
    · rw [calcStep_cons_nonnil hr, calcStep_cons_nonnil hr]
      exact ⟨rfl, .error B _⟩
  | call f a ihf _ =>
    intro σ1 σ2 ht hσ
    simp only [noFree, Bool.and_eq_true] at ht
    obtain ⟨h1, h1'⟩ := ihf σ1 σ2 ht.1 hσ
    rw [calcStep_call, calcStep_call]
    exact agree_bind h1 (fun fv hfv => callLambda_noFree hrec hσ (h1' fv hfv) ht.2)

theorem calcF_noFree (env : PrecEnv) (B : List String) (f : Nat) : ∀ t σ1 σ2, noFree B t = true → AgreeOff B σ1 σ2 →
    calcF env f σ1 t = calcF env f σ2 t ∧ ResNoFree B (calcF env f σ1 t) := by
  induction f with
  | zero => intro t σ1 σ2 _ _; exact ⟨rfl, .error B _⟩
  | succ f ih => exact calcStep_noFree env B _ _ ih

/-- trees as the parser builds them (identifiers carry no definition, the right
    side of a definition is a SCOPE node) whose lambda and function parameters
    are not named in `B` -/
def srcOK (B : List String) : Expr → Bool
  | .nil => true
  | .plug => true
  | .val _ => true
  | .ident _ d => d.isNil
  | .scope b => srcOK B b
  | .un _ e => srcOK B e
  | .bin _ l r => srcOK B l && srcOK B r
  | .query c a b => srcOK B c && srcOK B a && srcOK B b
  | .cons l r => srcOK B l && srcOK B r
  | .seq l r => srcOK B l && srcOK B r
  | .define l r =>
    (match defTarget l with
     | some (_, some (params, _)) => paramsOff B params
     | _ => true) && r.isScopeNode && srcOK B r
  | .lambda p b => paramsOff B p && srcOK B b
  | .call f a => srcOK B f && srcOK B a

/-- every definition in the frame is free of `B` and is a real node -/
def GOK (B : List String) (G : Frame) : Prop :=
  ∀ n d, G.lookup n = some d → noFree B d = true ∧ (d.isNil || d.isPlug) = false

/-- no parameter of an enclosing lambda or function (`π` of `compile`) is named in `B` -/
def EnclosingParamsOff (B : List String) (π : List (List String)) : Prop := ∀ ps ∈ π, ∀ x ∈ ps, B.contains x = false

/-- every name in `B` is bound in the frame -/
def DomOK (B : List String) (G : Frame) : Prop := ∀ n, B.contains n = true → G.lookup n ≠ none

theorem GOK.cons {B : List String} {G : Frame} (h : GOK B G) (n : String) (d : Expr) (hd : noFree B d = true)
    (hn : (d.isNil || d.isPlug) = false) : GOK B ((n, d) :: G) := by
  intro m x hx
  simp only [List.lookup] at hx
  split at hx
  · cases hx; exact ⟨hd, hn⟩
  · exact h m x hx

theorem DomOK.cons {B : List String} {G : Frame} (h : DomOK B G) (n : String) (d : Expr) : DomOK B ((n, d) :: G) := by
  intro m hm
  simp only [List.lookup]
  split
  · simp
  · exact h m hm

theorem EnclosingParamsOff.cons {B : List String} {π : List (List String)} (h : EnclosingParamsOff B π) {ps : List String}
    (hps : ∀ x ∈ ps, B.contains x = false) : EnclosingParamsOff B (ps :: π) := by
  intro qs hqs
  rcases List.mem_cons.1 hqs with rfl | hqs
  · exact hps
  · exact h qs hqs

theorem finish_noFree {env : PrecEnv} {fold : Bool} {B : List String} {new n : Expr} {ch av c : Bool}
    (h : finish env fold new ch av = .ok (n, c)) (hn : noFree B new = true) : noFree B n = true := by
  rcases finish_ok h with ⟨rfl, _⟩ | ⟨_, _, _, _, hw⟩
  · exact hn
  · obtain ⟨x, rfl, _⟩ := foldCalc_ok hw
    rfl

/-- a node with two operands: what holds of the compiled operands holds of the node,
    and the definitions made on the way are threaded through -/
theorem thread2_noFree {env : PrecEnv} {fold : Bool} {B : List String} {mk : Expr → Expr → Expr} {av : Expr → Expr → Bool}
    (hmk : ∀ a b, noFree B (mk a b) = (noFree B a && noFree B b)) {c1 c2 : Frame → Res (Expr × Bool × Frame)}
    (h1 : ∀ G x ch G', GOK B G → DomOK B G → c1 G = .ok (x, ch, G') → noFree B x = true ∧ GOK B G' ∧ DomOK B G')
    (h2 : ∀ G x ch G', GOK B G → DomOK B G → c2 G = .ok (x, ch, G') → noFree B x = true ∧ GOK B G' ∧ DomOK B G')
    {G G' : Frame} {e' : Expr} {c : Bool} (hG : GOK B G) (hD : DomOK B G)
    (h : thread2 env fold G mk av c1 c2 = .ok (e', c, G')) : noFree B e' = true ∧ GOK B G' ∧ DomOK B G' := by
  obtain ⟨l1, cl, G1, r1, cr, hl, hr, hfin⟩ := thread2_ok.1 h
  obtain ⟨hl1, hG1, hD1⟩ := h1 G l1 cl G1 hG hD hl
  obtain ⟨hr1, hG2, hD2⟩ := h2 G1 r1 cr G' hG1 hD1 hr
  exact ⟨finish_noFree hfin (by rw [hmk, hl1, hr1]; rfl), hG2, hD2⟩

/-- compile resolves every use of a name bound in `G`, so the names `B ⊆ dom G`
    do not occur unresolved in what it produces, nor in what it defines -/
theorem compile_noFree (env : PrecEnv) (fold : Bool) (B : List String) :
    ∀ (e : Expr) (G : Frame) (π : List (List String)) (e' : Expr) (c : Bool) (G' : Frame),
      srcOK B e = true → GOK B G → EnclosingParamsOff B π → DomOK B G → compile env fold G π e = .ok (e', c, G') →
      noFree B e' = true ∧ GOK B G' ∧ DomOK B G' := by
  intro e
  induction e with
  | nil => intro G π e' c G' _ hG _ hD h; cases h; exact ⟨rfl, hG, hD⟩
  | plug => intro G π e' c G' _ hG _ hD h; cases h; exact ⟨rfl, hG, hD⟩
  | val v => intro G π e' c G' _ hG _ hD h; cases h; exact ⟨rfl, hG, hD⟩
  | ident n d _ =>
    intro G π e' c G' hs hG hP hD h
    obtain rfl := isNil_eq hs
    rw [compile_ident] at h
    by_cases hp : (π.any fun ps => ps.contains n) = true
    · -- a parameter of an enclosing lambda: not named in `B`
      rw [if_pos hp] at h
      cases h
      obtain ⟨ps, hps, hc⟩ := List.any_eq_true.1 hp
      refine ⟨?_, hG, hD⟩
      show (!B.contains n && true) = true
      rw [hP ps hps n (List.contains_iff_mem.1 hc)]; rfl
    · rw [if_neg hp] at h
      cases hl : G.lookup n with
      | some d' =>
        rw [hl] at h
        cases h
        obtain ⟨h1, h2⟩ := hG n d' hl
        exact ⟨Bool.and_eq_true_iff.2 ⟨by rw [h2]; rfl, h1⟩, hG, hD⟩
      | none =>
        -- unbound in `G`, so outside `B ⊆ dom G`
        rw [hl] at h
        cases h
        refine ⟨?_, hG, hD⟩
        show (!B.contains n && true) = true
        rw [Bool.eq_false_iff.2 fun hb => hD n hb hl]; rfl
  | scope b ih =>
    intro G π e' c G' hs hG hP hD h
    obtain ⟨b', hb, rfl⟩ := compile_scope_ok.1 h
    obtain ⟨h1, h2, h3⟩ := ih G π b' c G' hs hG hP hD hb
    refine ⟨?_, h2, h3⟩
    split <;> exact h1
  | define l r _ ihr =>
    intro G π e' c G' hs hG hP hD h
    obtain ⟨hs12, hs3⟩ := Bool.and_eq_true_iff.1 hs
    obtain ⟨hs1, hs2⟩ := Bool.and_eq_true_iff.1 hs12
    cases ht : defTarget l with
    | none => rw [compile_define_none ht] at h; cases h
    | some t =>
      obtain ⟨n, o⟩ := t
      cases o with
      | none =>
        obtain ⟨r1, cr, Gr, hr, rfl, rfl, rfl⟩ := (compile_define_name_ok ht).1 h
        obtain ⟨h1, h2, h3⟩ := ihr G π r1 cr Gr hs3 hG hP hD hr
        obtain ⟨b, rfl⟩ := isScopeNode_eq hs2
        exact ⟨rfl, h2.cons n r1 h1 (compile_scope_shape hr), h3.cons n r1⟩
      | some pp =>
        obtain ⟨params, ps⟩ := pp
        rw [ht] at hs1
        replace hs1 : paramsOff B params = true := hs1
        obtain ⟨r1, cr, Gr, hr, rfl, rfl, rfl⟩ := (compile_define_fn_ok ht).1 h
        obtain ⟨h1, h2, h3⟩ :=
          ihr G (ps :: π) r1 cr Gr hs3 hG (hP.cons (paramNames_noFree hs1 (defTarget_params ht))) hD hr
        exact ⟨rfl, h2.cons n (.lambda params r1) (Bool.and_eq_true_iff.2 ⟨hs1, h1⟩) rfl, h3.cons n _⟩
  | lambda p b _ ihb =>
    intro G π e' c G' hs hG hP hD h
    simp only [srcOK, Bool.and_eq_true] at hs
    cases hp : paramNames p with
    | none => rw [compile_lambda_none hp] at h; cases h
    | some ps =>
      obtain ⟨b1, hb, rfl⟩ := (compile_lambda_ok hp).1 h
      obtain ⟨h1, h2, h3⟩ := ihb G (ps :: π) b1 c G' hs.2 hG (hP.cons (paramNames_noFree hs.1 hp)) hD hb
      exact ⟨Bool.and_eq_true_iff.2 ⟨hs.1, h1⟩, h2, h3⟩
  | un op e ih =>
    intro G π e' c G' hs hG hP hD h
    obtain ⟨x, ch, he, hfin⟩ := compile_un_ok.1 h
    obtain ⟨h1, h2, h3⟩ := ih G π x ch G' hs hG hP hD he
    exact ⟨finish_noFree hfin h1, h2, h3⟩
  | query cnd a b ihc iha ihb =>
    intro G π e' c G' hs hG hP hD h
    simp only [srcOK, Bool.and_eq_true] at hs
    obtain ⟨c1, cc, Gc, a1, ca, Ga, b1, cb, hc, ha, hb, _, rfl, rfl⟩ := compile_query_ok.1 h
    obtain ⟨h1, h2, h3⟩ := ihc G π c1 cc Gc hs.1.1 hG hP hD hc
    obtain ⟨h4, h5, h6⟩ := iha Gc π a1 ca Ga hs.1.2 h2 hP h3 ha
    obtain ⟨h7, h8, h9⟩ := ihb Ga π b1 cb G' hs.2 h5 hP h6 hb
    exact ⟨Bool.and_eq_true_iff.2 ⟨Bool.and_eq_true_iff.2 ⟨h1, h4⟩, h7⟩, h8, h9⟩
  | bin op l r ihl ihr =>
    intro G π e' c G' hs hG hP hD h
    simp only [srcOK, Bool.and_eq_true] at hs
    rw [compile_bin] at h
    exact thread2_noFree (fun _ _ => rfl) (fun G x ch G' hG hD h => ihl G π x ch G' hs.1 hG hP hD h)
      (fun G x ch G' hG hD h => ihr G π x ch G' hs.2 hG hP hD h) hG hD h
  | seq l r ihl ihr =>
    intro G π e' c G' hs hG hP hD h
    simp only [srcOK, Bool.and_eq_true] at hs
    rw [compile_seq] at h
    exact thread2_noFree (fun _ _ => rfl) (fun G x ch G' hG hD h => ihl G π x ch G' hs.1 hG hP hD h)
      (fun G x ch G' hG hD h => ihr G π x ch G' hs.2 hG hP hD h) hG hD h
  | cons l r ihl ihr =>
    intro G π e' c G' hs hG hP hD h
    simp only [srcOK, Bool.and_eq_true] at hs
    rw [compile_cons] at h
    exact thread2_noFree (fun _ _ => rfl) (fun G x ch G' hG hD h => ihl G π x ch G' hs.1 hG hP hD h)
      (fun G x ch G' hG hD h => ihr G π x ch G' hs.2 hG hP hD h) hG hD h
  | call f a ihf iha =>
    intro G π e' c G' hs hG hP hD h
    simp only [srcOK, Bool.and_eq_true] at hs
    rw [compile_call] at h
    exact thread2_noFree (fun _ _ => rfl) (fun G x ch G' hG hD h => ihf G π x ch G' hs.1 hG hP hD h)
      (fun G x ch G' hG hD h => iha G π x ch G' hs.2 hG hP hD h) hG hD h

theorem lookup_append_off {B : List String} {Δ G : Frame} (hΔ : ∀ p ∈ Δ, B.contains p.1 = true) (n : String)
    (hn : B.contains n = false) : (Δ ++ G).lookup n = G.lookup n := by
  induction Δ with
  | nil => rfl
  | cons p Δ ih =>
    obtain ⟨m, d⟩ := p
    have hm : B.contains m = true := hΔ (m, d) (by simp)
    have hne : (n == m) = false := by
      cases h : (n == m) with
      | false => rfl
      | true => have := eq_of_beq h; subst this; rw [hn] at hm; cases hm
    simp only [List.cons_append, List.lookup, hne]
    exact ih (fun p hp => hΔ p (by simp [hp]))

theorem lookup_append_noFree {B : List String} {Δ G : Frame} (hΔ : ∀ p ∈ Δ, noFree B p.2 = true) (hG : GOK B G)
    (n : String) (d : Expr) (h : (Δ ++ G).lookup n = some d) : noFree B d = true := by
  induction Δ with
  | nil => exact (hG n d h).1
  | cons p Δ ih =>
    obtain ⟨m, x⟩ := p
    simp only [List.cons_append, List.lookup] at h
    split at h
    · cases h; exact hΔ (m, _) (by simp)
    · exact ih (fun p hp => hΔ p (by simp [hp])) h

end Ledger
