/-
Lemmas for C10.  First the notions the C10 statements are written in (`onEdge`, `Sorted`, `Linked`,
`ChainFrom`, `Entry.touches`, `NoCrossTies`).  Then, in this order: unordered pairs (`SamePair`, which
is what `Entry.onPair` and `Edge.isPair` unfold to); the fold that keeps the latest entry offered
(`latestStep`, `latest_foldl_some`, `latest_foldl_none`) and its instance `pick`; the sorted map
(`insert_*`, `recent_*`, `recent_insert`: one insertion is one `pick` step); `onEdge`; the graph of a
history (`edgePrices_*`, `Distinct`, `edge_of_entry`); the refinement `recentEdge_eq_latestOn` and
what follows from it for the pair lookup (`recentEdge_sound`, `recentEdge_none_iff`,
`recentEdge_filter_date`); the neighbour `-V` picks (`marketPick_hist`); paths of price points, the
depth-first search and forced chains (`dfs_sound`, `dfs_chain`, `chain_unique`).
-/
import LedgerModel.Model.Prices

namespace Ledger.Prices

theorem notAfter_iff (t D : Int) : notAfter t D = true ↔ t ≤ D := by
  simp [notAfter, Gen.Prices.boundInclusive]

theorem notAfter_false_iff (t D : Int) : notAfter t D = false ↔ D < t := by
  rw [← Bool.not_eq_true, notAfter_iff, Int.not_le]

/-- The entries of the history on the edge {a,b}, in insertion order. -/
def onEdge (hist : List Entry) (a b : Comm) : List Entry := hist.filter (fun e => e.onPair a b)

def Sorted (m : List Entry) : Prop := m.Pairwise (fun x y => x.date < y.date)

/-- Every consecutive pair of the path has a price point. -/
def Linked (re : Comm → Comm → Option Entry) : List Comm → Prop
  | [] => True
  | [_] => True
  | a :: b :: rest => (re a b).isSome = true ∧ Linked re (b :: rest)

/-- The search is forced along `cur :: suf`: at every commodity of the path the only
    neighbour not yet visited is the next one (the shape of a simple chain, or of any
    walk through a forest). -/
def ChainFrom (adj : Comm → Comm → Bool) (V : List Comm) : List Comm → Comm → List Comm → Prop
  | _, _, [] => True
  | pre, cur, n :: suf =>
    adj cur n = true ∧ n ∈ V ∧ n ∉ cur :: pre ∧
    (∀ c ∈ V, adj cur c = true → c ∈ cur :: pre ∨ c = n) ∧
    ChainFrom adj V (cur :: pre) n suf

instance ChainFrom.dec (adj : Comm → Comm → Bool) (V : List Comm) :
    ∀ (pre : List Comm) (cur : Comm) (suf : List Comm), Decidable (ChainFrom adj V pre cur suf)
  | _, _, [] => isTrue trivial
  | pre, cur, n :: suf => by
    simp only [ChainFrom]
    have := ChainFrom.dec adj V (cur :: pre) n suf
    infer_instance

/-- the entry involves the commodity `c` -/
def Entry.touches (e : Entry) (c : Comm) : Prop := e.src = c ∨ e.tgt = c

instance (e : Entry) (c : Comm) : Decidable (e.touches c) := by unfold Entry.touches; infer_instance

/-- No two recorded prices of `c` in *different* units carry the same moment (among those
    dated not after `D`): then the neighbour -V picks does not depend on edge order. -/
def NoCrossTies (hist : List Entry) (c : Comm) (D : Int) : Prop :=
  ∀ x ∈ hist, ∀ y ∈ hist, x.touches c → y.touches c → x.date ≤ D → y.date ≤ D →
    x.date = y.date → x.onPair y.src y.tgt

instance (hist : List Entry) (c : Comm) (D : Int) : Decidable (NoCrossTies hist c D) := by
  unfold NoCrossTies; infer_instance

/-- `{a, b} = {c, d}` as unordered pairs: what `Entry.onPair` and `Edge.isPair` say of the
    ends of an entry, resp. of an edge. -/
def SamePair (a b c d : Comm) : Prop := (a = c ∧ b = d) ∨ (a = d ∧ b = c)

theorem onPair_iff {e : Entry} {a b : Comm} : e.onPair a b ↔ SamePair e.src e.tgt a b := Iff.rfl

theorem isPair_iff {ed : Edge} {a b : Comm} : ed.isPair a b ↔ SamePair ed.u ed.v a b := Iff.rfl

namespace SamePair
variable {a b c d x y k : Comm}

theorem refl (a b : Comm) : SamePair a b a b := Or.inl ⟨rfl, rfl⟩

theorem swap : SamePair a b c d → SamePair a b d c
  | .inl h => .inr h
  | .inr h => .inl h

theorem symm : SamePair a b c d → SamePair c d a b
  | .inl ⟨h1, h2⟩ => .inl ⟨h1.symm, h2.symm⟩
  | .inr ⟨h1, h2⟩ => .inr ⟨h2.symm, h1.symm⟩

theorem trans : SamePair a b c d → SamePair c d x y → SamePair a b x y
  | .inl ⟨h1, h2⟩, .inl ⟨h3, h4⟩ => .inl ⟨h1.trans h3, h2.trans h4⟩
  | .inl ⟨h1, h2⟩, .inr ⟨h3, h4⟩ => .inr ⟨h1.trans h3, h2.trans h4⟩
  | .inr ⟨h1, h2⟩, .inl ⟨h3, h4⟩ => .inr ⟨h1.trans h4, h2.trans h3⟩
  | .inr ⟨h1, h2⟩, .inr ⟨h3, h4⟩ => .inl ⟨h1.trans h4, h2.trans h3⟩

theorem touches : SamePair a b c d → (c = k ∨ d = k) → (a = k ∨ b = k)
  | .inl ⟨h1, h2⟩, h => h.imp h1.trans h2.trans
  | .inr ⟨h1, h2⟩, h => h.symm.imp h1.trans h2.trans

end SamePair

theorem onPair_symm {e : Entry} {a b : Comm} : e.onPair a b ↔ e.onPair b a := ⟨SamePair.swap, SamePair.swap⟩

theorem isPair_symm_args {ed : Edge} {a b : Comm} : ed.isPair a b ↔ ed.isPair b a :=
  ⟨SamePair.swap, SamePair.swap⟩

theorem touches_of_onPair {e : Entry} {ed : Edge} {c : Comm} (hp : e.onPair ed.u ed.v)
    (ht : ed.touches c) : e.touches c := SamePair.touches hp ht

theorem edge_touches_of_entry {x : Entry} {ed : Edge} {c : Comm} (h : ed.isPair x.src x.tgt)
    (ht : x.touches c) : ed.touches c := SamePair.touches h ht

/-- One step of a fold that keeps the latest of the entries offered so far: `cand x` is what `x`
    offers, and an offer replaces the current best when `rel best.date offer.date`.  The two instances
    are `pick` (`≤`: of equally dated entries the last writer wins) and `marketStep` (`<`: the
    first edge wins, `marketStep_eq`). -/
def latestStep {α : Type} (rel : Int → Int → Prop) [DecidableRel rel] (cand : α → Option Entry)
    (best : Option Entry) (x : α) : Option Entry :=
  match cand x with
  | none => best
  | some p =>
    match best with
    | none => some p
    | some b => if rel b.date p.date then some p else some b

section latest
variable {α : Type} {rel : Int → Int → Prop} [DecidableRel rel] {cand : α → Option Entry}

theorem latestStep_cases (h₁ : ∀ a b, rel a b → a ≤ b) (h₂ : ∀ a b, ¬ rel a b → b ≤ a)
    (best : Option Entry) (x : α) :
    (latestStep rel cand best x = best ∧ ∀ p, cand x = some p → ∃ b, best = some b ∧ p.date ≤ b.date) ∨
    (∃ p, cand x = some p ∧ latestStep rel cand best x = some p ∧ ∀ b, best = some b → b.date ≤ p.date) := by
  unfold latestStep
  cases hc : cand x with
  | none => exact Or.inl ⟨rfl, fun _ h => nomatch h⟩
  | some p =>
    cases best with
    | none => exact Or.inr ⟨p, rfl, rfl, fun _ h => nomatch h⟩
    | some b =>
      by_cases hr : rel b.date p.date
      · exact Or.inr ⟨p, rfl, if_pos hr, fun b' hb' => Option.some.inj hb' ▸ h₁ _ _ hr⟩
      · exact Or.inl ⟨if_neg hr, fun p' hp' => ⟨b, rfl, Option.some.inj hp' ▸ h₂ _ _ hr⟩⟩

theorem latest_foldl_some (h₁ : ∀ a b, rel a b → a ≤ b) (h₂ : ∀ a b, ¬ rel a b → b ≤ a)
    (l : List α) (init : Option Entry) {r : Entry} (h : l.foldl (latestStep rel cand) init = some r) :
    (init = some r ∨ ∃ x ∈ l, cand x = some r) ∧
    (∀ x ∈ l, ∀ p, cand x = some p → p.date ≤ r.date) ∧
    (∀ b, init = some b → b.date ≤ r.date) := by
  induction l generalizing init with
  | nil => cases h; exact ⟨Or.inl rfl, nofun, fun b hb => Option.some.inj hb ▸ Int.le_refl _⟩
  | cons x xs ih =>
    obtain ⟨i1, i2, i3⟩ := ih _ h
    have i1' : latestStep rel cand init x = some r ∨ ∃ y ∈ x :: xs, cand y = some r :=
      i1.imp_right fun ⟨y, hy, hc⟩ => ⟨y, List.mem_cons_of_mem x hy, hc⟩
    rcases latestStep_cases (cand := cand) h₁ h₂ init x with ⟨hs, hb⟩ | ⟨p, hp, hs, hb⟩
    · rw [hs] at i1' i3
      refine ⟨i1', ?_, i3⟩
      intro y hy q hq
      rcases List.mem_cons.mp hy with rfl | hy
      · obtain ⟨b, hb1, hb2⟩ := hb q hq
        exact Int.le_trans hb2 (i3 b hb1)
      · exact i2 y hy q hq
    · rw [hs] at i1' i3
      refine ⟨?_, ?_, fun b hb' => Int.le_trans (hb b hb') (i3 p rfl)⟩
      · rcases i1' with h' | h'
        · exact Or.inr ⟨x, List.mem_cons_self, Option.some.inj h' ▸ hp⟩
        · exact Or.inr h'
      · intro y hy q hq
        rcases List.mem_cons.mp hy with rfl | hy
        · rw [hp] at hq; exact Option.some.inj hq ▸ i3 p rfl
        · exact i2 y hy q hq

theorem latest_foldl_none (l : List α) (init : Option Entry) :
    l.foldl (latestStep rel cand) init = none ↔ init = none ∧ ∀ x ∈ l, cand x = none := by
  induction l generalizing init with
  | nil => exact ⟨fun h => ⟨h, nofun⟩, fun h => h.1⟩
  | cons x xs ih =>
    rw [List.foldl_cons, ih, List.forall_mem_cons]
    cases hc : cand x with
    | none => rw [latestStep, hc]; exact ⟨fun h => ⟨h.1, rfl, h.2⟩, fun h => ⟨h.1, h.2.2⟩⟩
    | some p =>
      refine ⟨fun h => ?_, fun h => nomatch h.2.1⟩
      have hs := h.1
      rw [latestStep, hc] at hs
      cases init with
      | none => exact nomatch hs
      | some b =>
        by_cases hr : rel b.date p.date
        · exact nomatch (if_pos hr).symm.trans hs
        · exact nomatch (if_neg hr).symm.trans hs

end latest

/-- "latest entry not after `D`, last writer wins": an eligible entry replaces the current best
    unless the best is strictly later. -/
def pick (D : Int) : Option Entry → Entry → Option Entry :=
  latestStep (· ≤ ·) (fun e => if e.date ≤ D then some e else none)

theorem pick_of_gt {D : Int} {e : Entry} (h : D < e.date) (best : Option Entry) : pick D best e = best := by
  rw [pick, latestStep, if_neg (Int.not_le.mpr h)]

theorem pick_none {D : Int} {e : Entry} (h : e.date ≤ D) : pick D none e = some e := by
  rw [pick, latestStep, if_pos h]

theorem pick_some {D : Int} {e : Entry} (h : e.date ≤ D) (b : Entry) :
    pick D (some b) e = if b.date ≤ e.date then some e else some b := by
  rw [pick, latestStep, if_pos h]

/-- Specification of `recentEdge`. -/
def latestOn (hist : List Entry) (a b : Comm) (D : Int) : Option Entry :=
  (onEdge hist a b).foldl (pick D) none

theorem insert_cons_lt {x e : Entry} (h : e.date < x.date) (xs : List Entry) :
    PriceMap.insert (x :: xs) e = e :: x :: xs := by
  rw [PriceMap.insert, if_pos h]

theorem insert_cons_eq {x e : Entry} (h : e.date = x.date) (xs : List Entry) :
    PriceMap.insert (x :: xs) e = e :: xs := by
  rw [PriceMap.insert, if_neg (Int.lt_irrefl _ <| h ▸ ·), if_pos h]; rfl

theorem insert_cons_gt {x e : Entry} (h : x.date < e.date) (xs : List Entry) :
    PriceMap.insert (x :: xs) e = x :: PriceMap.insert xs e := by
  rw [PriceMap.insert, if_neg (Int.lt_asymm h), if_neg (Int.ne_of_gt h)]

theorem mem_insert {m : List Entry} {e y : Entry} (h : y ∈ PriceMap.insert m e) : y = e ∨ y ∈ m := by
  induction m with
  | nil => exact Or.inl (List.mem_singleton.mp h)
  | cons x xs ih =>
    rcases Int.lt_trichotomy e.date x.date with hd | hd | hd
    · rw [insert_cons_lt hd] at h; exact List.mem_cons.mp h
    · rw [insert_cons_eq hd] at h
      exact (List.mem_cons.mp h).imp_right (List.mem_cons_of_mem x)
    · rw [insert_cons_gt hd] at h
      rcases List.mem_cons.mp h with rfl | h
      · exact Or.inr List.mem_cons_self
      · exact (ih h).imp_right (List.mem_cons_of_mem x)

theorem insert_sorted {m : List Entry} (e : Entry) (hs : Sorted m) : Sorted (PriceMap.insert m e) := by
  induction m with
  | nil => exact List.pairwise_singleton _ _
  | cons x xs ih =>
    obtain ⟨hx, hxs⟩ := List.pairwise_cons.mp hs
    rcases Int.lt_trichotomy e.date x.date with hd | hd | hd
    · rw [insert_cons_lt hd]
      refine List.pairwise_cons.mpr ⟨fun y hy => ?_, hs⟩
      rcases List.mem_cons.mp hy with rfl | hy
      · exact hd
      · exact Int.lt_trans hd (hx y hy)
    · rw [insert_cons_eq hd]
      exact List.pairwise_cons.mpr ⟨fun y hy => hd ▸ hx y hy, hxs⟩
    · rw [insert_cons_gt hd]
      refine List.pairwise_cons.mpr ⟨fun y hy => ?_, ih hxs⟩
      rcases mem_insert hy with rfl | hy
      · exact hd
      · exact hx y hy

theorem recent_cons_gt {D : Int} {x : Entry} (h : D < x.date) (xs : List Entry) :
    PriceMap.recent D (x :: xs) = none := by
  rw [PriceMap.recent, if_neg (by rw [Bool.not_eq_true, notAfter_false_iff]; exact h)]

theorem recent_cons_le {D : Int} {x : Entry} (h : x.date ≤ D) (xs : List Entry) :
    PriceMap.recent D (x :: xs) = some ((PriceMap.recent D xs).getD x) := by
  rw [PriceMap.recent, if_pos ((notAfter_iff _ _).mpr h)]
  cases PriceMap.recent D xs <;> rfl

theorem recent_mem_le {D : Int} {m : List Entry} {r : Entry} (h : PriceMap.recent D m = some r) :
    r ∈ m ∧ r.date ≤ D := by
  induction m with
  | nil => cases h
  | cons x xs ih =>
    rcases Int.lt_or_le D x.date with hx | hx
    · rw [recent_cons_gt hx] at h; cases h
    · rw [recent_cons_le hx] at h
      cases hr : PriceMap.recent D xs with
      | none => rw [hr] at h; cases h; exact ⟨List.mem_cons_self, hx⟩
      | some r' =>
        rw [hr] at h; cases h
        exact ⟨List.mem_cons_of_mem x (ih hr).1, (ih hr).2⟩

/-- One insertion into the sorted map is one `pick` step on the lookup result. -/
theorem recent_insert (D : Int) {m : List Entry} (e : Entry) (hs : Sorted m) :
    PriceMap.recent D (PriceMap.insert m e) = pick D (PriceMap.recent D m) e := by
  induction m with
  | nil =>
    show PriceMap.recent D [e] = pick D none e
    rcases Int.lt_or_le D e.date with he | he
    · rw [recent_cons_gt he, pick_of_gt he]
    · rw [recent_cons_le he, pick_none he]; rfl
  | cons x xs ih =>
    obtain ⟨hx, hxs⟩ := List.pairwise_cons.mp hs
    -- what the tail offers is later than `x`
    have hlate : ∀ r, PriceMap.recent D xs = some r → x.date < r.date :=
      fun r hr => hx r (recent_mem_le hr).1
    rcases Int.lt_trichotomy e.date x.date with hd | hd | hd
    · rw [insert_cons_lt hd]
      rcases Int.lt_or_le D e.date with he | he
      · rw [recent_cons_gt he, recent_cons_gt (Int.lt_trans he hd), pick_of_gt he]
      · rw [recent_cons_le he]
        cases hr : PriceMap.recent D (x :: xs) with
        | none => rw [pick_none he]; rfl
        | some r =>
          have : e.date < r.date := by
            rcases List.mem_cons.mp (recent_mem_le hr).1 with rfl | h
            · exact hd
            · exact Int.lt_trans hd (hx r h)
          rw [pick_some he, if_neg (Int.not_le.mpr this)]; rfl
    · rw [insert_cons_eq hd]
      rcases Int.lt_or_le D e.date with he | he
      · rw [recent_cons_gt he, recent_cons_gt (hd ▸ he), pick_of_gt he]
      · rw [recent_cons_le he, recent_cons_le (hd ▸ he), pick_some he]
        cases hr : PriceMap.recent D xs with
        | none => exact (if_pos (Int.le_of_eq hd.symm)).symm
        | some r => exact (if_neg (Int.not_le.mpr (hd ▸ hlate r hr))).symm
    · rw [insert_cons_gt hd]
      rcases Int.lt_or_le D x.date with hxD | hxD
      · rw [recent_cons_gt hxD, recent_cons_gt hxD, pick_of_gt (Int.lt_trans hxD hd)]
      · rw [recent_cons_le hxD, recent_cons_le hxD, ih hxs]
        rcases Int.lt_or_le D e.date with he | he
        · rw [pick_of_gt he, pick_of_gt he]
        · cases hr : PriceMap.recent D xs with
          | none => rw [pick_none he, pick_some he]; exact (if_pos (Int.le_of_lt hd)).symm
          | some r =>
            rw [pick_some he, pick_some he]
            show some ((if r.date ≤ e.date then some e else some r).getD x) = if r.date ≤ e.date then some e else some r
            split <;> rfl

theorem foldl_insert_sorted (es : List Entry) {m : List Entry} (hs : Sorted m) :
    Sorted (es.foldl PriceMap.insert m) := by
  induction es generalizing m with
  | nil => exact hs
  | cons e es ih => exact ih (insert_sorted e hs)

theorem recent_foldl_insert (D : Int) (es : List Entry) {m : List Entry} (hs : Sorted m) :
    PriceMap.recent D (es.foldl PriceMap.insert m) = es.foldl (pick D) (PriceMap.recent D m) := by
  induction es generalizing m with
  | nil => rfl
  | cons e es ih => rw [List.foldl_cons, List.foldl_cons, ih (insert_sorted e hs), recent_insert D e hs]

theorem mem_onEdge {hist : List Entry} {a b : Comm} {x : Entry} :
    x ∈ onEdge hist a b ↔ x ∈ hist ∧ x.onPair a b := by
  rw [onEdge, List.mem_filter, decide_eq_true_iff]

theorem onEdge_cons (e : Entry) (es : List Entry) (a b : Comm) :
    onEdge (e :: es) a b = if e.onPair a b then e :: onEdge es a b else onEdge es a b := by
  unfold onEdge
  rw [List.filter_cons]
  simp only [decide_eq_true_eq]

theorem onEdge_append (l1 l2 : List Entry) (a b : Comm) :
    onEdge (l1 ++ l2) a b = onEdge l1 a b ++ onEdge l2 a b := by
  simp [onEdge]

theorem onEdge_symm (hist : List Entry) (a b : Comm) : onEdge hist a b = onEdge hist b a := by
  unfold onEdge
  congr 1
  funext e
  exact decide_eq_decide.mpr onPair_symm

theorem onEdge_filter_date (hist : List Entry) (a b : Comm) (D : Int) :
    onEdge (hist.filter (fun e => e.date ≤ D)) a b = (onEdge hist a b).filter (fun e => e.date ≤ D) := by
  simp only [onEdge, List.filter_filter]
  congr 1
  funext e
  exact Bool.and_comm _ _

theorem edgePrices_cons_pos {ed : Edge} {a b : Comm} (h : ed.isPair a b) (rest : Graph) :
    Graph.edgePrices (ed :: rest) a b = ed.prices := by
  rw [Graph.edgePrices, if_pos h]

theorem edgePrices_cons_neg {ed : Edge} {a b : Comm} (h : ¬ ed.isPair a b) (rest : Graph) :
    Graph.edgePrices (ed :: rest) a b = rest.edgePrices a b := by
  rw [Graph.edgePrices, if_neg h]

theorem addPrice_cons_pos {ed : Edge} {e : Entry} (h : ed.isPair e.src e.tgt) (rest : Graph) :
    Graph.addPrice (ed :: rest) e = { ed with prices := PriceMap.insert ed.prices e } :: rest := by
  rw [Graph.addPrice, if_pos h]

theorem addPrice_cons_neg {ed : Edge} {e : Entry} (h : ¬ ed.isPair e.src e.tgt) (rest : Graph) :
    Graph.addPrice (ed :: rest) e = ed :: rest.addPrice e := by
  rw [Graph.addPrice, if_neg h]

theorem edgePrices_addPrice (g : Graph) (e : Entry) (a b : Comm) :
    (g.addPrice e).edgePrices a b =
      if e.onPair a b then PriceMap.insert (g.edgePrices a b) e else g.edgePrices a b := by
  induction g with
  | nil =>
    by_cases h : e.onPair a b
    · rw [if_pos h]; exact edgePrices_cons_pos (ed := ⟨e.src, e.tgt, [e]⟩) h []
    · rw [if_neg h]; exact edgePrices_cons_neg (ed := ⟨e.src, e.tgt, [e]⟩) h []
  | cons ed rest ih =>
    by_cases hp : ed.isPair e.src e.tgt
    · rw [addPrice_cons_pos hp]
      by_cases h : ed.isPair a b
      · have he : e.onPair a b := SamePair.trans (SamePair.symm hp) h
        rw [edgePrices_cons_pos (ed := ⟨ed.u, ed.v, PriceMap.insert ed.prices e⟩) h,
          edgePrices_cons_pos h, if_pos he]
      · have he : ¬ e.onPair a b := fun he => h (SamePair.trans hp he)
        rw [edgePrices_cons_neg (ed := ⟨ed.u, ed.v, PriceMap.insert ed.prices e⟩) h,
          edgePrices_cons_neg h, if_neg he]
    · rw [addPrice_cons_neg hp]
      by_cases h : ed.isPair a b
      · have he : ¬ e.onPair a b := fun he => hp (SamePair.trans h (SamePair.symm he))
        rw [edgePrices_cons_pos h, edgePrices_cons_pos h, if_neg he]
      · rw [edgePrices_cons_neg h, edgePrices_cons_neg h, ih]

theorem edgePrices_foldl (hist : List Entry) (g : Graph) (a b : Comm) :
    (hist.foldl Graph.addPrice g).edgePrices a b =
      (onEdge hist a b).foldl PriceMap.insert (g.edgePrices a b) := by
  induction hist generalizing g with
  | nil => rfl
  | cons e es ih =>
    rw [List.foldl_cons, ih, edgePrices_addPrice, onEdge_cons]
    by_cases h : e.onPair a b
    · rw [if_pos h, if_pos h]; rfl
    · rw [if_neg h, if_neg h]

/-- no two edges for the same pair -/
def Distinct (g : Graph) : Prop := g.Pairwise (fun a b => ¬ b.isPair a.u a.v)

theorem addPrice_mem {g : Graph} {e : Entry} {b : Edge} (h : b ∈ g.addPrice e) :
    (∃ b0 ∈ g, b.u = b0.u ∧ b.v = b0.v) ∨ (b.u = e.src ∧ b.v = e.tgt) := by
  induction g with
  | nil => cases List.mem_singleton.mp h; exact Or.inr ⟨rfl, rfl⟩
  | cons ed rest ih =>
    by_cases hp : ed.isPair e.src e.tgt
    · rw [addPrice_cons_pos hp] at h
      rcases List.mem_cons.mp h with rfl | h
      · exact Or.inl ⟨ed, List.mem_cons_self, rfl, rfl⟩
      · exact Or.inl ⟨b, List.mem_cons_of_mem ed h, rfl, rfl⟩
    · rw [addPrice_cons_neg hp] at h
      rcases List.mem_cons.mp h with rfl | h
      · exact Or.inl ⟨b, List.mem_cons_self, rfl, rfl⟩
      · exact (ih h).imp_left fun ⟨b0, hb0, hu⟩ => ⟨b0, List.mem_cons_of_mem ed hb0, hu⟩

theorem addPrice_distinct {g : Graph} (e : Entry) (hd : Distinct g) : Distinct (g.addPrice e) := by
  induction g with
  | nil => exact List.pairwise_singleton _ _
  | cons ed rest ih =>
    obtain ⟨hed, hrest⟩ := List.pairwise_cons.mp hd
    by_cases hp : ed.isPair e.src e.tgt
    · rw [addPrice_cons_pos hp]; exact List.pairwise_cons.mpr ⟨hed, hrest⟩
    · rw [addPrice_cons_neg hp]
      refine List.pairwise_cons.mpr ⟨fun b hb => ?_, ih hrest⟩
      rcases addPrice_mem hb with ⟨b0, hb0, hu, hv⟩ | ⟨hu, hv⟩
      · rw [Edge.isPair, hu, hv]; exact hed b0 hb0
      · rw [Edge.isPair, hu, hv]; exact fun h => hp (SamePair.symm h)

theorem edgePrices_of_mem {g : Graph} (hd : Distinct g) {ed : Edge} (h : ed ∈ g) :
    g.edgePrices ed.u ed.v = ed.prices := by
  induction g with
  | nil => cases h
  | cons x rest ih =>
    obtain ⟨hx, hrest⟩ := List.pairwise_cons.mp hd
    rcases List.mem_cons.mp h with rfl | h
    · exact edgePrices_cons_pos (SamePair.refl _ _) rest
    · rw [edgePrices_cons_neg fun hh => hx ed h (SamePair.symm hh)]
      exact ih hrest h

theorem addPrice_has_pair {g : Graph} {e : Entry} {a b : Comm}
    (h : (∃ ed ∈ g, ed.isPair a b) ∨ e.onPair a b) : ∃ ed ∈ g.addPrice e, ed.isPair a b := by
  induction g with
  | nil =>
    rcases h with ⟨_, hm, _⟩ | h
    · cases hm
    · exact ⟨_, List.mem_singleton.mpr rfl, h⟩
  | cons ed rest ih =>
    by_cases hp : ed.isPair e.src e.tgt
    · rw [addPrice_cons_pos hp]
      rcases h with ⟨x, hm, hx⟩ | h
      · rcases List.mem_cons.mp hm with rfl | hm
        · exact ⟨_, List.mem_cons_self, hx⟩
        · exact ⟨x, List.mem_cons_of_mem _ hm, hx⟩
      · exact ⟨_, List.mem_cons_self, SamePair.trans hp h⟩
    · rw [addPrice_cons_neg hp]
      have keep : (∃ x ∈ rest, x.isPair a b) ∨ e.onPair a b → ∃ x ∈ ed :: Graph.addPrice rest e, x.isPair a b :=
        fun h' => let ⟨x, hm, hx⟩ := ih h'; ⟨x, List.mem_cons_of_mem ed hm, hx⟩
      rcases h with ⟨x, hm, hx⟩ | h
      · rcases List.mem_cons.mp hm with rfl | hm
        · exact ⟨x, List.mem_cons_self, hx⟩
        · exact keep (Or.inl ⟨x, hm, hx⟩)
      · exact keep (Or.inr h)

theorem foldl_addPrice_inv (es : List Entry) :
    ∀ g : Graph, Distinct g →
      Distinct (es.foldl Graph.addPrice g) ∧
      ∀ a b, ((∃ ed ∈ g, ed.isPair a b) ∨ ∃ x ∈ es, x.onPair a b) →
        ∃ ed ∈ es.foldl Graph.addPrice g, ed.isPair a b := by
  induction es with
  | nil =>
    intro g hd
    exact ⟨hd, fun a b h => h.elim id fun ⟨_, hm, _⟩ => nomatch hm⟩
  | cons e es ih =>
    intro g hd
    obtain ⟨h1, h2⟩ := ih (g.addPrice e) (addPrice_distinct e hd)
    refine ⟨h1, fun a b h => h2 a b ?_⟩
    rcases h with h | ⟨x, hm, hx⟩
    · exact Or.inl (addPrice_has_pair (Or.inl h))
    · rcases List.mem_cons.mp hm with rfl | hm
      · exact Or.inl (addPrice_has_pair (Or.inr hx))
      · exact Or.inr ⟨x, hm, hx⟩

theorem ofHistory_distinct (hist : List Entry) : Distinct (Graph.ofHistory hist) :=
  (foldl_addPrice_inv hist [] List.Pairwise.nil).1

theorem edge_of_entry {hist : List Entry} {x : Entry} (h : x ∈ hist) :
    ∃ ed ∈ Graph.ofHistory hist, ed.isPair x.src x.tgt :=
  (foldl_addPrice_inv hist [] List.Pairwise.nil).2 _ _ (Or.inr ⟨x, h, SamePair.refl _ _⟩)

/-- Refinement: the graph of sorted maps with `upper_bound` lookup computes the fold
    specification over the insertion-ordered history. -/
theorem recentEdge_eq_latestOn (hist : List Entry) (a b : Comm) (D : Int) :
    recentEdge hist a b D = latestOn hist a b D := by
  rw [recentEdge, Graph.ofHistory, edgePrices_foldl,
    recent_foldl_insert D _ (show Sorted (Graph.edgePrices [] a b) from List.Pairwise.nil)]
  rfl

theorem recent_of_edge (hist : List Entry) (D : Int) {ed : Edge} (h : ed ∈ Graph.ofHistory hist) :
    PriceMap.recent D ed.prices = recentEdge hist ed.u ed.v D := by
  rw [recentEdge, edgePrices_of_mem (ofHistory_distinct hist) h]

theorem pick_foldl_some {D : Int} (es : List Entry) {r : Entry} (h : es.foldl (pick D) none = some r) :
    r ∈ es ∧ r.date ≤ D ∧ ∀ x ∈ es, x.date ≤ D → x.date ≤ r.date := by
  obtain ⟨h1, h2, _⟩ := latest_foldl_some (fun _ _ h => h) (fun _ _ h => Int.le_of_lt (Int.not_le.mp h)) es none h
  rcases h1 with h1 | ⟨x, hx, hc⟩
  · cases h1
  · split at hc
    · next hD => cases hc; exact ⟨hx, hD, fun y hy hyD => h2 y hy y (if_pos hyD)⟩
    · cases hc

theorem pick_foldl_none {D : Int} (es : List Entry) :
    es.foldl (pick D) none = none ↔ ∀ x ∈ es, D < x.date := by
  rw [pick, latest_foldl_none]
  refine ⟨fun h x hx => ?_, fun h => ⟨rfl, fun x hx => if_neg (Int.not_le.mpr (h x hx))⟩⟩
  have := h.2 x hx
  split at this
  · cases this
  · next hn => exact Int.not_le.mp hn

theorem pick_foldl_filter (D : Int) (es : List Entry) (init : Option Entry) :
    (es.filter (fun e => e.date ≤ D)).foldl (pick D) init = es.foldl (pick D) init := by
  induction es generalizing init with
  | nil => rfl
  | cons e es ih =>
    rw [List.filter_cons, List.foldl_cons]
    by_cases he : e.date ≤ D
    · rw [if_pos (decide_eq_true he), List.foldl_cons, ih]
    · rw [if_neg (by rw [decide_eq_false he]; exact Bool.false_ne_true), pick_of_gt (Int.not_le.mp he), ih]

theorem pick_foldl_stays {D : Int} (es : List Entry) (e : Entry)
    (h : ∀ x ∈ es, x.date ≤ D → x.date < e.date) : es.foldl (pick D) (some e) = some e := by
  induction es with
  | nil => rfl
  | cons x xs ih =>
    have hx : pick D (some e) x = some e := by
      rcases Int.lt_or_le D x.date with hxD | hxD
      · exact pick_of_gt hxD _
      · rw [pick_some hxD, if_neg (Int.not_le.mpr (h x List.mem_cons_self hxD))]
    rw [List.foldl_cons, hx]
    exact ih fun y hy => h y (List.mem_cons_of_mem x hy)

theorem pick_foldl_last_wins {D : Int} (l1 l2 : List Entry) (e : Entry) (he : e.date ≤ D)
    (h1 : ∀ x ∈ l1, x.date ≤ D → x.date ≤ e.date)
    (h2 : ∀ x ∈ l2, x.date ≤ D → x.date < e.date) :
    (l1 ++ e :: l2).foldl (pick D) none = some e := by
  rw [List.foldl_append, List.foldl_cons]
  have : pick D (l1.foldl (pick D) none) e = some e := by
    cases hr : l1.foldl (pick D) none with
    | none => exact pick_none he
    | some b =>
      obtain ⟨hb, hbD, _⟩ := pick_foldl_some l1 hr
      rw [pick_some he, if_pos (h1 b hb hbD)]
  rw [this]
  exact pick_foldl_stays l2 e h2

theorem recentEdge_symm (hist : List Entry) (a b : Comm) (D : Int) :
    recentEdge hist a b D = recentEdge hist b a D := by
  rw [recentEdge_eq_latestOn, recentEdge_eq_latestOn, latestOn, onEdge_symm]; rfl

theorem recentEdge_sound {hist : List Entry} {a b : Comm} {D : Int} {e : Entry}
    (h : recentEdge hist a b D = some e) :
    e ∈ hist ∧ e.onPair a b ∧ e.date ≤ D ∧
    ∀ x ∈ hist, x.onPair a b → x.date ≤ D → x.date ≤ e.date := by
  rw [recentEdge_eq_latestOn] at h
  obtain ⟨hm, hD, hmax⟩ := pick_foldl_some _ h
  exact ⟨(mem_onEdge.mp hm).1, (mem_onEdge.mp hm).2, hD,
    fun x hx hxp hxD => hmax x (mem_onEdge.mpr ⟨hx, hxp⟩) hxD⟩

theorem recentEdge_none_iff (hist : List Entry) (a b : Comm) (D : Int) :
    recentEdge hist a b D = none ↔ ∀ x ∈ hist, x.onPair a b → D < x.date := by
  rw [recentEdge_eq_latestOn, latestOn, pick_foldl_none]
  exact ⟨fun h x hx hxp => h x (mem_onEdge.mpr ⟨hx, hxp⟩),
    fun h x hx => h x (mem_onEdge.mp hx).1 (mem_onEdge.mp hx).2⟩

theorem recentEdge_filter_date (hist : List Entry) (a b : Comm) (D : Int) :
    recentEdge (hist.filter (fun e => e.date ≤ D)) a b D = recentEdge hist a b D := by
  rw [recentEdge_eq_latestOn, recentEdge_eq_latestOn, latestOn, onEdge_filter_date, pick_foldl_filter]; rfl

theorem mem_primaries {hist : List Entry} {c : Comm} : c ∈ primaries hist ↔ ∃ x ∈ hist, x.tgt = c := by
  simp only [primaries, Gen.Prices.priceUnitIsPrimary, if_true, List.mem_map]

/-- `-V` keeps the latest price point among the edges at `c`, an earlier edge winning a tie. -/
theorem marketStep_eq (c : Comm) (D : Int) :
    marketStep c D =
      latestStep (· < ·) (fun ed => if ed.touches c then PriceMap.recent D ed.prices else none) := by
  funext best ed
  unfold marketStep latestStep
  by_cases ht : ed.touches c
  · simp only [if_pos ht]
    cases PriceMap.recent D ed.prices with
    | none => rfl
    | some p => cases best <;> rfl
  · simp only [if_neg ht]

/-- What -V picks for `c`: a recorded price involving `c`, dated not after `D`, such that no
    recorded price involving `c` lies in `(chosen, D]`; and it is the price point of its pair. -/
theorem marketPick_hist {hist : List Entry} {c : Comm} {D : Int} {e : Entry}
    (h : marketPick (Graph.ofHistory hist) c D = some e) :
    e ∈ hist ∧ e.touches c ∧ e.date ≤ D ∧
    (∀ x ∈ hist, x.touches c → x.date ≤ D → x.date ≤ e.date) ∧
    recentEdge hist e.src e.tgt D = some e := by
  rw [marketPick, marketStep_eq] at h
  obtain ⟨h1, h2, _⟩ := latest_foldl_some (fun _ _ => Int.le_of_lt) (fun _ _ => Int.not_lt.mp) _ none h
  rcases h1 with h1 | ⟨ed, hed, hc⟩
  · cases h1
  · -- `e` is the price point of the edge `ed` at `c`
    have ht : ed.touches c := Decidable.by_contra fun hn => by rw [if_neg hn] at hc; cases hc
    rw [if_pos ht, recent_of_edge hist D hed] at hc
    obtain ⟨hm, hp, hD, _⟩ := recentEdge_sound hc
    refine ⟨hm, touches_of_onPair hp ht, hD, fun x hx hxt hxD => ?_, ?_⟩
    · obtain ⟨ed', hed', hp'⟩ := edge_of_entry hx
      have hxp : x.onPair ed'.u ed'.v := SamePair.symm hp'
      cases hr : recentEdge hist ed'.u ed'.v D with
      | none => exact absurd hxD (Int.not_le.mpr ((recentEdge_none_iff hist _ _ D).mp hr x hx hxp))
      | some p =>
        have hle := h2 ed' hed' p (by
          rw [if_pos (edge_touches_of_entry hp' hxt), recent_of_edge hist D hed', hr])
        exact Int.le_trans ((recentEdge_sound hr).2.2.2 x hx hxp hxD) hle
    · rcases hp with hp | hp
      · rw [hp.1, hp.2]; exact hc
      · rw [hp.1, hp.2, recentEdge_symm]; exact hc

theorem marketPick_hist_none (hist : List Entry) (c : Comm) (D : Int) :
    marketPick (Graph.ofHistory hist) c D = none ↔ ∀ x ∈ hist, x.touches c → D < x.date := by
  rw [marketPick, marketStep_eq, latest_foldl_none]
  constructor
  · rintro ⟨_, h⟩ x hx hxt
    obtain ⟨ed, hed, hp⟩ := edge_of_entry hx
    have hr := h ed hed
    rw [if_pos (edge_touches_of_entry hp hxt), recent_of_edge hist D hed] at hr
    exact (recentEdge_none_iff hist ed.u ed.v D).mp hr x hx (SamePair.symm hp)
  · refine fun h => ⟨rfl, fun ed hed => ?_⟩
    by_cases ht : ed.touches c
    · rw [if_pos ht, recent_of_edge hist D hed, recentEdge_none_iff]
      exact fun x hx hxp => h x hx (touches_of_onPair hxp ht)
    · exact if_neg ht

theorem marketPick_filter_date {hist : List Entry} {c : Comm} {D : Int} (hg : NoCrossTies hist c D) :
    marketPick (Graph.ofHistory (hist.filter (fun e => e.date ≤ D))) c D =
      marketPick (Graph.ofHistory hist) c D := by
  have hmemF : ∀ x, x ∈ hist.filter (fun e => e.date ≤ D) ↔ x ∈ hist ∧ x.date ≤ D := fun x => by
    rw [List.mem_filter, decide_eq_true_iff]
  cases h1 : marketPick (Graph.ofHistory hist) c D with
  | none =>
    rw [marketPick_hist_none] at h1 ⊢
    exact fun x hx hxt => h1 x ((hmemF x).mp hx).1 hxt
  | some e1 =>
    obtain ⟨m1, t1, d1, mx1, r1⟩ := marketPick_hist h1
    cases h2 : marketPick (Graph.ofHistory (hist.filter (fun e => e.date ≤ D))) c D with
    | none =>
      rw [marketPick_hist_none] at h2
      exact absurd d1 (Int.not_le.mpr (h2 e1 ((hmemF e1).mpr ⟨m1, d1⟩) t1))
    | some e2 =>
      obtain ⟨m2, t2, d2, mx2, r2⟩ := marketPick_hist h2
      have m2' := ((hmemF e2).mp m2).1
      have hp : e1.onPair e2.src e2.tgt :=
        hg e1 m1 e2 m2' t1 t2 d1 d2
          (Int.le_antisymm (mx2 e1 ((hmemF e1).mpr ⟨m1, d1⟩) t1 d1) (mx1 e2 m2' t2 d2))
      rw [recentEdge_filter_date] at r2
      rcases hp with hp | hp
      · rw [hp.1, hp.2, r2] at r1; exact r1
      · rw [hp.1, hp.2, recentEdge_symm, r2] at r1; exact r1

theorem rateAlong_of_linked (re : Comm → Comm → Option Entry) (p : List Comm) (h : Linked re p) :
    ∃ r, rateAlong re p = some r := by
  induction p with
  | nil => exact ⟨1, rfl⟩
  | cons a t ih =>
    cases t with
    | nil => exact ⟨1, rfl⟩
    | cons b rest =>
      simp only [Linked] at h
      obtain ⟨r, hr⟩ := ih h.2
      obtain ⟨e, he⟩ := Option.isSome_iff_exists.mp h.1
      exact ⟨rate e b * r, by simp [rateAlong, he, hr]⟩

theorem linked_infix {re : Comm → Comm → Option Entry} : ∀ (pre : List Comm) (a b : Comm) (rest : List Comm),
    Linked re (pre ++ a :: b :: rest) → (re a b).isSome = true := by
  intro pre
  induction pre with
  | nil => intro a b rest h; simp only [List.nil_append, Linked] at h; exact h.1
  | cons x xs ih =>
    intro a b rest h
    cases xs with
    | nil => simp only [List.cons_append, List.nil_append, Linked] at h; exact h.2.1
    | cons y ys =>
      simp only [List.cons_append, Linked] at h
      exact ih a b rest h.2

theorem linked_adj {re : Comm → Comm → Option Entry} : ∀ (p : List Comm), Linked re p →
    Linked (fun a b => if (re a b).isSome then some default else none) p := by
  intro p
  induction p with
  | nil => intro _; trivial
  | cons a tl ih =>
    intro h
    cases tl with
    | nil => trivial
    | cons b rest =>
      simp only [Linked] at h ⊢
      exact ⟨by simp [h.1], ih h.2⟩

theorem linked_mem_hist {hist : List Entry} {D : Int} : ∀ (tl : List Comm) (a : Comm),
    Linked (fun x y => recentEdge hist x y D) (a :: tl) →
    ∀ x ∈ tl, ∃ e ∈ hist, e.src = x ∨ e.tgt = x := by
  intro tl
  induction tl with
  | nil => intro a _ x hx; simp at hx
  | cons b rest ih =>
    intro a h x hx
    simp only [Linked] at h
    rcases List.mem_cons.mp hx with rfl | hx
    · obtain ⟨e, he⟩ := Option.isSome_iff_exists.mp h.1
      have ⟨hm, hp, _, _⟩ := recentEdge_sound he
      refine ⟨e, hm, ?_⟩
      unfold Entry.onPair at hp
      rcases hp with hp | hp
      · exact Or.inr hp.2
      · exact Or.inl hp.1
    · exact ih b h.2 x hx

theorem firstSome_eq_some {α β : Type} {f : α → Option β} {l : List α} {r : β}
    (h : firstSome f l = some r) : ∃ x ∈ l, f x = some r := by
  induction l with
  | nil => simp [firstSome] at h
  | cons x xs ih =>
    simp only [firstSome] at h
    split at h
    · rename_i r' hr'
      cases h
      exact ⟨x, List.mem_cons_self, hr'⟩
    · obtain ⟨y, hy, hfy⟩ := ih h
      exact ⟨y, List.mem_cons_of_mem _ hy, hfy⟩

theorem firstSome_all_eq {α β : Type} (f : α → Option β) (l : List α) (n : α) (r : β)
    (hne : n ∈ l) (hall : ∀ x ∈ l, x = n) (hf : f n = some r) : firstSome f l = some r := by
  cases l with
  | nil => simp at hne
  | cons x xs =>
    have : x = n := hall x List.mem_cons_self
    subst this
    simp [firstSome, hf]

theorem dfs_sound (re : Comm → Comm → Option Entry) (V : List Comm) (tgt : Comm) :
    ∀ (fuel : Nat) (vis : List Comm) (cur : Comm) (p : List Comm),
      dfs (fun a b => (re a b).isSome) V tgt fuel vis cur = some p →
      p.head? = some cur ∧ p.getLast? = some tgt ∧ Linked re p := by
  intro fuel
  induction fuel with
  | zero => intro vis cur p h; cases h
  | succ n ih =>
    intro vis cur p h
    rw [dfs] at h
    by_cases hc : cur = tgt
    · rw [if_pos hc] at h
      cases h
      exact ⟨rfl, congrArg some hc, trivial⟩
    · rw [if_neg hc] at h
      obtain ⟨p', hp', rfl⟩ := Option.map_eq_some_iff.mp h
      obtain ⟨c, hcmem, hdfs⟩ := firstSome_eq_some hp'
      have ⟨h1, h2, h3⟩ := ih _ _ _ hdfs
      have hadj : (re cur c).isSome = true := (Bool.and_eq_true _ _ ▸ (List.mem_filter.mp hcmem).2).1
      cases p' with
      | nil => cases h1
      | cons x xs =>
        cases h1
        exact ⟨rfl, List.getLast?_cons_cons.trans h2, hadj, h3⟩

theorem chainFrom_fresh {adj : Comm → Comm → Bool} {V : List Comm} :
    ∀ (suf pre : List Comm) (cur : Comm), ChainFrom adj V pre cur suf → ∀ x ∈ suf, x ∉ cur :: pre := by
  intro suf
  induction suf with
  | nil => intro pre cur _ x hx; simp at hx
  | cons n suf ih =>
    intro pre cur h x hx
    simp only [ChainFrom] at h
    rcases List.mem_cons.mp hx with rfl | hx
    · exact h.2.2.1
    · have := ih _ _ h.2.2.2.2 x hx
      intro hmem
      exact this (List.mem_cons_of_mem _ hmem)

theorem chainFrom_ne_last {adj : Comm → Comm → Bool} {V pre : List Comm} {cur n tgt : Comm} {rest : List Comm}
    (hc : ChainFrom adj V pre cur (n :: rest)) (hl : (cur :: n :: rest).getLast? = some tgt) : cur ≠ tgt := by
  intro heq
  rw [List.getLast?_cons_cons] at hl
  exact chainFrom_fresh _ _ _ hc tgt (List.mem_of_getLast? hl) (heq ▸ List.mem_cons_self)

theorem dfs_chain (adj : Comm → Comm → Bool) (V : List Comm) (tgt : Comm) :
    ∀ (suf pre : List Comm) (cur : Comm) (fuel : Nat),
      ChainFrom adj V pre cur suf → suf.length < fuel → (cur :: suf).getLast? = some tgt →
      dfs adj V tgt fuel pre cur = some (cur :: suf) := by
  intro suf
  induction suf with
  | nil =>
    intro pre cur fuel _ hf hl
    obtain rfl : cur = tgt := Option.some.inj hl
    cases fuel with
    | zero => exact absurd hf (Nat.not_lt_zero _)
    | succ k => rw [dfs, if_pos rfl]
  | cons n suf ih =>
    intro pre cur fuel hch hf hl
    cases fuel with
    | zero => exact absurd hf (Nat.not_lt_zero _)
    | succ k =>
      have hne : cur ≠ tgt := chainFrom_ne_last hch hl
      obtain ⟨hadj, hnV, hnfresh, honly, hrest⟩ := hch
      have hrec : dfs adj V tgt k (cur :: pre) n = some (n :: suf) :=
        ih _ _ _ hrest (Nat.lt_of_succ_lt_succ hf) (List.getLast?_cons_cons ▸ hl)
      have hfs : firstSome (fun c => dfs adj V tgt k (cur :: pre) c)
          (V.filter (fun c => adj cur c && !(cur :: pre).contains c)) = some (n :: suf) := by
        apply firstSome_all_eq _ _ n _ _ _ hrec
        · refine List.mem_filter.mpr ⟨hnV, ?_⟩
          rw [hadj, Bool.true_and, Bool.not_eq_true', ← Bool.not_eq_true, List.contains_iff_mem]
          exact hnfresh
        · intro x hx
          obtain ⟨hxV, hx2⟩ := List.mem_filter.mp hx
          rw [Bool.and_eq_true, Bool.not_eq_true', ← Bool.not_eq_true, List.contains_iff_mem] at hx2
          exact (honly x hxV hx2.1).resolve_left hx2.2
      rw [dfs, if_neg hne, hfs]
      rfl

/-- On a forced chain there is only one simple path. -/
theorem chain_unique (adj : Comm → Comm → Bool) (V : List Comm) (tgt : Comm) :
    ∀ (suf pre : List Comm) (cur : Comm) (P' : List Comm),
      ChainFrom adj V pre cur suf → (cur :: suf).getLast? = some tgt → (cur :: P').getLast? = some tgt →
      Linked (fun a b => if adj a b then some default else none) (cur :: P') →
      (cur :: P').Nodup → (∀ x ∈ P', x ∈ V) → (∀ x ∈ P', x ∉ pre) → P' = suf := by
  intro suf
  induction suf with
  | nil =>
    intro pre cur P' _ hl hl' _ hnd _ _
    obtain rfl : cur = tgt := Option.some.inj hl
    cases P' with
    | nil => rfl
    | cons y ys =>
      rw [List.getLast?_cons_cons] at hl'
      exact absurd (List.mem_of_getLast? hl') (List.nodup_cons.mp hnd).1
  | cons n suf ih =>
    intro pre cur P' hch hl hl' hlink hnd hV hpre
    have hfresh := chainFrom_fresh (n :: suf) pre cur hch
    obtain ⟨_, _, _, honly, hrest⟩ := hch
    rw [List.getLast?_cons_cons] at hl
    cases P' with
    | nil =>
      obtain rfl : cur = tgt := Option.some.inj hl'
      exact absurd List.mem_cons_self (hfresh cur (List.mem_of_getLast? hl))
    | cons y ys =>
      rw [List.getLast?_cons_cons] at hl'
      obtain ⟨hcy, hlink⟩ := hlink
      have hadj : adj cur y = true := by
        by_cases h : adj cur y = true
        · exact h
        · dsimp only at hcy; rw [if_neg h] at hcy; cases hcy
      obtain ⟨hcur, hnd⟩ := List.nodup_cons.mp hnd
      have hy : y = n := by
        rcases honly y (hV y List.mem_cons_self) hadj with h | h
        · rcases List.mem_cons.mp h with rfl | h
          · exact absurd List.mem_cons_self hcur
          · exact absurd h (hpre y List.mem_cons_self)
        · exact h
      subst hy
      rw [ih (cur :: pre) y ys hrest hl hl' hlink hnd (fun x hx => hV x (List.mem_cons_of_mem _ hx))]
      intro x hx hmem
      rcases List.mem_cons.mp hmem with rfl | h
      · exact hcur (List.mem_cons_of_mem _ hx)
      · exact hpre x (List.mem_cons_of_mem _ hx) h

end Ledger.Prices
