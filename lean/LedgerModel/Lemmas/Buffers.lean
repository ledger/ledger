/-
Lemmas for C11, in this order.  The copy loops store at most `limit - w` bytes from offset `w`
(`readInto_len`, `symbolLoop_len`), exactly `take (limit - w)` on plain input (`readInto_plain`), and
`parseQuantity_len_le`.  Sites: `run_len_le`, `inBounds_of_fits`, the table check `fits_or_open`, and
an overflowing guarded copy (`guarded_overflows`).  The format scanner (`formatScan_le`, `formatScan_overread`).
Termination of the period loop (`stepTo_*`) and of alias expansion (`unseen`, `expandAliases_fuel`).
The tiny parser: its equations, the witnesses `parseExpr_nested` and `parseExpr_chain`, and the bound
`parse_depth_bound`.
-/
import LedgerModel.Model.Buffers
import LedgerModel.Lemmas.ListExtra

namespace Ledger.Buffers

/-- Every loop stops when `w < limit` fails, so past the guard `w < limit` holds. -/
theorem lt_limit_of_not_stop {stop : Bool} {w limit : Nat} (hs : ¬ w < limit → stop = true)
    (hgo : ¬ stop = true) : w < limit :=
  Decidable.by_contra fun hn => hgo (hs hn)

/-- The budget `limit - w` drops by one with every byte stored. -/
theorem stored_le_budget {n w limit : Nat} (hw : w < limit) (ih : n ≤ limit - (w + 1)) : n + 1 ≤ limit - w := by
  have h : n + (w + 1) ≤ limit := Nat.add_le_of_le_sub hw ih
  exact Nat.le_sub_of_add_le (by rw [Nat.add_right_comm]; exact h)

theorem readInto_len (limit : Nat) (cond : Char → Bool) (w : Nat) (inp : List Char) :
    (readInto limit cond w inp).1.length ≤ limit - w := by
  fun_induction readInto limit cond w inp with
  | case1 | case2 | case3 => exact Nat.zero_le _
  | case4 w d rest' hgo ih =>
    exact stored_le_budget (lt_limit_of_not_stop (fun hn => by simp [hn]) hgo) ih
  | case5 w c rest hgo _ ih =>
    exact stored_le_budget (lt_limit_of_not_stop (fun hn => by simp [hn]) hgo) ih

theorem symbolLoop_len (limit : Nat) (valid : Char → Bool) (w : Nat) (inp : List Char) :
    (symbolLoop limit valid w inp).1.length ≤ limit - w := by
  fun_induction symbolLoop limit valid w inp with
  | case1 | case2 | case3 => exact Nat.zero_le _
  | case4 w d rest' hgo ih =>
    exact stored_le_budget (lt_limit_of_not_stop (fun hn => by simp [hn]) hgo) ih
  | case5 w c rest hgo _ ih =>
    exact stored_le_budget (lt_limit_of_not_stop (fun hn => by simp [hn]) hgo) ih

theorem readInto_len_le (limit : Nat) (cond : Char → Bool) (inp : List Char) :
    (readInto limit cond 0 inp).1.length ≤ limit := readInto_len limit cond 0 inp

theorem readInto_plain (limit : Nat) (cond : Char → Bool) (w : Nat) (inp : List Char)
    (h : ∀ c ∈ inp, cond c = true ∧ c ≠ '\n' ∧ c ≠ '\\') :
    (readInto limit cond w inp).1 = inp.take (limit - w) := by
  fun_induction readInto limit cond w inp with
  | case1 => exact List.take_nil.symm
  | case2 w c rest hstop =>
    obtain ⟨hc, hnl, _⟩ := h c List.mem_cons_self
    have hw : ¬ w < limit := by simpa [hc, hnl] using hstop
    rw [Nat.sub_eq_zero_of_le (Nat.le_of_not_lt hw), List.take_zero]
  | case3 | case4 => exact absurd rfl (h '\\' List.mem_cons_self).2.2
  | case5 w c rest hgo _ ih =>
    have hw : w < limit := lt_limit_of_not_stop (fun hn => by simp [hn]) hgo
    rw [consFst_fst, ih fun c hc => h c (List.mem_cons_of_mem _ hc),
      ← Nat.succ_pred_eq_of_pos (Nat.sub_pos_of_lt hw), List.take_succ_cons]
    rfl

theorem parseQuantity_len_le (limit : Nat) (h : 1 ≤ limit) (inp : List Char) :
    (parseQuantity limit inp).1.length ≤ limit := by
  unfold parseQuantity
  split
  · next rest _ =>
    exact Nat.le_trans (Nat.succ_le_succ (readInto_len_le (limit - 1) Cond.digitDotComma.test rest))
      (Nat.le_of_eq (Nat.sub_add_cancel h))
  · exact readInto_len_le limit _ _

theorem run_len_le (s : Site) (h : s.bounded = true) (inp : List Char) :
    (s.run inp).length ≤ s.limit + s.extra := by
  unfold Site.run
  cases hk : s.kind with
  | readInto cond =>
    rw [List.length_append, List.length_replicate]
    exact Nat.add_le_add_right (readInto_len s.limit cond.test 0 inp) _
  | symbolLoop =>
    rw [List.length_append, List.length_replicate]
    exact Nat.add_le_add_right (symbolLoop_len s.limit Cond.symbolChar.test 0 inp) _
  | guardedCopy =>
    dsimp only
    split
    · exact Nat.zero_le _
    · rw [List.length_append, List.length_replicate]
      exact Nat.add_le_add_right (Nat.le_of_not_lt ‹_›) _
  | boundedCopy =>
    rw [List.length_append, List.length_replicate, List.length_take]
    exact Nat.add_le_add_right (Nat.min_le_left _ _) _
  | unboundedCopy => rw [Site.bounded, hk] at h; cases h

theorem inBounds_of_fits (s : Site) (h : s.fits = true) (inp : List Char) : s.inBounds inp := by
  rw [Site.fits, Bool.and_eq_true, decide_eq_true_eq, Site.maxWritten] at h
  have := run_len_le s h.1 inp
  unfold Site.inBounds
  omega

/-- The finite part of the safety of a table of sites: each row fits its array or is excluded by name. -/
theorem fits_or_open (l : List Site) (op : List String)
    (h : l.all (fun s => s.fits || op.contains s.name) = true) :
    ∀ s ∈ l, s.name ∉ op → s.bounded = true ∧ s.offset + s.maxWritten + s.terminator ≤ s.capacity := by
  intro s hs hn
  have hs := List.all_eq_true.mp h s hs
  rw [Bool.or_eq_true, List.contains_iff_mem] at hs
  rcases hs with hf | hm
  · rwa [Site.fits, Bool.and_eq_true, decide_eq_true_eq] at hf
  · exact absurd hm hn

/-- A guarded copy whose guard lets `inp` through stores all of it plus the extra bytes. -/
theorem guarded_overflows (s : Site) (hk : s.kind = .guardedCopy) (inp : List Char)
    (h1 : inp.length ≤ s.limit)
    (h2 : s.capacity < s.offset + inp.length + s.extra + s.terminator) : ¬ s.inBounds inp := by
  unfold Site.inBounds Site.run
  rw [hk]
  simp only [if_neg (Nat.not_lt.mpr h1), List.length_append, List.length_replicate]
  omega

theorem formatScan_le (fuel i : Nat) (inp : List Char) (h : ∀ c ∈ inp, c ≠ '\\') :
    formatScanMaxRead fuel i inp ≤ i + inp.length := by
  induction fuel generalizing i inp with
  | zero => simp only [formatScanMaxRead]; exact Nat.le_add_right _ _
  | succ f ih =>
    cases inp with
    | nil => simp only [formatScanMaxRead]; exact Nat.le_add_right _ _
    | cons c rest =>
      simp only [formatScanMaxRead, if_neg (h c List.mem_cons_self), List.length_cons]
      rw [← Nat.add_assoc, Nat.add_right_comm]
      exact ih (i + 1) rest fun c hc => h c (List.mem_cons_of_mem _ hc)

/-- A format ending in a lone backslash makes the scanner read index `length + 1`,
    one past the terminating NUL. -/
theorem formatScan_overread (pre : List Char) (h : ∀ c ∈ pre, c ≠ '\\') (i : Nat) :
    formatScanMaxRead (pre.length + 1) i (pre ++ ['\\']) = i + (pre ++ ['\\']).length + 1 := by
  induction pre generalizing i with
  | nil => rfl
  | cons c rest ih =>
    simp only [List.cons_append, List.length_cons, formatScanMaxRead, if_neg (h c List.mem_cons_self)]
    rw [ih (fun c hc => h c (List.mem_cons_of_mem _ hc)), ← Nat.add_assoc, Nat.add_right_comm i 1]

theorem stepTo_terminates (len : Nat) (hl : 0 < len) (fuel start date : Nat)
    (hf : date - start < fuel) : (stepTo len fuel start date).isSome = true := by
  induction fuel generalizing start with
  | zero => cases hf
  | succ f ih =>
    unfold stepTo
    split
    · next hlt =>
      split
      · exact ih _ (Nat.lt_of_lt_of_le (Nat.sub_lt_sub_left hlt (Nat.lt_add_of_pos_right hl))
          (Nat.le_of_lt_succ hf))
      · rfl
    · rfl

/-- With a zero length the loop `while (start < date)` never leaves: whatever the fuel,
    no answer. -/
theorem stepTo_zero_diverges (fuel start date : Nat) (h : start < date) :
    stepTo 0 fuel start date = none := by
  induction fuel with
  | zero => rfl
  | succ f ih => rw [stepTo, if_pos h, Nat.add_zero, if_pos (Nat.le_of_lt h)]; exact ih

/-- aliases not yet expanded -/
def unseen (aliases : List (String × String)) (seen : List String) : Nat :=
  aliases.countP (fun kv => !seen.contains kv.1)

theorem lookupAlias_mem {aliases : List (String × String)} {k t : String}
    (h : lookupAlias aliases k = some t) : ∃ kv ∈ aliases, kv.1 = k := by
  obtain ⟨kv, hf, _⟩ := Option.map_eq_some_iff.mp h
  have hk := List.find?_some hf
  exact ⟨kv, List.mem_of_find?_eq_some hf, of_decide_eq_true hk⟩

theorem unseen_lt {aliases : List (String × String)} {seen : List String} {k t : String}
    (hk : lookupAlias aliases k = some t) (hs : ¬ seen.contains k = true) :
    unseen aliases (k :: seen) < unseen aliases seen := by
  obtain ⟨kv, hm, rfl⟩ := lookupAlias_mem hk
  refine countP_lt_of_imp (a := kv) ?_ hm ?_ ?_
  · intro x _ hx
    rw [List.contains_cons, Bool.not_or, Bool.and_eq_true] at hx
    exact hx.2
  · rw [Bool.not_eq_true'] ; exact Bool.eq_false_iff.mpr hs
  · rw [List.contains_cons, BEq.rfl, Bool.true_or]; rfl

/-- The alias loop stops: with more fuel than there are aliases not yet expanded it never
    runs out.  Each round either stops or adds a key of the alias table to `already_seen`
    that was not there (otherwise "Infinite recursion" is thrown). -/
theorem expandAliases_fuel (aliases : List (String × String)) (recursive : Bool)
    (fuel : Nat) (seen : List String) (name : String) (h : unseen aliases seen < fuel) :
    expandAliases aliases recursive fuel seen name ≠ .outOfFuel := by
  induction fuel generalizing seen name with
  | zero => cases h
  | succ f ih =>
    -- one round on a key `k` of the table: it stops, or goes on with `k` newly seen
    have round : ∀ {k target : String} (t' : String), lookupAlias aliases k = some target →
        (if seen.contains k then AliasResult.infiniteRecursion k
          else if recursive then expandAliases aliases recursive f (k :: seen) t' else .done t') ≠ .outOfFuel := by
      intro k target t' hl
      by_cases hs : seen.contains k = true
      · rw [if_pos hs]; exact nofun
      · rw [if_neg hs]
        by_cases hr : recursive = true
        · rw [if_pos hr]
          exact ih _ _ (Nat.lt_of_lt_of_le (unseen_lt hl hs) (Nat.le_of_lt_succ h))
        · rw [if_neg hr]; exact nofun
    rw [expandAliases]
    cases hl : lookupAlias aliases name with
    | some target => exact round target hl
    | none =>
      cases hfs : firstSegment name with
      | none => exact nofun
      | some ft =>
        obtain ⟨g, tail⟩ := ft
        dsimp only
        cases hl' : lookupAlias aliases g with
        | none => exact nofun
        | some target => exact round _ hl'
theorem unseen_le (aliases : List (String × String)) (seen : List String) :
    unseen aliases seen ≤ aliases.length := List.countP_le_length

def lpCount : List Tok → Nat
  | [] => 0
  | .lp :: rest => lpCount rest + 1
  | _ :: rest => lpCount rest

theorem parseTerm_num (f : Nat) (rest : List Tok) : parseTerm (f + 1) (.num :: rest) = some (.num, rest, 0) := by
  rw [parseTerm]

theorem parseTerm_lp {f : Nat} {rest rest' : List Tok} {a : Ast} {d : Nat}
    (h : parseExpr f rest = some (a, .rp :: rest', d)) :
    parseTerm (f + 1) (.lp :: rest) = some (a, rest', d) := by
  rw [parseTerm, h]

theorem parseExpr_succ {f : Nat} {toks rest : List Tok} {a : Ast} {d : Nat}
    (h : parseTerm f toks = some (a, rest, d)) :
    parseExpr (f + 1) toks = parseRest f a rest (d + 1) := by
  rw [parseExpr, h]

theorem parseRest_plus {f : Nat} {rest rest' : List Tok} {b : Ast} {d' : Nat}
    (h : parseTerm f rest = some (b, rest', d')) (acc : Ast) (d : Nat) :
    parseRest (f + 1) acc (.plus :: rest) d = parseRest f (.add acc b) rest' (max d (d' + 1)) := by
  rw [parseRest, h]

theorem parseRest_stop (f : Nat) (acc : Ast) {toks : List Tok} (d : Nat) (h : toks.head? ≠ some .plus) :
    parseRest (f + 1) acc toks d = some (acc, toks, d) := by
  rw [parseRest]
  intro rest e
  rw [e] at h
  exact h rfl

/-- n nested parentheses around a number: the parser's recursion reaches depth n + 1. -/
theorem parseExpr_nested (n : Nat) : ∀ (f : Nat) (tail : List Tok), tail.head? ≠ some .plus →
    parseExpr (f + 2 * n + 2) (List.replicate n .lp ++ [.num] ++ List.replicate n .rp ++ tail)
      = some (.num, tail, n + 1) := by
  induction n with
  | zero =>
    intro f tail hp
    exact (parseExpr_succ (parseTerm_num f tail)).trans (parseRest_stop f .num 1 hp)
  | succ n ih =>
    intro f tail hp
    -- peel one `(` in front and move one `)` to the tail
    rw [List.replicate_succ, List.replicate_succ', ← List.append_assoc, List.append_assoc _ [Tok.rp] tail]
    exact (parseExpr_succ (parseTerm_lp (ih f (.rp :: tail) nofun))).trans (parseRest_stop _ .num _ hp)
theorem Ast.depth_pos (a : Ast) : 1 ≤ a.depth := by
  cases a
  · exact Nat.le_refl 1
  · exact Nat.le_add_right 1 _

theorem leftTree_depth (acc : Ast) (n : Nat) : (leftTree acc n).depth = acc.depth + n := by
  induction n generalizing acc with
  | zero => rfl
  | succ n ih =>
    rw [leftTree, ih, Ast.depth, show Ast.num.depth = 1 from rfl, Nat.max_eq_left acc.depth_pos,
      Nat.add_comm 1, Nat.add_right_comm, Nat.add_assoc]

theorem parseRest_plusNums (n : Nat) : ∀ (f : Nat) (acc : Ast) (d : Nat), 1 ≤ d →
    parseRest (f + n + 1) acc (plusNums n) d = some (leftTree acc n, [], d) := by
  induction n with
  | zero => intro f acc d _; exact parseRest_stop f acc d nofun
  | succ n ih =>
    intro f acc d hd
    show parseRest (f + n + 1 + 1) acc (.plus :: .num :: plusNums n) d = _
    rw [parseRest_plus (parseTerm_num (f + n) (plusNums n)), Nat.max_eq_left hd]
    exact ih f (.add acc .num) d hd

/-- A flat chain of n additions parses with constant recursion depth but yields a tree of
    depth n + 1 (every later recursive walk of the tree – compile, calc, print, the
    destructor – recurses that deep). -/
theorem parseExpr_chain (n f : Nat) :
    parseExpr (f + n + 2) (chain n) = some (leftTree .num n, [], 1) := by
  rw [chain, parseExpr_succ (parseTerm_num (f + n) (plusNums n))]
  exact parseRest_plusNums n f .num 1 (Nat.le_refl 1)

/-- Upper bound, every token list: the depth reached is at most the number of `(`
    consumed plus one.  The invariant is `d + lpCount rest ≤ d₀ + lpCount toks`: depth reported plus
    parentheses still unread never exceeds depth on entry plus parentheses on entry (`d₀ = 0` for a
    term, `1` for an expression). -/
theorem parse_depth_bound (fuel : Nat) :
    (∀ toks a r d, parseTerm fuel toks = some (a, r, d) → d + lpCount r ≤ lpCount toks) ∧
    (∀ toks a r d, parseExpr fuel toks = some (a, r, d) → d + lpCount r ≤ lpCount toks + 1) ∧
    (∀ acc toks d0 a r d, 1 ≤ d0 → parseRest fuel acc toks d0 = some (a, r, d) →
        d + lpCount r ≤ d0 + lpCount toks) := by
  induction fuel with
  | zero =>
    refine ⟨?_, ?_, ?_⟩
    · intro toks a r d h; rw [parseTerm] at h; cases h
    · intro toks a r d h; rw [parseExpr] at h; cases h
    · intro acc toks d0 a r d _ h; rw [parseRest] at h; cases h
  | succ f ih =>
    obtain ⟨ihT, ihE, ihR⟩ := ih
    refine ⟨?_, ?_, ?_⟩
    · intro toks a r d h
      unfold parseTerm at h
      split at h
      · cases h; exact Nat.le_of_eq (Nat.zero_add _)
      · split at h
        · next he =>
          cases h
          exact ihE _ _ (.rp :: r) _ he
        · cases h
      · cases h
    · intro toks a r d h
      unfold parseExpr at h
      split at h
      · next ht =>
        have h1 := ihT _ _ _ _ ht
        have h2 := ihR _ _ _ _ _ _ (Nat.le_add_left 1 _) h
        rw [Nat.add_right_comm] at h2
        exact Nat.le_trans h2 (Nat.add_le_add_right h1 1)
      · cases h
    · intro acc toks d0 a r d hd h
      unfold parseRest at h
      split at h
      · split at h
        · next rest _ _ rest' d' ht =>
          have h1 : d' + lpCount rest' ≤ lpCount rest := ihT _ _ _ _ ht
          have h2 := ihR _ _ _ _ _ _ (Nat.le_trans hd (Nat.le_max_left _ _)) h
          have hm : max d0 (d' + 1) ≤ d0 + d' :=
            Nat.max_le.mpr ⟨Nat.le_add_right _ _, Nat.add_comm d0 d' ▸ Nat.add_le_add_left hd d'⟩
          calc d + lpCount r ≤ max d0 (d' + 1) + lpCount rest' := h2
            _ ≤ d0 + d' + lpCount rest' := Nat.add_le_add_right hm _
            _ = d0 + (d' + lpCount rest') := Nat.add_assoc _ _ _
            _ ≤ d0 + lpCount rest := Nat.add_le_add_left h1 d0
        · cases h
      · cases h
        exact Nat.le_refl _

end Ledger.Buffers
