/-
MODEL COHERENCE — per-account per-commodity sums.  The account sums of C05
(`Reports.acctAmount` / `acctTotal` / `grandTotal`), of C08 (`OF.ownBalance` /
`familyBalance`) and of C17 (`Regroup.sumValue` of the plain register) denote,
for the same journal, ONE function `Coh.jsum` of the journal, an account
selector and a commodity.

The translations of a finalised journal into the three posting types:
  `Reports.posts j`            (C05: transaction + posting)
  `Coh.entriesOf j`            (C08: date, account string, amount)
  `Regroup.plainPosts {} j`    (C17: the handler's view, no limit predicate)
-/
import LedgerModel.Lemmas.OrderFree
import LedgerModel.Lemmas.ReportsTree
import LedgerModel.Lemmas.RegroupSums

namespace Ledger
namespace Coh

open OF (sumBy)

/-- what a posting contributes to commodity `c` -/
def pden (c : Comm) (p : Posting) : Rat :=
  match p.amount with
  | some a => a.den c
  | none => 0

/-- THE per-commodity sum of the journal's postings whose account satisfies `sel`. -/
def jsum (j : Journal) (sel : String → Bool) (c : Comm) : Rat :=
  sumBy (fun x : Xact => sumBy (fun p : Posting => if sel p.account then pden c p else 0) x.posts) j.xacts

/-- the journal as C08's list of entries (postings that carry an amount) -/
def entriesOf (j : Journal) : List OF.Entry :=
  j.xacts.flatMap (fun x => x.posts.filterMap (fun p => p.amount.map (fun a => (⟨x.date, p.account, a⟩ : OF.Entry))))

theorem sumDen_entriesOf (j : Journal) (sel : String → Bool) (c : Comm) :
    OF.sumDen (fun e => sel e.account) c (entriesOf j) = jsum j sel c := by
  unfold OF.sumDen entriesOf jsum
  rw [OF.sumBy_flatMap]
  apply OF.sumBy_congr
  intro x _
  rw [OF.sumBy_filterMap]
  apply OF.sumBy_congr
  intro p _
  unfold pden
  cases p.amount with
  | none => simp
  | some a => simp

theorem ownBalance_jsum (j : Journal) (a : String) (c : Comm) :
    (OF.ownBalance (entriesOf j) a).den c = jsum j (fun s => decide (s = a)) c := by
  rw [OF.ownBalance_den]
  unfold OF.coeff
  rw [← sumDen_entriesOf]

theorem familyBalance_jsum (j : Journal) (a : String) (c : Comm) :
    (OF.familyBalance (entriesOf j) a).den c = jsum j (fun s => accountUnder s a) c := by
  rw [OF.familyBalance_den, ← sumDen_entriesOf]

theorem wsum_eq_sumBy (w : Regroup.RPost → Rat) (l : List Regroup.RPost) :
    Regroup.wsum w l = sumBy w l := by
  induction l with
  | nil => rfl
  | cons p ps ih => simp only [Regroup.wsum, OF.sumBy_cons, ih]

theorem pass_default (x : Xact) (p : Posting) : ({} : Regroup.Filter).pass x p = true := by
  unfold Regroup.Filter.pass Regroup.containsCI
  simp

/-- C17's plain register, restricted to the accounts `sel`, sums to `jsum`. -/
theorem sumValue_jsum (j : Journal) (sel : String → Bool) (c : Comm) :
    (Regroup.sumValue ((Regroup.plainPosts {} j).filter (fun p => sel p.account))).den c = jsum j sel c := by
  have hq : Regroup.AllQty ((Regroup.plainPosts {} j).filter (fun p => sel p.account)) := fun p hp => by
    obtain ⟨x, _, hpx⟩ := List.mem_flatMap.1 (List.mem_filter.1 hp).1
    obtain ⟨_, a, _, hv⟩ := Regroup.mem_xactPosts hpx
    rw [hv]
    rfl
  rw [Regroup.sumValue_den _ hq]
  unfold Regroup.sumDen Regroup.sumDenBy
  rw [wsum_eq_sumBy, OF.sumBy_filter]
  unfold Regroup.plainPosts jsum
  rw [OF.sumBy_flatMap]
  apply OF.sumBy_congr
  intro x _
  unfold Regroup.xactPosts
  rw [OF.sumBy_filterMap]
  apply OF.sumBy_congr
  intro p _
  unfold pden
  cases p.amount with
  | none => simp
  | some a => simp [pass_default, Value.den]

theorem rsum_map_eq_sumBy {α : Type} (f : α → Rat) (l : List α) : Reports.rsum (l.map f) = sumBy f l := by
  induction l with
  | nil => rfl
  | cons x xs ih => simp only [List.map_cons, Reports.rsum_cons, OF.sumBy_cons, ih]

theorem valAmount_den (p : Reports.RPost) (c : Comm) : (Reports.valAmount p).den c = pden c p.post := by
  unfold Reports.valAmount pden
  cases p.post.amount with
  | none => simp [Value.den]
  | some a => rfl

/-- C05's guarded sum with the plain valuation and no limit predicate is `jsum`,
    provided the path selector `psel` and the account-string selector `sel` pick
    the same postings of this journal. -/
theorem gsum_jsum (j : Journal) (psel : Reports.Path → Bool) (sel : String → Bool) (c : Comm)
    (hsel : ∀ p ∈ Reports.posts j, psel p.path = sel p.post.account) :
    Reports.gsum Reports.valAmount (fun _ => true) c (Reports.posts j) psel = jsum j sel c := by
  unfold Reports.gsum
  rw [rsum_map_eq_sumBy]
  have hcongr : sumBy (fun p : Reports.RPost => if psel p.path = true then
        Reports.wt Reports.valAmount (fun _ => true) c p else 0) (Reports.posts j)
      = sumBy (fun p : Reports.RPost => if sel p.post.account then pden c p.post else 0) (Reports.posts j) := by
    apply OF.sumBy_congr
    intro p hp
    rw [hsel p hp]
    unfold Reports.wt
    simp only [if_true, valAmount_den]
  rw [hcongr]
  unfold Reports.posts jsum
  rw [OF.sumBy_flatMap]
  apply OF.sumBy_congr
  intro x _
  rw [OF.sumBy_map]

/-- the path the C05 model files a posting to account `a` under -/
def pathOf (a : String) : Reports.Path := if accountPath a = [] then [a] else accountPath a

theorem path_eq_pathOf (p : Reports.RPost) : p.path = pathOf p.post.account := rfl

/-- DOMAIN GUARD (decidable): among the postings of `j`, "same path as `a`" and
    "same account string as `a`" coincide.  (It holds for every journal — `splitOn ":"`
    is injective — but core Lean has no lemmas about `String.splitOn`; it is
    therefore a checked hypothesis, not a proved fact.) -/
def pathFaithful (j : Journal) (a : String) : Bool :=
  (Reports.posts j).all (fun p => decide (p.path = pathOf a) == decide (p.post.account = a))

/-- DOMAIN GUARD (decidable): "path below `a`" and `accountUnder · a` coincide on `j`. -/
def underFaithful (j : Journal) (a : String) : Bool :=
  (Reports.posts j).all (fun p => Reports.under (pathOf a) p.path == accountUnder p.post.account a)

theorem acctAmount_jsum (j : Journal) (a : String) (c : Comm) (r : Value)
    (hg : pathFaithful j a = true)
    (h : Reports.acctAmount Reports.valAmount (fun _ => true) (Reports.posts j) (pathOf a) = .ok r) :
    r.den c = jsum j (fun s => decide (s = a)) c := by
  rw [Reports.acctAmount_den _ _ c _ _ r h]
  apply gsum_jsum
  intro p hp
  unfold pathFaithful at hg
  have := List.all_eq_true.1 hg p hp
  simpa using this

theorem acctTotal_jsum (j : Journal) (a : String) (c : Comm) (r : Value)
    (hg : underFaithful j a = true)
    (h : Reports.acctTotal Reports.valAmount (fun _ => true) (Reports.posts j) (pathOf a) = .ok r) :
    r.den c = jsum j (fun s => accountUnder s a) c := by
  rw [Reports.acctTotal_den _ _ c _ _ r h]
  apply gsum_jsum
  intro p hp
  unfold underFaithful at hg
  have := List.all_eq_true.1 hg p hp
  simpa using this

/-- without any guard: C05 groups by the PATH of the account string -/
theorem acctAmount_jsum_path (j : Journal) (q : Reports.Path) (c : Comm) (r : Value)
    (h : Reports.acctAmount Reports.valAmount (fun _ => true) (Reports.posts j) q = .ok r) :
    r.den c = jsum j (fun s => decide (pathOf s = q)) c := by
  rw [Reports.acctAmount_den _ _ c _ _ r h]
  apply gsum_jsum
  intro p _
  rw [path_eq_pathOf]

theorem acctTotal_jsum_path (j : Journal) (q : Reports.Path) (c : Comm) (r : Value)
    (h : Reports.acctTotal Reports.valAmount (fun _ => true) (Reports.posts j) q = .ok r) :
    r.den c = jsum j (fun s => Reports.under q (pathOf s)) c := by
  rw [Reports.acctTotal_den _ _ c _ _ r h]
  apply gsum_jsum
  intro p _
  rw [path_eq_pathOf]

/-- the balance report's grand total (code-shaped recursion over the account tree) -/
theorem grandTotal_jsum (j : Journal) (c : Comm) (r : Value)
    (h : Reports.grandTotal Reports.valAmount (fun _ => true) (Reports.posts j) = .ok r) :
    r.den c = jsum j (fun _ => true) c := by
  unfold Reports.grandTotal at h
  rw [Reports.acctTotalRec_den _ _ c _ _ [] r (by simp) h]
  apply gsum_jsum
  intro p _
  exact Reports.under_nil p.path

end Coh
end Ledger
