/-
The interval machine of Model/Period.lean (resolve_end, operator++, stabilize, find_period, the
interval_posts walk), for Props/C13.lean.  In file order: facts about `clipTo`, `clippedStart`
and the date sort and the sums of the model; the invariant `Inv` of a stabilized interval and
the two outcomes of `++` on it (`incr_cases`); the interval after `k + 1` increments in closed
form (`iter_succ`), with `iter_after` (a later interval starts at or after an earlier end) and
`iter_starts`; `cover_exists` (some interval contains the date); `Fresh`, the interval
as the parser leaves it, the `stabilize` loop on it (`stabLoop_spec`) and `stabilize_spec`;
`find_period` (`scanLoop_true`, `findPeriod_fresh`, `withinPeriod_eq`); the walk over the
postings (`seek_spec`, `walk_spec`) and `flush_spec`.
-/
import LedgerModel.Lemmas.Period
import LedgerModel.Lemmas.ListExtra

namespace Ledger.Period
open Ledger.Cal Ledger.PCal

theorem clipTo_idem (e : Int) (f : Option Int) : clipTo (clipTo e f) f = clipTo e f := by
  cases f with
  | none => rfl
  | some f => simp only [clipTo]; split <;> simp_all <;> omega

theorem clipTo_le (e : Int) (f : Option Int) : clipTo e f ≤ e := by
  cases f with
  | none => simp [clipTo]
  | some f => simp only [clipTo]; split <;> omega

theorem clipTo_lt {d e : Int} {f : Option Int} (h : d < e) (hf : ∀ x, f = some x → d < x) : d < clipTo e f := by
  cases f with
  | none => simpa [clipTo] using h
  | some f => have := hf f rfl; simp only [clipTo]; split <;> omega

theorem clipTo_of_lt {x : Int} {fin : Option Int} (h : ∀ f, fin = some f → x < f) : clipTo x fin = x := by
  cases fin with
  | none => rfl
  | some f => have := h f rfl; simp only [clipTo]; rw [if_neg (Int.lt_asymm this)]

theorem clipTo_of_clipTo_lt {x : Int} {fin : Option Int} (h : ∀ f, fin = some f → clipTo x fin < f) :
    clipTo x fin = x := by
  cases fin with
  | none => rfl
  | some f =>
    have := h f rfl
    simp only [clipTo] at this ⊢
    split at this
    · omega
    · rw [if_neg (by assumption)]

theorem le_of_not_lt_clipTo {d x : Int} {fin : Option Int} (hdf : ∀ f, fin = some f → d < f)
    (h : ¬ d < clipTo x fin) : x ≤ d := by
  cases fin with
  | none => simp only [clipTo] at h; omega
  | some f => have := hdf f rfl; simp only [clipTo] at h; split at h <;> omega

theorem clipTo_cases (x : Int) (re : Option Int) :
    clipTo x re = x ∨ (re = some (clipTo x re) ∧ clipTo x re < x) := by
  cases re with
  | none => left; rfl
  | some f =>
    simp only [clipTo]
    split
    · right; exact ⟨rfl, by omega⟩
    · left; rfl

theorem afterFinish_false {fin : Option Int} {d : Int} (h : ∀ f, fin = some f → d < f) : afterFinish fin d = false := by
  cases fin with
  | none => rfl
  | some f => have := h f rfl; simp [afterFinish]; omega

/-- the start after `stabilize`: the unclipped start `u`, or the `from` bound when later -/
def clippedStart (u : Int) : Option Int → Int
  | some b => if u < b then b else u
  | none => u

theorem clippedStart_le (u d : Int) (rb : Option Int) (hu : u ≤ d) (hb : ∀ b, rb = some b → b ≤ d) :
    clippedStart u rb ≤ d := by
  cases rb with
  | none => exact hu
  | some b => have := hb b rfl; simp only [clippedStart]; split <;> omega

theorem le_clippedStart (u : Int) (rb : Option Int) : u ≤ clippedStart u rb := by
  cases rb with
  | none => exact Int.le_refl _
  | some b => simp only [clippedStart]; split <;> omega

theorem clippedStart_cases (u : Int) (rb : Option Int) :
    clippedStart u rb = u ∨ (rb = some (clippedStart u rb) ∧ u < clippedStart u rb) := by
  cases rb with
  | none => left; rfl
  | some b =>
    simp only [clippedStart]
    split
    · right; rename_i h; exact ⟨rfl, h⟩
    · left; rfl

theorem insertByDate_cons (p q : Nat × Int) (qs : List (Nat × Int)) : insertByDate p (q :: qs) =
    if decide (p.2 < q.2) then p :: q :: qs else q :: insertByDate p qs := by
  simp only [insertByDate, decide_eq_true_eq]

theorem sortByDate_perm (l : List (Nat × Int)) : (sortByDate l).Perm l := by
  have := foldl_ins_perm (ins := insertByDate) (fun _ => rfl) insertByDate_cons l []
  rwa [List.append_nil] at this

theorem sortByDate_sorted (l : List (Nat × Int)) : (sortByDate l).Pairwise (fun a b => a.2 ≤ b.2) :=
  foldl_ins_pairwise (ins := insertByDate) (fun _ => rfl) insertByDate_cons
    (fun _ _ h => Int.le_of_lt (of_decide_eq_true h))
    (fun _ _ h => Int.not_lt.mp (of_decide_eq_false h)) (fun _ _ _ => Int.le_trans) l List.Pairwise.nil

theorem total_append {α : Type} (f : α → Rat) (l m : List α) : total f (l ++ m) = total f l + total f m := by
  induction l with
  | nil => simp only [List.nil_append, total, Rat.zero_add]
  | cons x xs ih => simp only [List.cons_append, total, ih, Rat.add_assoc]

theorem total_perm {α : Type} (f : α → Rat) {l m : List α} (h : l.Perm m) : total f l = total f m := by
  induction h with
  | nil => rfl
  | cons x _ ih => simp only [total, ih]
  | swap x y l => simp only [total]; rw [← Rat.add_assoc, ← Rat.add_assoc, Rat.add_comm (f y)]
  | trans _ _ ih1 ih2 => exact ih1.trans ih2

theorem total_flatMap {α β : Type} (f : β → Rat) (g : α → List β) (l : List α) :
    total f (l.flatMap g) = total (fun a => total f (g a)) l := by
  induction l with
  | nil => rfl
  | cons x xs ih => simp only [List.flatMap_cons, total_append, total, ih]

/-- What holds of every interval once `stabilize` has run (and is kept by `++`):
    `end_of_duration` is already cut at `finish`; a started interval has a `next`
    strictly after its start, and `end_of_duration = min(next, finish)`. -/
structure Inv (iv : Interval) : Prop where
  aligned : iv.aligned = true
  pos : 0 < iv.duration.length
  clipped : ∀ e, iv.eod = some e → clipTo e iv.finish = e
  started : ∀ s, iv.start = some s → ∃ nx, iv.next = some nx ∧ s < nx ∧ iv.eod = some (clipTo nx iv.finish)

theorem resolveEnd_of_inv {iv : Interval} (h : Inv iv) : resolveEnd iv = iv := by
  obtain ⟨rb, re, st, fi, al, nx, du, eo, si⟩ := iv
  have hc := h.clipped
  have hs := h.started
  simp only at hc hs
  cases st with
  | none =>
    cases eo with
    | none => simp [resolveEnd]
    | some e => simp [resolveEnd, hc e rfl]
  | some s =>
    obtain ⟨n', h1, h2, h3⟩ := hs s rfl
    subst h1; subst h3
    simp [resolveEnd, clipTo_idem]

/-- `++` on a stabilized, started interval whose `next` is before `finish`: the new
    interval starts at `next` and ends one duration later (cut at `finish`). -/
theorem incr_step {iv : Interval} (h : Inv iv) {s nx : Int} (hs : iv.start = some s) (hn : iv.next = some nx)
    (hlt : ∀ f, iv.finish = some f → nx < f) :
    incr iv = .ok { iv with start := some nx, eod := some (clipTo (iv.duration.add nx) iv.finish),
                            next := some (clipTo (iv.duration.add nx) iv.finish) } := by
  unfold incr
  rw [hs]; simp only
  rw [resolveEnd_of_inv h, hn]; simp only
  obtain ⟨rb, re, st, fi, al, nx', du, eo, si⟩ := iv
  simp only at hs hn hlt ⊢
  subst hs; subst hn
  cases fi with
  | none => simp [resolveEnd, clipTo, reachedFinish]
  | some f =>
    have := hlt f rfl
    have hnp : ¬ (f ≤ nx) := Int.not_le.2 this
    simp [resolveEnd, hnp, reachedFinish]

/-- `++` when `next` has reached `finish`: the interval becomes unstarted. -/
theorem incr_stop {iv : Interval} (h : Inv iv) {s nx f : Int} (hs : iv.start = some s) (hn : iv.next = some nx)
    (hf : iv.finish = some f) (hge : f ≤ nx) :
    incr iv = .ok { iv with start := none, next := none } := by
  unfold incr
  rw [hs]; simp only
  rw [resolveEnd_of_inv h, hn]; simp only
  have hc := h.clipped
  obtain ⟨rb, re, st, fi, al, nx', du, eo, si⟩ := iv
  simp only at hs hn hf hc ⊢
  subst hs; subst hn; subst hf
  cases eo with
  | none => simp [resolveEnd, hge, reachedFinish]
  | some e => simp [resolveEnd, hge, hc e rfl, reachedFinish]

theorem incr_unstarted {iv : Interval} (hs : iv.start = none) : incr iv = .error .unstarted := by
  unfold incr; rw [hs]

theorem inv_incr_step {iv : Interval} (h : Inv iv) {nx : Int} (hlt : ∀ f, iv.finish = some f → nx < f) :
    Inv { iv with start := some nx, eod := some (clipTo (iv.duration.add nx) iv.finish),
                  next := some (clipTo (iv.duration.add nx) iv.finish) } where
  aligned := h.aligned
  pos := h.pos
  clipped := by intro e he; simp only at he ⊢; cases he; exact clipTo_idem _ _
  started := by
    intro s hs; simp only at hs ⊢; cases hs
    exact ⟨_, rfl, clipTo_lt (add_strict_mono _ _ h.pos) hlt, by rw [clipTo_idem]⟩

theorem incr_cases {iv iv' : Interval} (h : Inv iv) (hi : incr iv = .ok iv') :
    ∃ s nx, iv.start = some s ∧ iv.next = some nx ∧ s < nx ∧ iv.eod = some (clipTo nx iv.finish) ∧
      (((∀ f, iv.finish = some f → nx < f) ∧
          iv' = { iv with start := some nx, eod := some (clipTo (iv.duration.add nx) iv.finish),
                          next := some (clipTo (iv.duration.add nx) iv.finish) }) ∨
       ((∃ f, iv.finish = some f ∧ f ≤ nx) ∧ iv' = { iv with start := none, next := none })) := by
  cases hst : iv.start with
  | none => unfold incr at hi; rw [hst] at hi; cases hi
  | some s =>
    obtain ⟨nx, hn, hlt, he⟩ := h.started s hst
    refine ⟨s, nx, rfl, hn, hlt, he, ?_⟩
    by_cases hc : ∀ f, iv.finish = some f → nx < f
    · rw [incr_step h hst hn hc] at hi; cases hi
      exact Or.inl ⟨hc, rfl⟩
    · cases hf : iv.finish with
      | none => exact absurd (fun f hf' => by rw [hf] at hf'; cases hf') hc
      | some f =>
        have hge : f ≤ nx :=
          Int.not_lt.1 fun hlt' => hc fun f' hf' => by rw [hf] at hf'; cases hf'; exact hlt'
        rw [incr_stop h hst hn hf hge] at hi; cases hi
        exact Or.inr ⟨⟨f, rfl, hge⟩, by rw [hf]⟩

theorem inv_incr {iv iv' : Interval} (h : Inv iv) (hi : incr iv = .ok iv') : Inv iv' := by
  obtain ⟨s, nx, _, _, _, _, hc⟩ := incr_cases h hi
  rcases hc with ⟨hlt, rfl⟩ | ⟨_, rfl⟩
  · exact inv_incr_step h hlt
  · exact ⟨h.aligned, h.pos, h.clipped, fun s hs => by cases hs⟩

theorem iter_succ_ok {k : Nat} {iv ivk : Interval} (hi : iter (k + 1) iv = .ok ivk) :
    ∃ iv1, incr iv = .ok iv1 ∧ iter k iv1 = .ok ivk := by
  simp only [iter] at hi
  cases hinc : incr iv with
  | error e => rw [hinc] at hi; cases hi
  | ok iv1 => rw [hinc] at hi; exact ⟨iv1, rfl, hi⟩

theorem inv_iter (k : Nat) : ∀ {iv ivk : Interval}, Inv iv → iter k iv = .ok ivk → Inv ivk := by
  induction k with
  | zero => intro iv ivk h hi; cases hi; exact h
  | succ k ih =>
    intro iv ivk h hi
    obtain ⟨iv1, hinc, hi⟩ := iter_succ_ok hi
    exact ih (inv_incr h hinc) hi

theorem iter_add (j k : Nat) : ∀ iv : Interval,
    iter (j + k) iv = (match iter j iv with | .ok ivj => iter k ivj | .error e => .error e) := by
  induction j with
  | zero => intro iv; simp [iter]
  | succ j ih =>
    intro iv
    have e : j + 1 + k = (j + k) + 1 := by omega
    rw [e]; simp only [iter]
    cases incr iv with
    | error e => rfl
    | ok iv1 => exact ih iv1

theorem iter_fields (k : Nat) : ∀ {iv ivk : Interval}, Inv iv → iter k iv = .ok ivk →
    ivk.finish = iv.finish ∧ ivk.duration = iv.duration := by
  induction k with
  | zero => intro iv ivk _ hk; cases hk; exact ⟨rfl, rfl⟩
  | succ k ih =>
    intro iv ivk h hk
    obtain ⟨iv1, hinc, hk⟩ := iter_succ_ok hk
    have := ih (inv_incr h hinc) hk
    obtain ⟨_, _, _, _, _, _, hc⟩ := incr_cases h hinc
    rcases hc with ⟨_, rfl⟩ | ⟨_, rfl⟩ <;> exact this

/-- k durations after `v` -/
def stepsFrom (dur : Duration) : Nat → Int → Int
  | 0, v => v
  | k + 1, v => stepsFrom dur k (dur.add v)

theorem stepsFrom_aligned (sow : Int) (dur : Duration) (k : Nat) : ∀ (v : Int),
    AlignedDate sow dur.quantum v → AlignedDate sow dur.quantum (stepsFrom dur k v) := by
  induction k with
  | zero => exact fun _ h => h
  | succ k ih => exact fun v h => ih _ (add_aligned sow dur v h)

/-- The interval after `k + 1` increments, if started: it starts `k` durations after the first
    `next`, before `finish`, and ends one duration later (cut at `finish`). -/
theorem iter_succ (k : Nat) : ∀ {iv ivk : Interval} {sk : Int}, Inv iv → iter (k + 1) iv = .ok ivk →
    ivk.start = some sk →
    ∃ nx, iv.next = some nx ∧ iv.eod = some (clipTo nx iv.finish) ∧ sk = stepsFrom iv.duration k nx ∧
      nx ≤ sk ∧ (∀ f, iv.finish = some f → sk < f) ∧
      ivk = { iv with start := some sk, eod := some (clipTo (iv.duration.add sk) iv.finish),
                      next := some (clipTo (iv.duration.add sk) iv.finish) } := by
  induction k with
  | zero =>
    intro iv ivk sk h hi hs
    obtain ⟨iv1, hinc, hi⟩ := iter_succ_ok hi
    cases hi
    obtain ⟨s, nx, _, hn, _, heod, hc⟩ := incr_cases h hinc
    rcases hc with ⟨hltf, rfl⟩ | ⟨_, rfl⟩
    · cases hs; exact ⟨_, hn, heod, rfl, Int.le_refl _, hltf, rfl⟩
    · cases hs
  | succ k ih =>
    intro iv ivk sk h hi hs
    obtain ⟨iv1, hinc, hi⟩ := iter_succ_ok hi
    obtain ⟨nx1, hn1, _, hsk, hle, hlt, hivk⟩ := ih (inv_incr h hinc) hi hs
    obtain ⟨s, nx, _, hn, _, heod, hc⟩ := incr_cases h hinc
    rcases hc with ⟨hltf, rfl⟩ | ⟨_, rfl⟩
    · cases hn1
      -- `sk` is before `finish`, so the `next` of the stepped interval was not cut there
      have e : clipTo (iv.duration.add nx) iv.finish = iv.duration.add nx :=
        clipTo_of_clipTo_lt (fun f hf => Int.lt_of_le_of_lt hle (hlt f hf))
      rw [e] at hsk hle
      have := add_strict_mono iv.duration nx h.pos
      exact ⟨nx, hn, heod, hsk, Int.le_trans (Int.le_of_lt this) hle, hlt, hivk⟩
    · cases hn1

/-- A later interval of the sequence starts at or after the end of an earlier one: seen from
    interval `k'` the starts only move forward from its `next` (`iter_succ`). -/
theorem iter_after {iv ivk ivk' : Interval} {k k' : Nat} {e s : Int} (h : Inv iv) (hlt : k' < k)
    (hk' : iter k' iv = .ok ivk') (he : ivk'.eod = some e) (hk : iter k iv = .ok ivk)
    (hs : ivk.start = some s) : e ≤ s := by
  obtain ⟨j, rfl⟩ : ∃ j, k = k' + (j + 1) := ⟨k - k' - 1, by omega⟩
  rw [iter_add, hk'] at hk
  obtain ⟨nx, _, heod, _, hle, _⟩ := iter_succ j (inv_iter k' h hk') hk hs
  rw [he] at heod; cases heod
  exact Int.le_trans (clipTo_le _ _) hle

/-- If the current `next` is one duration after `v` (possibly cut at `finish`), the start
    after k+1 increments is k+1 durations after `v`. -/
theorem iter_starts (k : Nat) {iv ivk : Interval} {v s : Int} (h : Inv iv)
    (hnx : iv.next = some (iv.duration.add v) ∨ iv.next = some (clipTo (iv.duration.add v) iv.finish))
    (hi : iter (k + 1) iv = .ok ivk) (hs : ivk.start = some s) : s = stepsFrom iv.duration (k + 1) v := by
  obtain ⟨nx, hn, _, hsk, hle, hlt, _⟩ := iter_succ k h hi hs
  have e : nx = iv.duration.add v := by
    rcases hnx with hnx | hnx <;> rw [hn] at hnx <;> cases hnx
    · rfl
    · exact clipTo_of_clipTo_lt (fun f hf => Int.lt_of_le_of_lt hle (hlt f hf))
  subst e; exact hsk

/-- a step forward that stays at or before the date shortens the distance to it -/
theorem gap_lt {d s s' : Int} (h : s < s') (h' : s' ≤ d) : gap d s' < gap d s := by
  simp only [gap]; omega

/-- Some interval of the sequence contains a date between the first start and `finish`
    (the existence half of `C13.intervals_cover_unique`).  Induction on a bound `n` for the
    distance `gap d s` from the current start to the date, which every `++` shortens. -/
theorem cover_exists (d : Int) (n : Nat) : ∀ {iv : Interval} {s : Int}, Inv iv → iv.start = some s → s ≤ d →
    (∀ f, iv.finish = some f → d < f) → gap d s ≤ n →
    ∃ k ivk sk ek, iter k iv = .ok ivk ∧ ivk.start = some sk ∧ ivk.eod = some ek ∧ sk ≤ d ∧ d < ek := by
  induction n with
  | zero =>
    intro iv s h hs hsd hdf hg
    obtain ⟨nx, hn, hlt, he⟩ := h.started s hs
    refine ⟨0, iv, s, _, rfl, hs, he, hsd, Classical.byContradiction fun hin => ?_⟩
    exact absurd (Nat.lt_of_lt_of_le (gap_lt hlt (le_of_not_lt_clipTo hdf hin)) hg) (Nat.not_lt_zero _)
  | succ n ih =>
    intro iv s h hs hsd hdf hg
    obtain ⟨nx, hn, hlt, he⟩ := h.started s hs
    by_cases hin : d < clipTo nx iv.finish
    · exact ⟨0, iv, s, _, rfl, hs, he, hsd, hin⟩
    · have hnd := le_of_not_lt_clipTo hdf hin
      have hltf : ∀ f, iv.finish = some f → nx < f := fun f hf => Int.lt_of_le_of_lt hnd (hdf f hf)
      have hg' : gap d nx ≤ n := Nat.le_of_lt_succ (Nat.lt_of_lt_of_le (gap_lt hlt hnd) hg)
      obtain ⟨k, ivk, sk, ek, hk, r⟩ := ih (inv_incr_step h hltf) rfl hnd hdf hg'
      refine ⟨k + 1, ivk, sk, ek, ?_, r⟩
      simp only [iter]; rw [incr_step h hs hn hltf]; exact hk

/-- The interval as the period parser leaves it: only range, duration and `since_specified`. -/
structure Fresh (iv : Interval) : Prop where
  start : iv.start = none
  finish : iv.finish = none
  aligned : iv.aligned = false
  next : iv.next = none
  eod : iv.eod = none

theorem fresh_interval (p : Period) (d : Duration) : Fresh (p.interval d) := ⟨rfl, rfl, rfl, rfl, rfl⟩

/-- `++` inside the `stabilize` loop (no `finish` yet): one duration forward. -/
theorem incr_unbounded (iv0 : Interval) (hf : iv0.finish = none) (s : Int) (x : Option Int)
    (hx : x = none ∨ x = some (iv0.duration.add s)) :
    incr { iv0 with start := some s, eod := x, next := x } =
      .ok { iv0 with start := some (iv0.duration.add s), eod := some (iv0.duration.add (iv0.duration.add s)),
                     next := some (iv0.duration.add (iv0.duration.add s)) } := by
  obtain ⟨rb, re, st, fi, al, nx', du, eo, si⟩ := iv0
  simp only at hf hx ⊢
  subst hf
  rcases hx with rfl | rfl <;> simp [incr, resolveEnd, clipTo, reachedFinish]

/-- The `while (*start < *date)` loop: with a positive length and enough fuel for the
    measure `date - start` it ends on the last step start `u ≤ date`, with `date < add u`. -/
theorem stabLoop_spec (sow : Int) (iv0 : Interval) (hf : iv0.finish = none) (hpos : 0 < iv0.duration.length) (d : Int)
    (fuel : Nat) : ∀ (s : Int) (x : Option Int), s ≤ d → gap d s + 1 ≤ fuel →
      (x = none ∨ x = some (iv0.duration.add s)) →
      ∃ u y, stabLoop d fuel { iv0 with start := some s, eod := x, next := x } =
               .ok { iv0 with start := some u, eod := y, next := y } ∧
             s ≤ u ∧ u ≤ d ∧ d < iv0.duration.add u ∧ (y = none ∨ y = some (iv0.duration.add u)) ∧
             (AlignedDate sow iv0.duration.quantum s → AlignedDate sow iv0.duration.quantum u) := by
  induction fuel with
  | zero => intro s x _ hfuel _; exact absurd hfuel (Nat.not_succ_le_zero _)
  | succ fuel ih =>
    intro s x hsd hfuel hx
    have hmono := add_strict_mono iv0.duration s hpos
    simp only [stabLoop]
    by_cases hlt : s < d
    · simp only [hlt, if_true]
      rw [incr_unbounded iv0 hf s x hx]
      simp only
      by_cases hle : iv0.duration.add s ≤ d
      · simp only [hle, if_true]
        have hg : gap d (iv0.duration.add s) + 1 ≤ fuel := Nat.le_of_succ_le_succ (Nat.le_trans (Nat.succ_le_succ (gap_lt hmono hle)) hfuel)
        obtain ⟨u, y, h1, h2, h3, h4, h5, h7⟩ :=
          ih (iv0.duration.add s) (some (iv0.duration.add (iv0.duration.add s))) hle hg (Or.inr rfl)
        exact ⟨u, y, h1, Int.le_trans (Int.le_of_lt hmono) h2, h3, h4, h5,
          fun ha => h7 (add_aligned sow iv0.duration s ha)⟩
      · simp only [hle, if_false]
        exact ⟨s, none, rfl, Int.le_refl _, hsd, Int.not_le.1 hle, Or.inl rfl, id⟩
    · simp only [hlt, if_false]
      exact ⟨s, x, rfl, Int.le_refl _, hsd, Int.lt_of_le_of_lt (Int.not_lt.1 hlt) hmono, hx, id⟩

/-- With length 0 no amount of fuel lets the `stabilize` loop finish when the first
    candidate start lies before the date: the C++ loop does not terminate. -/
theorem stabLoop_zero_diverges (iv0 : Interval) (hf : iv0.finish = none) (hz : iv0.duration.length = 0)
    (d s : Int) (hlt : s < d) (fuel : Nat) :
    ∀ (x : Option Int), (x = none ∨ x = some (iv0.duration.add s)) →
      stabLoop d fuel { iv0 with start := some s, eod := x, next := x } = .error .diverges := by
  induction fuel with
  | zero => exact fun _ _ => rfl
  | succ fuel ih =>
    intro x hx
    simp only [stabLoop, hlt, if_true]
    rw [incr_unbounded iv0 hf s x hx]
    have ha : iv0.duration.add s = s := add_zero_length _ _ hz
    simp only [ha]
    have hle : s ≤ d := Int.le_of_lt hlt
    simp only [hle, if_true]
    exact ih (some s) (Or.inr (by rw [ha]))

/-- First candidate start: at or before the date; the date itself when anchored
    (`--align-intervals` with a `from` date), otherwise an aligned date. -/
theorem baseStart_spec (sow : Int) (h0 : 0 ≤ sow) (h6 : sow ≤ 6) (align : Bool) (iv : Interval)
    (hpos : 0 < iv.duration.length) (d : Int) :
    ∃ b0, baseStart sow align iv d = .ok b0 ∧ b0 ≤ d ∧
      ((align && iv.sinceSpecified) = true → b0 = d) ∧
      ((align && iv.sinceSpecified) = false → AlignedDate sow iv.duration.quantum b0) := by
  cases hc : (align && iv.sinceSpecified)
  · -- not anchored
    cases hq : iv.duration.quantum
    · exact ⟨d, by simp [baseStart, hq], Int.le_refl _, (by intro h; cases h), fun _ => trivial⟩
    · have hp : ¬ ((iv.duration.length : Int) * 7 = 0) := by omega
      refine ⟨findNearest sow (d - ((iv.duration.length : Int) * 7 + 400 % ((iv.duration.length : Int) * 7))) .weeks,
        by simp [baseStart, hq, hc, hp], ?_, (by intro h; cases h), fun _ => findNearest_aligned sow _ .weeks h0 h6⟩
      have h1 := findNearest_le sow (d - ((iv.duration.length : Int) * 7 + 400 % ((iv.duration.length : Int) * 7))) .weeks
      have h2 : 0 ≤ 400 % ((iv.duration.length : Int) * 7) := Int.emod_nonneg _ hp
      omega
    · exact ⟨findNearest sow d .months, by simp [baseStart, hq, hc], findNearest_le sow d _, (by intro h; cases h),
        fun _ => findNearest_aligned sow d _ h0 h6⟩
    · exact ⟨findNearest sow d .quarters, by simp [baseStart, hq, hc], findNearest_le sow d _, (by intro h; cases h),
        fun _ => findNearest_aligned sow d _ h0 h6⟩
    · exact ⟨findNearest sow d .years, by simp [baseStart, hq, hc], findNearest_le sow d _, (by intro h; cases h),
        fun _ => findNearest_aligned sow d _ h0 h6⟩
  · -- anchored at the date
    refine ⟨d, ?_, Int.le_refl _, fun _ => rfl, (by intro h; cases h)⟩
    cases hq : iv.duration.quantum <;> simp [baseStart, hq, hc]

/-- `stabilize` on a fresh interval, computed: the result as an explicit record.  `stabilize_spec`
    reads the fields off it and adds the invariant. -/
theorem stabilize_fresh_eq (sow : Int) (h0 : 0 ≤ sow) (h6 : sow ≤ 6) (align : Bool) (iv0 : Interval) (hfr : Fresh iv0)
    (hpos : 0 < iv0.duration.length) (d : Int) :
    ∃ u nx,
      stabilize sow (some d) align iv0 =
        .ok { iv0 with start := some (clippedStart u iv0.rangeBegin), finish := iv0.rangeEnd, aligned := true,
                       eod := some (clipTo (iv0.duration.add u) iv0.rangeEnd), next := some nx } ∧
      (nx = iv0.duration.add u ∨ nx = clipTo (iv0.duration.add u) iv0.rangeEnd) ∧
      u ≤ d ∧ d < iv0.duration.add u ∧
      ((align && iv0.sinceSpecified) = true → u = d) ∧
      ((align && iv0.sinceSpecified) = false → AlignedDate sow iv0.duration.quantum u) := by
  obtain ⟨b0, hb, hb0, hb1, hb2⟩ := baseStart_spec sow h0 h6 align iv0 hpos d
  obtain ⟨h1, h2, h3, h4, h5⟩ := hfr
  obtain ⟨rb, re, st, fi, al, nx', du, eo, si⟩ := iv0
  simp only at h1 h2 h3 h4 h5 hpos hb hb1 hb2 ⊢
  subst h1 h2 h3 h4 h5
  obtain ⟨u, y, hl, hu0, hu1, hu2, hy, hal⟩ :=
    stabLoop_spec sow ⟨rb, re, none, none, false, none, du, none, si⟩ rfl hpos d (gap d b0 + 1) b0 none hb0 (Nat.le_refl _) (Or.inl rfl)
  simp only at hl hu2 hy hal
  simp only [stabilize, Interval.begin, Interval.end, hb, hl]
  have hA : (align && si) = true → u = d := fun hc => Int.le_antisymm hu1 (hb1 hc ▸ hu0)
  have hB : (align && si) = false → AlignedDate sow du.quantum u := fun hc => hal (hb2 hc)
  rcases hy with rfl | rfl
  · -- the loop left `end_of_duration` and `next` unset
    cases rb with
    | none =>
      refine ⟨u, clipTo (du.add u) re, ?_, Or.inr rfl, hu1, hu2, hA, hB⟩
      cases re <;> simp [clipStart, clipFinish, resolveEnd, clippedStart, clipTo]
    | some b =>
      by_cases hub : u < b
      · refine ⟨u, du.add u, ?_, Or.inl rfl, hu1, hu2, hA, hB⟩
        cases re <;> simp [clipStart, clipFinish, resolveEnd, clippedStart, clipTo, hub]
      · refine ⟨u, clipTo (du.add u) re, ?_, Or.inr rfl, hu1, hu2, hA, hB⟩
        cases re <;> simp [clipStart, clipFinish, resolveEnd, clippedStart, clipTo, hub]
  · -- the loop stopped exactly on the date after at least one step
    refine ⟨u, du.add u, ?_, Or.inl rfl, hu1, hu2, hA, hB⟩
    cases rb with
    | none => cases re <;> simp [clipStart, clipFinish, resolveEnd, clippedStart, clipTo]
    | some b =>
      by_cases hub : u < b
      · cases re <;> simp [clipStart, clipFinish, resolveEnd, clippedStart, clipTo, hub]
      · cases re <;> simp [clipStart, clipFinish, resolveEnd, clippedStart, clipTo, hub]

/-- `stabilize` on a fresh interval: the result starts at the step start `u` or at the `from`
    bound and ends one duration after `u` unless cut at the `to` bound; for a date inside the
    bounds it satisfies the invariant. -/
theorem stabilize_spec (sow : Int) (h0 : 0 ≤ sow) (h6 : sow ≤ 6) (align : Bool) (iv0 : Interval) (hfr : Fresh iv0)
    (hpos : 0 < iv0.duration.length) (d : Int) :
    ∃ iv1 u, stabilize sow (some d) align iv0 = .ok iv1 ∧
      ((∀ b, iv0.rangeBegin = some b → b ≤ d) → (∀ f, iv0.rangeEnd = some f → d < f) → Inv iv1) ∧
      iv1.start = some (clippedStart u iv0.rangeBegin) ∧ iv1.finish = iv0.rangeEnd ∧
      iv1.eod = some (clipTo (iv0.duration.add u) iv0.rangeEnd) ∧ iv1.duration = iv0.duration ∧
      (iv1.next = some (iv0.duration.add u) ∨ iv1.next = some (clipTo (iv0.duration.add u) iv0.rangeEnd)) ∧
      u ≤ d ∧ d < iv0.duration.add u ∧
      ((align && iv0.sinceSpecified) = true → u = d) ∧
      ((align && iv0.sinceSpecified) = false → AlignedDate sow iv0.duration.quantum u) := by
  obtain ⟨u, nx, hst, hnx, hu1, hu2, hA, hB⟩ := stabilize_fresh_eq sow h0 h6 align iv0 hfr hpos d
  refine ⟨_, u, hst, fun hbd hdf => ⟨rfl, hpos, ?_, ?_⟩, rfl, rfl, rfl, rfl,
    hnx.imp (congrArg some) (congrArg some), hu1, hu2, hA, hB⟩
  · intro e he; cases he; exact clipTo_idem _ _
  · intro s hs; cases hs
    have hcl := clippedStart_le u d iv0.rangeBegin hu1 hbd
    rcases hnx with rfl | rfl
    · exact ⟨_, rfl, Int.lt_of_le_of_lt hcl hu2, rfl⟩
    · exact ⟨_, rfl, Int.lt_of_le_of_lt hcl (clipTo_lt hu2 hdf), (congrArg some (clipTo_idem _ _)).symm⟩

theorem stabilize_of_inv {iv : Interval} (h : Inv iv) (sow : Int) (date : Option Int) (align : Bool) :
    stabilize sow date align iv = .ok iv := by
  unfold stabilize
  rw [h.aligned]
  cases date <;> simp [resolveEnd_of_inv h]

/-- A successful scan sets the interval to a step `[scan, end_of_scan)` containing the date. -/
theorem scanLoop_true (d : Int) (allow : Bool) (iv : Interval) (fuel : Nat) :
    ∀ (scan eos : Int) (iv' : Interval), scanLoop d allow fuel scan eos iv = .ok (true, iv') →
      ∃ sc eo, iv' = resolveEnd { iv with start := some sc, eod := some eo, next := none } ∧ sc ≤ d ∧ d < eo := by
  induction fuel with
  | zero => intro _ _ _ h; simp [scanLoop] at h
  | succ fuel ih =>
    intro scan eos iv' h
    simp only [scanLoop] at h
    by_cases hin : (decide (d ≥ scan) && beforeFinish iv.finish scan) = true
    · rw [if_pos hin] at h
      by_cases hlt : d < eos
      · rw [if_pos hlt] at h
        cases h
        exact ⟨scan, eos, rfl, of_decide_eq_true (Bool.and_eq_true_iff.1 hin).1, hlt⟩
      · rw [if_neg hlt] at h
        cases allow
        · cases h
        · exact ih _ _ iv' h
    · rw [if_neg hin] at h; cases h

theorem resolveEnd_scan (iv : Interval) (sc eo : Int) :
    resolveEnd { iv with start := some sc, eod := some eo, next := none } =
      { iv with start := some sc, eod := some (clipTo eo iv.finish), next := some (clipTo eo iv.finish) } := by
  obtain ⟨rb, re, st, fi, al, nx', du, eo', si⟩ := iv
  simp [resolveEnd]

/-- `find_period` on a fresh interval for a date inside the bounds: true, and the interval
    found satisfies the invariant and contains the date. -/
theorem findPeriod_fresh (sow : Int) (h0 : 0 ≤ sow) (h6 : sow ≤ 6) (align allow : Bool) (iv0 : Interval) (hfr : Fresh iv0)
    (hpos : 0 < iv0.duration.length) (d : Int)
    (hbd : ∀ b, iv0.rangeBegin = some b → b ≤ d) (hdf : ∀ f, iv0.rangeEnd = some f → d < f) :
    ∃ iv1 u, findPeriod sow d align allow iv0 = .ok (true, iv1) ∧ Inv iv1 ∧
      iv1.start = some (clippedStart u iv0.rangeBegin) ∧ iv1.finish = iv0.rangeEnd ∧
      iv1.eod = some (clipTo (iv0.duration.add u) iv0.rangeEnd) ∧ iv1.duration = iv0.duration ∧
      u ≤ d ∧ d < iv0.duration.add u ∧ clippedStart u iv0.rangeBegin ≤ d ∧
      ((align && iv0.sinceSpecified) = true → u = d) ∧
      ((align && iv0.sinceSpecified) = false → AlignedDate sow iv0.duration.quantum u) := by
  obtain ⟨iv1, u, hst, hinv, hs, hf, he, hdur, _, hu1, hu2, hA, hB⟩ :=
    stabilize_spec sow h0 h6 align iv0 hfr hpos d
  have hcl := clippedStart_le u d iv0.rangeBegin hu1 hbd
  refine ⟨iv1, u, ?_, hinv hbd hdf, hs, hf, he, hdur, hu1, hu2, hcl, hA, hB⟩
  have haf : afterFinish iv1.finish d = false := afterFinish_false (by rw [hf]; exact hdf)
  have hlt : d < clipTo (iv0.duration.add u) iv0.rangeEnd := clipTo_lt hu2 hdf
  have hns : ¬ (d < clippedStart u iv0.rangeBegin) := Int.not_lt.2 hcl
  unfold findPeriod
  rw [hst]
  simp only [haf, hs, he, hns, hlt, Bool.false_eq_true, if_false, if_true]

/-- `within_period` on a stabilized interval is the plain test `start ≤ date < end_of_duration`
    (and `date ≤ finish`), and does not change the interval. -/
theorem withinPeriod_eq {iv : Interval} (h : Inv iv) {s e : Int} (hs : iv.start = some s) (he : iv.eod = some e)
    (sow d : Int) :
    withinPeriod sow d iv =
      .ok ((!(afterFinish iv.finish d)) && decide (s ≤ d) && decide (d < e), iv) := by
  unfold withinPeriod findPeriod
  rw [stabilize_of_inv h]
  obtain ⟨rb, re, st, fi, al, nx', du, eo', si⟩ := iv
  simp only at hs he
  subst hs he
  cases fi with
  | none =>
    by_cases h1 : d < s
    · have : ¬ (s ≤ d) := Int.not_le.2 h1
      simp [h1, this, afterFinish]
    · have h1' : s ≤ d := Int.not_lt.1 h1
      by_cases h2 : d < e
      · simp [h1, h1', h2, afterFinish]
      · simp [h1, h1', h2, scanLoop, afterFinish, beforeFinish]
  | some f =>
    by_cases h3 : d > f
    · simp [h3, afterFinish]
    · have h3' : ¬ (f < d) := h3
      by_cases h1 : d < s
      · have : ¬ (s ≤ d) := Int.not_le.2 h1
        simp [h3', h1, this, afterFinish]
      · have h1' : s ≤ d := Int.not_lt.1 h1
        by_cases h2 : d < e
        · simp [h3', h1, h1', h2, afterFinish]
        · simp [h3', h1, h1', h2, scanLoop, afterFinish, beforeFinish]

theorem withinPeriod_inv {iv : Interval} (h : Inv iv) {s e : Int} (hs : iv.start = some s) (he : iv.eod = some e)
    (sow d : Int) :
    ∃ b, withinPeriod sow d iv = .ok (b, iv) ∧ (b = true → s ≤ d ∧ d < e) ∧
      (b = false → s ≤ d → (∀ f, iv.finish = some f → d ≤ f) → e ≤ d) := by
  refine ⟨_, withinPeriod_eq h hs he sow d, ?_, ?_⟩
  · intro hb
    simp only [Bool.and_eq_true, decide_eq_true_eq] at hb
    exact ⟨hb.1.2, hb.2⟩
  · intro hb hsd hfin
    have hp : afterFinish iv.finish d = false := by
      cases hf : iv.finish with
      | none => rfl
      | some f => have := hfin f hf; simp [afterFinish]; omega
    rw [hp] at hb
    simp only [Bool.not_false, Bool.true_and, Bool.and_eq_false_iff, decide_eq_false_iff_not] at hb
    omega

theorem mkGroup_members (iv : Interval) (cur : List (Nat × Int)) : (mkGroup iv cur).members = cur := rfl

/-- The rows `seek` emits hold exactly what had been accumulated (or nothing). -/
theorem seek_flat (sow : Int) (empty : Bool) (d : Int) (fuel : Nat) :
    ∀ (iv : Interval) (cur : List (Nat × Int)) (iv' : Interval) (gs : List Group),
      seek sow empty d fuel iv cur = .ok (iv', gs) →
      gs.flatMap Group.members = if gs.isEmpty then [] else cur := by
  induction fuel with
  | zero => intro _ _ _ _ h; simp [seek] at h
  | succ fuel ih =>
    intro iv cur iv' gs h
    simp only [seek] at h
    cases hw : withinPeriod sow d iv with
    | error err => rw [hw] at h; cases h
    | ok r =>
      obtain ⟨b, iv1⟩ := r
      rw [hw] at h
      cases b with
      | true => simp only [Except.ok.injEq, Prod.mk.injEq] at h; rw [← h.2]; rfl
      | false =>
        simp only at h
        cases hi : incr iv1 with
        | error err => rw [hi] at h; cases h
        | ok iv2 =>
          rw [hi] at h
          simp only at h
          cases hr : seek sow empty d fuel iv2 [] with
          | error err => rw [hr] at h; cases h
          | ok r2 =>
            obtain ⟨iv3, gs'⟩ := r2
            rw [hr] at h
            simp only [Except.ok.injEq, Prod.mk.injEq] at h
            have ih' : gs'.flatMap Group.members = [] := by rw [ih iv2 [] iv3 gs' hr]; split <;> rfl
            rw [← h.2, List.flatMap_append, ih']
            cases cur with
            | nil => cases empty <;> simp [mkGroup]
            | cons c cs => simp [mkGroup]

/-- Concatenating the members of all reported rows gives back the (date-sorted) postings:
    no posting is dropped, duplicated or reordered by the walk. -/
theorem walk_flat (sow : Int) (empty : Bool) (posts : List (Nat × Int)) :
    ∀ (iv : Interval) (cur : List (Nat × Int)) (gs : List Group),
      walk sow empty iv cur posts = .ok gs → gs.flatMap Group.members = cur ++ posts := by
  induction posts with
  | nil =>
    intro iv cur gs h
    simp only [walk, Except.ok.injEq] at h
    rw [← h]
    cases cur with
    | nil => simp
    | cons c cs => simp [mkGroup]
  | cons p ps ih =>
    intro iv cur gs h
    simp only [walk] at h
    cases hs : seek sow empty p.2 (walkFuel iv p.2) iv cur with
    | error err => rw [hs] at h; cases h
    | ok r =>
      obtain ⟨iv1, gs1⟩ := r
      rw [hs] at h
      simp only at h
      cases hw : walk sow empty iv1 (if gs1.isEmpty then cur ++ [p] else [p]) ps with
      | error err => rw [hw] at h; cases h
      | ok rest =>
        rw [hw] at h
        simp only [Except.ok.injEq] at h
        have ih := ih iv1 _ rest hw
        have hf := seek_flat sow empty p.2 _ iv cur iv1 gs1 hs
        rw [← h, List.flatMap_append, ih, hf]
        cases hg : gs1.isEmpty <;> simp

/-- every member of a reported row is dated inside the row's interval -/
def GroupOk (g : Group) : Prop := ∀ m ∈ g.members, g.start ≤ m.2 ∧ m.2 < g.eod

/-- what has been accumulated lies inside the current interval -/
def CurOk (iv : Interval) (cur : List (Nat × Int)) : Prop :=
  ∀ m ∈ cur, ∃ s e, iv.start = some s ∧ iv.eod = some e ∧ s ≤ m.2 ∧ m.2 < e

theorem groupOk_mkGroup {iv : Interval} {cur : List (Nat × Int)} (h : CurOk iv cur) : GroupOk (mkGroup iv cur) := by
  intro m hm
  obtain ⟨s, e, hs, he, h1, h2⟩ := h m hm
  simp only [mkGroup, hs, he, Option.getD_some]
  exact ⟨h1, h2⟩

/-- `seek` on a stabilized interval, for a date between the current start and `finish`: it
    ends within the measure `date - start` on an interval that contains the date, and every
    row it reported holds only postings dated inside that row's interval. -/
theorem seek_spec (sow : Int) (empty : Bool) (d : Int) (fuel : Nat) :
    ∀ (iv : Interval) (cur : List (Nat × Int)) (s : Int),
      Inv iv → CurOk iv cur → iv.start = some s → s ≤ d → (∀ f, iv.finish = some f → d < f) →
      gap d s + 1 ≤ fuel →
      ∃ iv' gs, seek sow empty d fuel iv cur = .ok (iv', gs) ∧ Inv iv' ∧ iv'.finish = iv.finish ∧
        (∃ s' e', iv'.start = some s' ∧ iv'.eod = some e' ∧ s ≤ s' ∧ s' ≤ d ∧ d < e') ∧
        (∀ g ∈ gs, GroupOk g) ∧ (gs = [] → cur = [] ∨ iv' = iv) := by
  induction fuel with
  | zero => intro _ _ _ _ _ _ _ _ hf; exact absurd hf (Nat.not_succ_le_zero _)
  | succ fuel ih =>
    intro iv cur s hinv hcur hst hsd hdf hfuel
    obtain ⟨nx, hn, hlt, he⟩ := hinv.started s hst
    simp only [seek]
    rw [withinPeriod_eq hinv hst he sow d, afterFinish_false hdf, decide_eq_true hsd]
    by_cases hin : d < clipTo nx iv.finish
    · rw [decide_eq_true hin]
      exact ⟨iv, [], rfl, hinv, rfl, ⟨s, _, hst, he, Int.le_refl _, hsd, hin⟩, (fun g hg => by cases hg),
        fun _ => Or.inr rfl⟩
    · rw [decide_eq_false hin]
      have hnd := le_of_not_lt_clipTo hdf hin
      have hltf : ∀ f, iv.finish = some f → nx < f := fun f hf => Int.lt_of_le_of_lt hnd (hdf f hf)
      have hg : gap d nx + 1 ≤ fuel := Nat.le_of_succ_le_succ (Nat.le_trans (Nat.succ_le_succ (gap_lt hlt hnd)) hfuel)
      obtain ⟨iv', gs, h1, i1, h2, ⟨s', e', hs', he', hle, hsd', hlt'⟩, i3, _⟩ :=
        ih _ [] nx (inv_incr_step hinv hltf) (fun m hm => by cases hm) rfl hnd hdf hg
      simp only [Bool.not_false, Bool.and_self, Bool.and_false]
      rw [incr_step hinv hst hn hltf]
      simp only
      rw [h1]
      refine ⟨iv', _, rfl, i1, h2, ⟨s', e', hs', he', Int.le_trans (Int.le_of_lt hlt) hle, hsd', hlt'⟩, ?_, ?_⟩
      · intro g hg
        rw [List.mem_append] at hg
        rcases hg with hg | hg
        · cases cur with
          | nil =>
            cases empty with
            | false => simp at hg
            | true =>
              simp only [List.isEmpty_nil, Bool.not_true, Bool.false_eq_true, if_false, if_true,
                List.mem_singleton] at hg
              subst hg; intro m hm; cases hm
          | cons c cs =>
            simp only [List.isEmpty_cons, Bool.not_false, if_true, List.mem_singleton] at hg
            subst hg; exact groupOk_mkGroup hcur
        · exact i3 g hg
      · intro hnil
        cases cur with
        | nil => exact Or.inl rfl
        | cons c cs => simp at hnil

/-- The walk on a stabilized interval reports without error when the postings are in date
    order and dated between the interval's start and `finish`, and every reported row holds only
    postings dated inside that row's interval. -/
theorem walk_spec (sow : Int) (empty : Bool) (posts : List (Nat × Int)) :
    ∀ (iv : Interval) (cur : List (Nat × Int)) (s : Int),
      Inv iv → CurOk iv cur → iv.start = some s → posts.Pairwise (fun a b => a.2 ≤ b.2) →
      (∀ p ∈ posts, s ≤ p.2) → (∀ p ∈ posts, ∀ f, iv.finish = some f → p.2 < f) →
      ∃ gs, walk sow empty iv cur posts = .ok gs ∧ ∀ g ∈ gs, GroupOk g := by
  induction posts with
  | nil =>
    intro iv cur s _ hcur _ _ _ _
    refine ⟨_, rfl, ?_⟩
    intro g hg
    cases cur with
    | nil => simp at hg
    | cons c cs =>
      simp only [List.isEmpty_cons, Bool.false_eq_true, if_false, List.mem_singleton] at hg
      subst hg; exact groupOk_mkGroup hcur
  | cons p ps ih =>
    intro iv cur s hinv hcur hst hsort hlo hhi
    simp only [walk]
    have hfuel : gap p.2 s + 1 ≤ walkFuel iv p.2 := by simp only [walkFuel, hst]; exact Nat.le_succ _
    obtain ⟨iv1, gs1, h1, i1, h2, ⟨s', e', hs', he', hss', hle, hlt⟩, i3, i4⟩ :=
      seek_spec sow empty p.2 _ iv cur s hinv hcur hst (hlo p (List.mem_cons_self ..))
        (fun f hf => hhi p (List.mem_cons_self ..) f hf) hfuel
    rw [h1]
    simp only
    have hcur1 : CurOk iv1 (if gs1.isEmpty then cur ++ [p] else [p]) := by
      have hp : ∀ m ∈ [p], ∃ s e, iv1.start = some s ∧ iv1.eod = some e ∧ s ≤ m.2 ∧ m.2 < e := by
        intro m hm; simp only [List.mem_singleton] at hm; subst hm; exact ⟨s', e', hs', he', hle, hlt⟩
      cases hg : gs1.isEmpty with
      | false => simp only [Bool.false_eq_true, if_false]; exact hp
      | true =>
        simp only [if_true]
        intro m hm
        rw [List.mem_append] at hm
        rcases hm with hm | hm
        · rcases i4 (by simpa using hg) with hc | hc
          · subst hc; cases hm
          · subst hc; exact hcur m hm
        · exact hp m hm
    rw [List.pairwise_cons] at hsort
    obtain ⟨rest, hr, hrest⟩ := ih iv1 _ s' i1 hcur1 hs' hsort.2
      (fun q hq => Int.le_trans hle (hsort.1 q hq))
      (fun q hq f hf => hhi q (List.mem_cons_of_mem _ hq) f (h2 ▸ hf))
    rw [hr]
    refine ⟨_, rfl, ?_⟩
    intro g hg
    rw [List.mem_append] at hg
    rcases hg with hg | hg
    · exact i3 g hg
    · exact hrest g hg

/-- `interval_posts::flush` on postings dated inside a non-empty range: it reports without
    error, every row holds only postings dated inside the row's interval, and the rows
    taken together hold exactly the postings, in date order. -/
theorem flush_spec (sow : Int) (h0 : 0 ≤ sow) (h6 : sow ≤ 6) (align empty : Bool) (iv0 : Interval) (hfr : Fresh iv0)
    (hpos : 0 < iv0.duration.length) (posts : List (Nat × Int))
    (hbf : ∀ b f, iv0.rangeBegin = some b → iv0.rangeEnd = some f → b < f)
    (hlo : ∀ p ∈ posts, ∀ b, iv0.rangeBegin = some b → b ≤ p.2)
    (hhi : ∀ p ∈ posts, ∀ f, iv0.rangeEnd = some f → p.2 < f) :
    ∃ gs, flush sow align empty iv0 posts = .ok gs ∧ (∀ g ∈ gs, GroupOk g) ∧
      gs.flatMap Group.members = sortByDate posts := by
  have hperm := sortByDate_perm posts
  have hsorted := sortByDate_sorted posts
  have hlo' : ∀ p ∈ sortByDate posts, ∀ b, iv0.rangeBegin = some b → b ≤ p.2 :=
    fun p hp => hlo p (hperm.mem_iff.1 hp)
  have hhi' : ∀ p ∈ sortByDate posts, ∀ f, iv0.rangeEnd = some f → p.2 < f :=
    fun p hp => hhi p (hperm.mem_iff.1 hp)
  have hcur : ∀ iv, CurOk iv [] := by intro iv m hm; cases hm
  unfold flush
  simp only [Interval.begin, hfr.start]
  cases hrb : iv0.rangeBegin with
  | some b =>
    simp only
    obtain ⟨iv1, u, hfp, hinv, hs, hf, _, _, _, _, hle, _⟩ := findPeriod_fresh sow h0 h6 align true iv0 hfr hpos b
      (by intro b' hb'; rw [hrb] at hb'; cases hb'; exact Int.le_refl _) (fun f hf => hbf b f hrb hf)
    rw [hfp]
    simp only
    obtain ⟨gs, hw, hok⟩ := walk_spec sow empty (sortByDate posts) iv1 [] _ hinv (hcur iv1) hs hsorted
      (fun p hp => Int.le_trans hle (hlo' p hp b hrb))
      (by intro p hp f hf'; rw [hf] at hf'; exact hhi' p hp f hf')
    refine ⟨gs, hw, hok, ?_⟩
    simpa using walk_flat sow empty _ iv1 [] gs hw
  | none =>
    simp only
    cases hsp : sortByDate posts with
    | nil => exact ⟨[], rfl, (by intro g hg; cases hg), rfl⟩
    | cons p ps =>
      simp only
      rw [hsp] at hsorted hlo' hhi'
      obtain ⟨iv1, u, hfp, hinv, hs, hf, _, _, hu1, _⟩ := findPeriod_fresh sow h0 h6 align true iv0 hfr hpos p.2
        (by intro b' hb'; rw [hrb] at hb'; cases hb') (fun f hf => hhi' p (List.mem_cons_self ..) f hf)
      rw [hfp]
      simp only
      rw [hrb] at hs
      simp only [clippedStart] at hs
      obtain ⟨gs, hw, hok⟩ := walk_spec sow empty (p :: ps) iv1 [] u hinv (hcur iv1) hs hsorted
        (by
          intro q hq
          rcases List.mem_cons.1 hq with rfl | hq
          · exact hu1
          · exact Int.le_trans hu1 ((List.pairwise_cons.1 hsorted).1 q hq))
        (by intro q hq f hf'; rw [hf] at hf'; exact hhi' q hq f hf')
      refine ⟨gs, hw, hok, ?_⟩
      simpa using walk_flat sow empty _ iv1 [] gs hw

theorem flush_flat {sow : Int} {align empty : Bool} {iv0 : Interval} {posts : List (Nat × Int)} {gs : List Group}
    (h : flush sow align empty iv0 posts = .ok gs) : gs.flatMap Group.members = sortByDate posts := by
  unfold flush at h
  simp only at h
  split at h
  · cases h
  · rename_i iv1 _
    simpa using walk_flat sow empty _ iv1 [] gs h
  · rename_i iv1 _
    split at h
    · rename_i hnil
      simp only [Except.ok.injEq] at h
      rw [← h, hnil]; rfl
    · rename_i p ps hcons
      split at h
      · cases h
      · cases h
      · rename_i iv2 _
        simpa using walk_flat sow empty _ iv2 [] gs h

/-- `monthly from 2020/01/01 to 2020/03/15`, stabilized on its `from` date:
    [2020-01-01, 2020-02-01), `finish` 2020-03-15 (day numbers since 1970-01-01).
    Witness of `C13.find_period_at_finish`. -/
def witnessInterval : Interval :=
  { rangeBegin := some 18262, rangeEnd := some 18336, start := some 18262, finish := some 18336, aligned := true,
    next := some 18293, duration := { quantum := .months, length := 1 }, eod := some 18293, sinceSpecified := true }

end Ledger.Period
