/-
Paths and `under`; `dedup`; the guarded sum `gsum` (Σ of the kept postings whose path is
selected, per commodity), what `acctAmount` / `acctTotal` denote in it, and its partition by
a key (`gsum_partition`); the account tree: `children`, `gsum_children` (subtree = own
postings + the children's subtrees) and `acctTotalRec_den` (the recursion account_t::total
performs computes the subtree sum); the register fold `regGo`: rows, running totals as
values, and `regRows_gsum` (the rows to selected accounts add up to `gsum`).
-/
import LedgerModel.Lemmas.Reports
import LedgerModel.Lemmas.ListExtra

namespace Ledger
namespace Reports

theorem path_ne_nil (p : RPost) : p.path ≠ [] := by
  unfold RPost.path
  split
  · simp
  · assumption

theorem path_length_pos (p : RPost) : 0 < p.path.length := by
  have := path_ne_nil p
  cases h : p.path with
  | nil => exact absurd h this
  | cons x xs => simp

theorem under_iff (a b : Path) : under a b = true ↔ b.take a.length = a := by
  simp [under]

theorem under_nil (b : Path) : under [] b = true := by simp [under]

theorem under_self (a : Path) : under a a = true := by simp [under]

theorem under_length {a b : Path} (h : under a b = true) : a.length ≤ b.length := by
  have := congrArg List.length ((under_iff a b).mp h)
  rw [List.length_take] at this
  rw [← this]
  exact Nat.min_le_right _ _

theorem under_eq_of_length_le {a q : Path} (hu : under a q = true) (hl : q.length ≤ a.length) : q = a := by
  rw [← (under_iff a q).mp hu, List.take_of_length_le hl]

theorem ne_of_under_false {a q : Path} (hu : under a q = false) : q ≠ a := by
  intro h; rw [h, under_self] at hu; cases hu

theorem mem_foldl_insertNew (l acc : List Path) (a : Path) :
    a ∈ l.foldl insertNew acc ↔ a ∈ acc ∨ a ∈ l := by
  induction l generalizing acc with
  | nil => simp
  | cons x xs ih =>
    simp only [List.foldl_cons, ih, insertNew]
    split <;> rename_i hx
    · simp only [List.mem_cons]
      constructor
      · rintro (h | h)
        · exact Or.inl h
        · exact Or.inr (Or.inr h)
      · rintro (h | h | h)
        · exact Or.inl h
        · exact Or.inl (h ▸ hx)
        · exact Or.inr h
    · simp only [List.mem_append, List.mem_cons, List.not_mem_nil, or_false]
      constructor
      · rintro ((h | h) | h)
        · exact Or.inl h
        · exact Or.inr (Or.inl h)
        · exact Or.inr (Or.inr h)
      · rintro (h | h | h)
        · exact Or.inl (Or.inl h)
        · exact Or.inl (Or.inr h)
        · exact Or.inr h

theorem nodup_foldl_insertNew (l acc : List Path) (h : acc.Nodup) : (l.foldl insertNew acc).Nodup := by
  induction l generalizing acc with
  | nil => simpa
  | cons x xs ih =>
    simp only [List.foldl_cons]
    apply ih
    unfold insertNew
    split
    · exact h
    · rename_i hx
      exact nodup_append_singleton h hx

theorem mem_dedup (l : List Path) (a : Path) : a ∈ dedup l ↔ a ∈ l := by
  simp [dedup, mem_foldl_insertNew]

theorem nodup_dedup (l : List Path) : (dedup l).Nodup := nodup_foldl_insertNew l [] List.nodup_nil

/-- weight of a posting: its denotation at `c` when it passes the filter. -/
def wt (f : RPost → Value) (keep : RPost → Bool) (c : Comm) (p : RPost) : Rat :=
  if keep p then (f p).den c else 0

/-- Σ of the kept postings whose path satisfies `sel`. -/
def gsum (f : RPost → Value) (keep : RPost → Bool) (c : Comm) (ps : List RPost) (sel : Path → Bool) : Rat :=
  rsum (ps.map (fun p => if sel p.path then wt f keep c p else 0))

theorem sumV_filter_den (f : RPost → Value) (keep : RPost → Bool) (c : Comm) (ps : List RPost)
    (sel : Path → Bool) (r : Value)
    (h : sumV ((ps.filter (fun p => keep p && sel p.path)).map f) = .ok r) :
    r.den c = gsum f keep c ps sel := by
  rw [sumV_den _ r h c, List.map_map, rsum_filter]
  unfold gsum wt
  apply rsum_map_congr
  intro p _
  cases keep p <;> cases sel p.path <;> simp

theorem acctAmount_den (f : RPost → Value) (keep : RPost → Bool) (c : Comm) (ps : List RPost) (a : Path) (r : Value)
    (h : acctAmount f keep ps a = .ok r) : r.den c = gsum f keep c ps (fun q => decide (q = a)) :=
  sumV_filter_den f keep c ps (fun q => decide (q = a)) r h

theorem acctTotal_den (f : RPost → Value) (keep : RPost → Bool) (c : Comm) (ps : List RPost) (a : Path) (r : Value)
    (h : acctTotal f keep ps a = .ok r) : r.den c = gsum f keep c ps (under a) :=
  sumV_filter_den f keep c ps (under a) r h

theorem gsum_congr (f : RPost → Value) (keep : RPost → Bool) (c : Comm) (ps : List RPost) (s1 s2 : Path → Bool)
    (h : ∀ p ∈ ps, s1 p.path = s2 p.path) : gsum f keep c ps s1 = gsum f keep c ps s2 := by
  unfold gsum
  apply rsum_map_congr
  intro p hp
  rw [h p hp]

theorem gsum_false (f : RPost → Value) (keep : RPost → Bool) (c : Comm) (ps : List RPost) (s : Path → Bool)
    (h : ∀ p ∈ ps, keep p = true → s p.path = false) : gsum f keep c ps s = 0 := by
  unfold gsum
  rw [rsum_map_congr ps _ (fun _ => 0)]
  · exact rsum_map_zero ps
  · intro p hp
    unfold wt
    cases hk : keep p
    · simp
    · simp [h p hp hk]

theorem gsum_of_any_false (f : RPost → Value) (keep : RPost → Bool) (c : Comm) (ps : List RPost) (sel : Path → Bool)
    (h : ps.any (fun p => keep p && sel p.path) = false) : gsum f keep c ps sel = 0 := by
  apply gsum_false
  intro p hp hk
  have := List.any_eq_false.mp h p hp
  simpa [hk] using this

theorem sumV_kept_den (f : RPost → Value) (keep : RPost → Bool) (c : Comm) (ps : List RPost) (r : Value)
    (h : sumV ((ps.filter keep).map f) = .ok r) : r.den c = gsum f keep c ps (fun _ => true) :=
  sumV_filter_den f keep c ps (fun _ => true) r (by simpa only [Bool.and_true] using h)

theorem rsum_indicator_opt (L : List Path) (hL : L.Nodup) (x : Option Path) (hx : ∀ k, x = some k → k ∈ L) (w : Rat) :
    rsum (L.map (fun k => if decide (x = some k) = true then w else 0)) = if x.isSome = true then w else 0 := by
  cases x with
  | none =>
    simp only [Option.isSome_none]
    rw [rsum_map_congr L _ (fun _ => 0) (fun k _ => by simp)]
    simpa using rsum_map_zero L
  | some k0 =>
    simp only [Option.isSome_some, if_true]
    rw [rsum_map_congr L _ (fun k => if k = k0 then w else 0) (fun k _ => by
      by_cases h : k = k0
      · simp [h]
      · have : ¬ (k0 = k) := fun h' => h h'.symm
        simp [h, this])]
    exact rsum_indicator L hL k0 (hx k0 rfl) _

/-- Partition of the kept postings by a key: summing, over a duplicate-free list `L` of keys that
    contains every key that occurs, the postings with that key gives the sum over all postings
    that have a key. -/
theorem gsum_partition (f : RPost → Value) (keep : RPost → Bool) (c : Comm) (ps : List RPost)
    (key : Path → Option Path) (L : List Path) (hL : L.Nodup)
    (hmem : ∀ p ∈ ps, ∀ k, key p.path = some k → k ∈ L) :
    rsum (L.map (fun k => gsum f keep c ps (fun q => decide (key q = some k)))) =
      gsum f keep c ps (fun q => (key q).isSome) := by
  unfold gsum
  induction ps with
  | nil =>
    simp only [List.map_nil, rsum_nil]
    exact rsum_map_zero L
  | cons p ps ih =>
    simp only [List.map_cons, rsum_cons]
    rw [rsum_map_add, ih (fun q hq k hk => hmem q (List.mem_cons_of_mem _ hq) k hk)]
    congr 1
    exact rsum_indicator_opt L hL (key p.path) (fun k hk => hmem p List.mem_cons_self k hk) _

theorem mem_children (ps : List RPost) (a ch : Path) :
    ch ∈ children ps a ↔ ∃ p ∈ ps, under a p.path = true ∧ a.length < p.path.length ∧ p.path.take (a.length + 1) = ch := by
  unfold children
  rw [mem_dedup]
  simp only [List.mem_map, List.mem_filter, Bool.and_eq_true, decide_eq_true_eq]
  constructor
  · rintro ⟨p, ⟨hp, hu, hl⟩, rfl⟩; exact ⟨p, hp, hu, hl, rfl⟩
  · rintro ⟨p, hp, hu, hl, rfl⟩; exact ⟨p, ⟨hp, hu, hl⟩, rfl⟩

theorem children_length {ps : List RPost} {a ch : Path} (h : ch ∈ children ps a) : ch.length = a.length + 1 := by
  obtain ⟨p, _, _, hl, rfl⟩ := (mem_children ps a ch).mp h
  exact List.length_take_of_le hl

theorem children_prefix {ps : List RPost} {a ch : Path} (h : ch ∈ children ps a) : ch.take a.length = a := by
  obtain ⟨p, _, hu, hl, rfl⟩ := (mem_children ps a ch).mp h
  rw [List.take_take, Nat.min_eq_left (Nat.le_succ _)]
  exact (under_iff a p.path).mp hu

/-- the key that sends a posting strictly below `a` to the child subtree it lies in. -/
def childKey (a : Path) (q : Path) : Option Path :=
  if under a q && decide (a.length < q.length) then some (q.take (a.length + 1)) else none

theorem childKey_eq_some {a q k : Path} :
    childKey a q = some k ↔ under a q = true ∧ a.length < q.length ∧ q.take (a.length + 1) = k := by
  unfold childKey
  by_cases hc : (under a q && decide (a.length < q.length)) = true
  · rw [if_pos hc, Option.some.injEq]
    rw [Bool.and_eq_true, decide_eq_true_eq] at hc
    exact ⟨fun h => ⟨hc.1, hc.2, h⟩, fun h => h.2.2⟩
  · rw [if_neg hc]
    refine ⟨(fun h => nomatch h), fun h => (hc ?_).elim⟩
    rw [Bool.and_eq_true, decide_eq_true_eq]
    exact ⟨h.1, h.2.1⟩

theorem under_child_iff {ps : List RPost} {a ch : Path} (h : ch ∈ children ps a) (q : Path) :
    under ch q = decide (childKey a q = some ch) := by
  have hlen := children_length h
  have hpre := children_prefix h
  rw [Bool.eq_iff_iff, decide_eq_true_eq, childKey_eq_some]
  constructor
  · intro hu
    have h1 := (under_iff ch q).mp hu
    rw [hlen] at h1
    have hlt : a.length < q.length := by have := under_length hu; rwa [hlen] at this
    refine ⟨(under_iff a q).mpr ?_, hlt, h1⟩
    have : List.take a.length q = List.take a.length (List.take (a.length + 1) q) := by
      rw [List.take_take, Nat.min_eq_left (Nat.le_succ _)]
    rw [this, h1, hpre]
  · intro hk
    rw [under_iff, hlen]
    exact hk.2.2

/-- Σ over the subtree of `a` = Σ of `a`'s own postings + Σ over the children of their subtrees:
    the postings strictly below `a` are partitioned by the child subtree they lie in (`childKey a`), and
    a posting is under `a` exactly when it is at `a` or has such a key. -/
theorem gsum_children (f : RPost → Value) (keep : RPost → Bool) (c : Comm) (ps : List RPost) (a : Path) :
    gsum f keep c ps (under a) =
      gsum f keep c ps (fun q => decide (q = a)) + rsum ((children ps a).map (fun ch => gsum f keep c ps (under ch))) := by
  have hpart := gsum_partition f keep c ps (childKey a) (children ps a) (by unfold children; exact nodup_dedup _)
    (fun p hp k hk => by
      obtain ⟨hu, hl, hk⟩ := childKey_eq_some.mp hk
      exact (mem_children ps a k).mpr ⟨p, hp, hu, hl, hk⟩)
  have hkids : rsum ((children ps a).map (fun ch => gsum f keep c ps (under ch))) =
      rsum ((children ps a).map (fun k => gsum f keep c ps (fun q => decide (childKey a q = some k)))) := by
    apply rsum_map_congr
    intro ch hch
    apply gsum_congr
    intro p _
    exact under_child_iff hch p.path
  rw [hkids, hpart]
  unfold gsum
  rw [← rsum_map_add]
  apply rsum_map_congr
  intro p _
  unfold childKey
  by_cases hu : under a p.path = true
  · by_cases hl : a.length < p.path.length
    · have hne : p.path ≠ a := by intro h; rw [h] at hl; exact Nat.lt_irrefl _ hl
      simp [hu, hl, hne, Rat.zero_add]
    · have heq : p.path = a := under_eq_of_length_le hu (Nat.le_of_not_lt hl)
      simp [heq, under_self, Rat.add_zero]
  · have hu' : under a p.path = false := Bool.eq_false_iff.mpr hu
    simp [hu', ne_of_under_false hu', Rat.add_zero]

theorem sumMapM_cons (g : Path → Res Value) (k : Path) (ks : List Path) (acc : Value) :
    sumMapM g (k :: ks) acc = (g k).bind (fun v => (addV acc v).bind (fun a => sumMapM g ks a)) := by
  rw [sumMapM]
  cases g k with
  | error e => rfl
  | ok v =>
    show (match addV acc v with | .ok a => _ | .error e => _) = (addV acc v).bind _
    cases addV acc v <;> rfl

theorem sumMapM_den (g : Path → Res Value) (D : Path → Rat) (c : Comm) (L : List Path) (acc r : Value)
    (h : sumMapM g L acc = .ok r) (hD : ∀ k ∈ L, ∀ v, g k = .ok v → v.den c = D k) :
    r.den c = acc.den c + rsum (L.map D) := by
  induction L generalizing acc with
  | nil => cases h; exact (Rat.add_zero _).symm
  | cons k ks ih =>
    rw [sumMapM_cons] at h
    obtain ⟨v, hv, h⟩ := Except.bind_eq_ok h
    obtain ⟨a, ha, h⟩ := Except.bind_eq_ok h
    rw [ih a h (fun k' hk' => hD k' (List.mem_cons_of_mem _ hk')), addV_den acc v a ha c,
      hD k List.mem_cons_self v hv, List.map_cons, rsum_cons, Rat.add_assoc]

theorem length_le_maxLen {ps : List RPost} {p : RPost} (h : p ∈ ps) : p.path.length ≤ maxLen ps :=
  foldl_ge_of_mem (fun m (p : RPost) => max m p.path.length) (fun m _ => Nat.le_max_left m _) h
    (fun m => Nat.le_max_right m _) 0

theorem acctTotalRec_succ (f : RPost → Value) (keep : RPost → Bool) (ps : List RPost) (n : Nat) (a : Path) :
    acctTotalRec f keep ps (n + 1) a =
      (sumMapM (acctTotalRec f keep ps n) (children ps a) .void).bind (fun kids =>
        (acctAmount f keep ps a).bind (fun own => addV kids own)) := by
  rw [acctTotalRec]
  cases sumMapM (acctTotalRec f keep ps n) (children ps a) .void with
  | error e => rfl
  | ok kids =>
    show (match acctAmount f keep ps a with | .ok own => _ | .error e => _) = (acctAmount f keep ps a).bind _
    cases acctAmount f keep ps a <;> rfl

/-- `maxLen ps ≤ a.length + n`: the fuel `n` covers the height of the tree below `a`, so at fuel 0 no
    posting lies strictly below `a`. -/
theorem acctTotalRec_den (f : RPost → Value) (keep : RPost → Bool) (c : Comm) (ps : List RPost) :
    ∀ (n : Nat) (a : Path) (r : Value), maxLen ps ≤ a.length + n → acctTotalRec f keep ps n a = .ok r →
      r.den c = gsum f keep c ps (under a) := by
  intro n
  induction n with
  | zero =>
    intro a r hlen h
    rw [acctAmount_den f keep c ps a r h]
    apply gsum_congr
    intro p hp
    have hpl := length_le_maxLen hp
    by_cases hu : under a p.path = true
    · simp [under_eq_of_length_le hu (Nat.le_trans hpl hlen), under_self]
    · have hu' : under a p.path = false := Bool.eq_false_iff.mpr hu
      simp [hu', ne_of_under_false hu']
  | succ n ih =>
    intro a r hlen h
    rw [acctTotalRec_succ] at h
    obtain ⟨kids, hkids, h⟩ := Except.bind_eq_ok h
    obtain ⟨own, hown, h⟩ := Except.bind_eq_ok h
    have hk := sumMapM_den (acctTotalRec f keep ps n) (fun ch => gsum f keep c ps (under ch)) c
      (children ps a) .void kids hkids
      (fun ch hch v hv => ih ch v (by rw [children_length hch, Nat.add_right_comm]; exact hlen) hv)
    rw [addV_den kids own r h c, hk, acctAmount_den f keep c ps a own hown, gsum_children f keep c ps a]
    show 0 + _ + _ = _
    rw [Rat.zero_add, Rat.add_comm]

theorem regGo_cons (f : RPost → Value) (acc : Value) (p : RPost) (ps : List RPost) :
    regGo f acc (p :: ps) =
      (addV acc (f p)).bind (fun t => (regGo f t ps).bind (fun rest =>
        .ok ({ post := p, amount := f p, total := t } :: rest))) := by
  rw [regGo]
  cases addV acc (f p) with
  | error e => rfl
  | ok t =>
    show (match regGo f t ps with | .ok rest => _ | .error e => _) = (regGo f t ps).bind _
    cases regGo f t ps <;> rfl

theorem regGo_cons_ok {f : RPost → Value} {acc : Value} {p : RPost} {ps : List RPost} {rows : List RegRow}
    (h : regGo f acc (p :: ps) = .ok rows) :
    ∃ t rest, addV acc (f p) = .ok t ∧ regGo f t ps = .ok rest ∧
      rows = { post := p, amount := f p, total := t } :: rest := by
  rw [regGo_cons] at h
  obtain ⟨t, ht, h⟩ := Except.bind_eq_ok h
  obtain ⟨rest, hrest, h⟩ := Except.bind_eq_ok h
  cases h
  exact ⟨t, rest, ht, hrest, rfl⟩

theorem regGo_posts (f : RPost → Value) (l : List RPost) (acc : Value) (rows : List RegRow)
    (h : regGo f acc l = .ok rows) :
    rows.map (fun r => (r.post, r.amount)) = l.map (fun p => (p, f p)) := by
  induction l generalizing acc rows with
  | nil => cases h; rfl
  | cons p ps ih =>
    obtain ⟨t, rest, _, hrest, rfl⟩ := regGo_cons_ok h
    simp only [List.map_cons, ih t rest hrest]

theorem regGo_amounts (f : RPost → Value) (l : List RPost) (acc : Value) (rows : List RegRow)
    (h : regGo f acc l = .ok rows) : rows.map (·.amount) = l.map f := by
  have := congrArg (List.map Prod.snd) (regGo_posts f l acc rows h)
  simpa only [List.map_map, Function.comp_def] using this

/-- row k's running total is, as a value, the starting value plus the first k+1 amounts. -/
theorem regGo_total (f : RPost → Value) (l : List RPost) (acc : Value) (rows : List RegRow)
    (h : regGo f acc l = .ok rows) (k : Nat) (hk : k < rows.length) :
    sumFrom acc ((l.take (k + 1)).map f) = .ok rows[k].total := by
  induction l generalizing acc rows k with
  | nil => cases h; exact absurd hk (Nat.not_lt_zero k)
  | cons p ps ih =>
    obtain ⟨t, rest, ht, hrest, rfl⟩ := regGo_cons_ok h
    rw [List.take_succ_cons, List.map_cons, sumFrom_cons, ht, Except.bind_ok]
    cases k with
    | zero => rfl
    | succ k => exact ih t rest hrest k (Nat.lt_of_succ_lt_succ hk)

/-- the last running total is, as a value, the starting value plus every amount. -/
theorem regGo_last (f : RPost → Value) (l : List RPost) (acc : Value) (rows : List RegRow)
    (h : regGo f acc l = .ok rows) :
    sumFrom acc (l.map f) = .ok ((rows.getLast?.map (·.total)).getD acc) := by
  induction l generalizing acc rows with
  | nil => cases h; rfl
  | cons p ps ih =>
    obtain ⟨t, rest, ht, hrest, rfl⟩ := regGo_cons_ok h
    rw [List.map_cons, sumFrom_cons, ht, Except.bind_ok, ih t rest hrest, List.getLast?_cons]
    cases rest.getLast? <;> rfl

/-- the register's rows to the accounts `sel` add up to the guarded sum over the postings. -/
theorem regRows_gsum (f : RPost → Value) (keep : RPost → Bool) (c : Comm) (ps : List RPost) (sel : Path → Bool)
    (rows : List RegRow) (hr : regRows f keep ps = .ok rows) :
    rsum ((rows.filter (fun r => sel r.post.path)).map (fun r => r.amount.den c)) = gsum f keep c ps sel := by
  have hp := regGo_posts f _ _ rows hr
  have : rsum (rows.map (fun r => if sel r.post.path then r.amount.den c else 0)) =
      rsum ((rows.map (fun r => (r.post, r.amount))).map (fun pr => if sel pr.1.path then pr.2.den c else 0)) := by
    rw [List.map_map]; rfl
  rw [rsum_filter, this, hp, List.map_map, rsum_filter]
  unfold gsum wt
  apply rsum_map_congr
  intro p _
  cases keep p <;> simp

end Reports
end Ledger
