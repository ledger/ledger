/-
Durations and alignment behind the C13 theorems (Props/C13.lean): `Duration.add` moves
strictly forward and keeps the alignment that `findNearest` establishes.
-/
import LedgerModel.Lemmas.Calendar
import LedgerModel.Model.Period

namespace Ledger.Period
open Ledger.Cal Ledger.PCal

theorem add_strict_mono (d : Duration) (n : Int) (h : 0 < d.length) : n < d.add n := by
  have hl : (0 : Int) < (d.length : Int) := Int.natCast_pos.2 h
  unfold Duration.add
  cases d.quantum <;> simp only
  · exact Int.lt_add_of_pos_right n hl
  · exact Int.lt_add_of_pos_right n (Int.mul_pos (by decide) hl)
  · exact addMonths_gt n _ hl
  · exact addMonths_gt n _ (Int.mul_pos hl (by decide))
  · exact addMonths_gt n _ (Int.mul_pos (by decide) hl)

theorem add_zero_length (d : Duration) (n : Int) (h : d.length = 0) : d.add n = n := by
  unfold Duration.add addYears
  rw [h]
  cases d.quantum <;> simp [addMonths_zero]

theorem findNearest_le (sow n : Int) (q : Quantum) : findNearest sow n q ≤ n := by
  obtain ⟨hm1, hm12, hd1, _⟩ := month_bounds n
  have hle := fun m' h1 h2 => Int.le_trans (ofYMD_first_le (yearOf n) m' (monthOf n) (dayOf n) h1 h2 hm12 hd1)
    (Int.le_of_eq (Cal.ofYMD_toYMD n))
  cases q <;> simp only [findNearest]
  · exact Int.le_refl n
  · exact Int.sub_le_self n (Int.emod_nonneg _ (by decide))
  · exact hle _ hm1 (Int.le_refl _)
  · exact hle _ (by omega) (by omega)
  · exact hle _ (Int.le_refl _) hm1

theorem findNearest_aligned (sow n : Int) (q : Quantum) (h0 : 0 ≤ sow) (h6 : sow ≤ 6) :
    AlignedDate sow q (findNearest sow n q) := by
  have hb := month_bounds n
  cases q <;> simp only [findNearest, AlignedDate]
  · unfold weekday; omega
  · exact dayOf_ofYMD _ _ _ (validYMD_first _ _ hb.1 hb.2.1)
  · have hq : 1 ≤ monthOf n - (monthOf n - 1) % 3 ∧ monthOf n - (monthOf n - 1) % 3 ≤ 12 := by omega
    have hv := validYMD_first (yearOf n) _ hq.1 hq.2
    rw [dayOf_ofYMD _ _ _ hv, monthOf_ofYMD _ _ _ hv]
    omega
  · have hv := validYMD_first (yearOf n) 1 (by decide) (by decide)
    rw [dayOf_ofYMD _ _ _ hv, monthOf_ofYMD _ _ _ hv]
    exact ⟨rfl, rfl⟩

theorem add_aligned (sow : Int) (d : Duration) (n : Int) (h : AlignedDate sow d.quantum n) :
    AlignedDate sow d.quantum (d.add n) := by
  unfold Duration.add
  cases hq : d.quantum <;> rw [hq] at h <;> simp only [AlignedDate] at h ⊢
  · rw [weekday_add_weeks]; exact h
  · exact dayOf_addMonths_first n _ h
  · rw [dayOf_addMonths_first n _ h.1, monthOf_addMonths_first n _ h.1]
    have := h.2; omega
  · unfold addYears
    rw [dayOf_addMonths_first n _ h.1, monthOf_addMonths_first n _ h.1]
    have := h.2; omega

end Ledger.Period
