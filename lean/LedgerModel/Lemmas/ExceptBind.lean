/-
Inversion of a successful `Except.bind`: the model's recursive functions thread
their errors through nested `match`es, which are binds.
-/
namespace Ledger

theorem Except.bind_eq_ok {ε α β : Type} {x : Except ε α} {f : α → Except ε β} {r : β}
    (h : x.bind f = .ok r) : ∃ a, x = .ok a ∧ f a = .ok r := by
  cases x with
  | error e => cases h
  | ok a => exact ⟨a, rfl, h⟩

theorem Except.bind_ok {ε α β : Type} (a : α) (f : α → Except ε β) : (Except.ok a : Except ε α).bind f = f a := rfl

theorem Except.map_eq_ok {ε α β : Type} {x : Except ε α} {f : α → β} {r : β}
    (h : x.map f = .ok r) : ∃ y, x = .ok y ∧ f y = r := by
  cases x with
  | error e => cases h
  | ok y => exact ⟨y, rfl, Except.ok.inj h⟩

theorem toOption_cases {ε α σ : Type} {x : Except ε (α × σ)} {c : Option α} {s : σ}
    (h : x.toOption = c.map (·, s)) :
    (∃ e, x = .error e ∧ c = none) ∨ (∃ a, x = .ok (a, s) ∧ c = some a) := by
  cases x with
  | error e =>
    cases c with
    | none => exact .inl ⟨e, rfl, rfl⟩
    | some a => cases h
  | ok r =>
    cases c with
    | none => cases h
    | some a => cases h; exact .inr ⟨a, rfl, rfl⟩

end Ledger
