/-
What does not enter the `= AMOUNT` block (postings to other accounts, in the log or earlier in
the transaction: `checkPost_insert_other`); the permissive option (`checkPostF_permissive_*`);
which errors `parsePosts`, `residual`, `finalize`, `runXact` can raise (`finalize_cases`);
the run over a journal as a fold of `step` (`foldl_step_inv`: errors, append-only log);
exactness (`PFine`, `XFine`) preserved by the block, by `finalize` and along the run.
-/
import LedgerModel.Lemmas.AssertCore
import LedgerModel.Lemmas.ListExtra

namespace Ledger.Assert

theorem accTotal_insert_other (l1 l2 : List Entry) (e : Entry) (acct : String) (r : Bool)
    (h : e.account ≠ acct) : accTotal (l1 ++ e :: l2) acct r = accTotal (l1 ++ l2) acct r := by
  unfold accTotal
  simp [List.filter_append, counted, h]

theorem subEarlier_insert_other (f1 : Bool) (acct : String) (v : Bool) (e1 e2 : List Posting) (q : Posting)
    (h : q.account ≠ acct) (d : Balance) :
    subEarlier f1 d acct v (e1 ++ q :: e2) = subEarlier f1 d acct v (e1 ++ e2) := by
  induction e1 generalizing d with
  | nil =>
    rw [List.nil_append, List.nil_append, subEarlier, if_neg (fun hc => h hc.1)]
  | cons p ps ih =>
    rw [List.cons_append, List.cons_append, subEarlier, subEarlier]
    by_cases hc : p.account = acct ∧ sameXactCounts f1 v (virt p) = true
    · rw [if_pos hc, if_pos hc]
      cases p.amount with
      | none => rfl
      | some a => exact ih _
    · rw [if_neg hc, if_neg hc]
      exact ih _

theorem checkPostF_insert_other_log (f1 f2 : Bool) (cx : Ctx) (l1 l2 : List Entry) (e : Entry)
    (earlier : List Posting) (p : Posting) (h : e.account ≠ p.account) :
    checkPostF f1 f2 cx (l1 ++ e :: l2) earlier p = checkPostF f1 f2 cx (l1 ++ l2) earlier p := by
  unfold checkPostF codeDiff
  rw [accTotal_insert_other l1 l2 e p.account _ h]

theorem checkPostF_insert_other_earlier (f1 f2 : Bool) (cx : Ctx) (log : List Entry)
    (e1 e2 : List Posting) (q : Posting) (p : Posting) (h : q.account ≠ p.account) :
    checkPostF f1 f2 cx log (e1 ++ q :: e2) p = checkPostF f1 f2 cx log (e1 ++ e2) p := by
  unfold checkPostF codeDiff
  simp only [subEarlier_insert_other f1 p.account (virt p) e1 e2 q h]

theorem checkPost_insert_other (cx : Ctx) (l1 l2 : List Entry) (e : Entry) (e1 e2 : List Posting) (q p : Posting)
    (he : e.account ≠ p.account) (hq : q.account ≠ p.account) :
    checkPost cx (l1 ++ e :: l2) (e1 ++ q :: e2) p = checkPost cx (l1 ++ l2) (e1 ++ e2) p := by
  rw [checkPost_eq, checkPost_eq, checkPostF_insert_other_log _ _ cx l1 l2 e _ p he,
    checkPostF_insert_other_earlier _ _ cx _ e1 e2 q p hq]

/-- a proper sub-account name is a different name -/
theorem subaccount_ne (a s : String) : a ++ ":" ++ s ≠ a := by
  intro h
  have := congrArg String.length h
  simp only [String.length_append] at this
  have h1 : (":" : String).length = 1 := by decide
  omega

theorem checkPostF_permissive_ne (f1 f2 : Bool) (cx : Ctx) (hperm : cx.permissive = true) (log : List Entry)
    (earlier : List Posting) (p : Posting) : checkPostF f1 f2 cx log earlier p ≠ .error .assertOff := by
  cases hpas : p.assert with
  | none => simp only [checkPostF, hpas]; exact fun h => nomatch h
  | some amt =>
    cases hd : codeDiff f1 log earlier p.account (virt p) amt with
    | error e =>
      rw [checkPostF_error hpas hd, subEarlier_error _ _ _ _ _ _ hd]
      exact fun h => nomatch h
    | ok d2 =>
      cases hpa : p.amount with
      | none =>
        rw [checkPostF_assign hpas hpa hd]
        cases hA : assignFrom cx.env (restrict d2 amt) amt with
        | ok x => exact fun h => nomatch h
        | error e => rw [assignFrom_error hA]; exact fun h => nomatch h
      | some a =>
        rw [checkPostF_assert hpas hpa hd, hperm]
        exact fun h => nomatch h

theorem checkPostF_permissive_ok (f1 f2 : Bool) (cx : Ctx) (hperm : cx.permissive = true) (log : List Entry)
    (earlier : List Posting) (p : Posting) (a amt : Amount) (hpa : p.amount = some a) (hpas : p.assert = some amt)
    (hn : NoElidedEarlier earlier p.account) : checkPostF f1 f2 cx log earlier p = .ok p := by
  obtain ⟨d2, hd⟩ := codeDiff_ok f1 log earlier p.account (virt p) amt hn
  rw [checkPostF_assert hpas hpa hd, hperm]
  rfl

/-- The permissive option does not touch assignments (nor postings without `=`). -/
theorem checkPostF_permissive_assign (f1 f2 : Bool) (cx : Ctx) (log : List Entry) (earlier : List Posting)
    (p : Posting) (hpa : p.amount = none) (b : Bool) :
    checkPostF f1 f2 { cx with permissive := b } log earlier p = checkPostF f1 f2 cx log earlier p := by
  unfold checkPostF
  cases p.assert with
  | none => rfl
  | some amt =>
    simp only
    cases codeDiff f1 log earlier p.account (virt p) amt with
    | error e => rfl
    | ok d2 => simp only [hpa]

theorem parsePosts_error_permissive (cx : Ctx) (hperm : cx.permissive = true) (log : List Entry)
    (ps done : List Posting) (e : Nat × AErr) (h : parsePosts cx log done ps = .error e) : e.2 ≠ .assertOff := by
  induction ps generalizing done with
  | nil => simp [parsePosts] at h
  | cons p ps ih =>
    rw [parsePosts, checkPost_eq] at h
    cases hc : checkPostF Gen.Assert.virtualCountsSameXactReal Gen.Assert.ownAmountBeforeRestriction cx log done p with
    | error e' =>
      rw [hc] at h
      simp only [Except.error.injEq] at h
      subst h
      intro he
      simp only at he
      rw [he] at hc
      exact checkPostF_permissive_ne _ _ cx hperm log done p hc
    | ok p' =>
      rw [hc] at h
      exact ih _ h

theorem residual_error (ps : List Posting) (v : Value) (np : Option Posting) (e : AErr)
    (h : residual ps v np = .error e) : e = .twoNulls := by
  induction ps generalizing v np with
  | nil => simp [residual] at h
  | cons p ps ih =>
    unfold residual at h
    split at h
    · exact ih _ _ h
    · split at h
      · exact ih _ _ h
      · split at h
        · injection h with h; exact h.symm
        · exact ih _ _ h

/-- `finalize` fails with something other than "assertion off", or leaves the transaction's own entries,
    then those of the balancing postings if an amount was elided. -/
theorem finalize_cases (cx : Ctx) (posts : List Posting) :
    (∃ e, finalize cx posts = .error e ∧ e ≠ .assertOff) ∨
    (∃ bal np, residual posts .void none = .ok (bal, np) ∧
      finalize cx posts = .ok (match np with
                               | none => entriesOf posts
                               | some q => entriesOf posts ++ (balancingAmounts bal).map (entryOf q))) := by
  -- the balance test fails only with `unbalanced`, the test for amounts still missing only with `nullAfter`,
  -- `residual` only with `twoNulls`: `key` is the outer test over an inner result `r`, `ite_cases` the inner test
  have key : ∀ (b : Bool) (E : List Entry) (r : Except AErr (List Entry)), (r = .ok E ∨ r = .error .nullAfter) →
      (∃ e, (if b = true then .error .unbalanced else r) = .error e ∧ e ≠ .assertOff) ∨
      (if b = true then .error .unbalanced else r) = .ok E := by
    intro b E r hr
    cases b with
    | true => exact .inl ⟨_, rfl, fun h => nomatch h⟩
    | false => rcases hr with rfl | rfl
               · exact .inr rfl
               · exact .inl ⟨_, rfl, fun h => nomatch h⟩
  have ite_cases : ∀ (n : Bool) (E : List Entry),
      (if n = true then (.error .nullAfter : Except AErr (List Entry)) else .ok E) = .ok E ∨
      (if n = true then (.error .nullAfter : Except AErr (List Entry)) else .ok E) = .error .nullAfter := by
    intro n E; cases n
    · exact .inl rfl
    · exact .inr rfl
  unfold finalize
  cases hres : residual posts .void none with
  | error e => exact .inl ⟨e, rfl, by rw [residual_error _ _ _ _ hres]; exact fun h => nomatch h⟩
  | ok r =>
    obtain ⟨bal, np⟩ := r
    cases np with
    | none => exact (key _ _ _ (ite_cases _ _)).elim .inl (fun h => .inr ⟨bal, none, rfl, h⟩)
    | some q =>
      dsimp only
      cases hb : balancingAmounts bal with
      | nil => exact .inl ⟨_, rfl, fun h => nomatch h⟩
      | cons a as =>
        exact (ite_cases _ _).elim (fun h => .inr ⟨bal, some q, rfl, by rw [hb]; exact h⟩)
          (fun h => .inl ⟨_, h, fun h => nomatch h⟩)

theorem finalize_ok {cx : Ctx} {posts : List Posting} {es : List Entry} (h : finalize cx posts = .ok es) :
    ∃ bal np, residual posts .void none = .ok (bal, np) ∧
      es = (match np with
            | none => entriesOf posts
            | some q => entriesOf posts ++ (balancingAmounts bal).map (entryOf q)) := by
  rcases finalize_cases cx posts with ⟨e, he, _⟩ | ⟨bal, np, hres, hf⟩
  · rw [he] at h; cases h
  · rw [hf] at h; cases h; exact ⟨bal, np, hres, rfl⟩

theorem finalize_error (cx : Ctx) (posts : List Posting) (e : AErr) (h : finalize cx posts = .error e) :
    e ≠ .assertOff := by
  rcases finalize_cases cx posts with ⟨e', he, hne⟩ | ⟨_, _, _, hf⟩
  · rw [he] at h; cases h; exact hne
  · rw [hf] at h; cases h

theorem runXact_error_permissive (cx : Ctx) (hperm : cx.permissive = true) (log : List Entry) (x : Xact)
    (e : Nat × AErr) (h : runXact cx log x = .error e) : e.2 ≠ .assertOff := by
  unfold runXact at h
  cases hp : parsePosts cx log [] x.posts with
  | error e' =>
    rw [hp] at h
    injection h with h; subst h
    exact parsePosts_error_permissive cx hperm log _ _ _ hp
  | ok posts =>
    rw [hp] at h
    simp only at h
    cases hf : finalize cx posts with
    | error e' =>
      rw [hf] at h
      injection h with h; subst h
      exact finalize_error cx posts e' hf
    | ok es => rw [hf] at h; cases h

theorem step_ok {cx : Ctx} {s : State} {x : Xact} {es : List Entry} (h : runXact cx s.log x = .ok es) :
    step cx s x = { s with log := s.log ++ es } := by
  simp only [step, h]

theorem step_error {cx : Ctx} {s : State} {x : Xact} {e : Nat × AErr} (h : runXact cx s.log x = .error e) :
    step cx s x = { s with errors := s.errors ++ [e] } := by
  simp only [step, h]

theorem foldl_step_inv (cx : Ctx) (I : State → Prop) (xs : List Xact)
    (hstep : ∀ s, ∀ x ∈ xs, I s → I (step cx s x)) (s : State) (hs : I s) : I (xs.foldl (step cx) s) := by
  induction xs generalizing s with
  | nil => exact hs
  | cons x xs ih =>
    exact ih (fun s y hy => hstep s y (List.mem_cons_of_mem _ hy)) _ (hstep s x List.mem_cons_self hs)

theorem foldl_step_errors (cx : Ctx) (P : Nat × AErr → Prop)
    (hstep : ∀ log x e, runXact cx log x = .error e → P e) (xs : List Xact) (s : State)
    (hs : ∀ e ∈ s.errors, P e) : ∀ e ∈ (xs.foldl (step cx) s).errors, P e := by
  refine foldl_step_inv cx (fun s => ∀ e ∈ s.errors, P e) xs (fun s x _ hs => ?_) s hs
  cases hr : runXact cx s.log x with
  | ok es => rw [step_ok hr]; exact hs
  | error e' =>
    rw [step_error hr]
    intro e he
    rcases List.mem_append.mp he with he | he
    · exact hs e he
    · rw [List.mem_singleton.mp he]; exact hstep _ _ _ hr

theorem foldl_step_log_prefix (cx : Ctx) (xs : List Xact) (s : State) : s.log <+: (xs.foldl (step cx) s).log := by
  refine foldl_step_inv cx (fun s' => s.log <+: s'.log) xs (fun s' x _ hs => ?_) s (List.prefix_refl _)
  cases hr : runXact cx s'.log x with
  | ok es => rw [step_ok hr]; exact hs.trans (List.prefix_append _ _)
  | error e => rw [step_error hr]; exact hs

/-- what is written in a posting is exact, and it carries no cost (a cost total is a product
    and may exceed the display precision) -/
def PFine (env : PrecEnv) (p : Posting) : Prop :=
  (∀ a, p.amount = some a → fine env a) ∧ (∀ a, p.assert = some a → fine env a) ∧ p.cost = none

def XFine (env : PrecEnv) (x : Xact) : Prop := ∀ p ∈ x.posts, PFine env p

theorem checkPostF_fine (f1 f2 : Bool) (cx : Ctx) (log : List Entry) (earlier : List Posting) (p p' : Posting)
    (hl : FineLog cx.env log) (he : ∀ q ∈ earlier, PFine cx.env q) (hp : PFine cx.env p)
    (h : checkPostF f1 f2 cx log earlier p = .ok p') : PFine cx.env p' := by
  cases hpas : p.assert with
  | none => simp only [checkPostF, hpas] at h; cases h; exact hp
  | some amt =>
    cases hd : codeDiff f1 log earlier p.account (virt p) amt with
    | error e => rw [checkPostF_error hpas hd] at h; cases h
    | ok d2 =>
      have hamt : fine cx.env amt := hp.2.1 amt hpas
      cases hpa : p.amount with
      | some a =>
        rw [checkPostF_assert hpas hpa hd] at h
        split at h
        · cases h
        · cases h; exact hp
      | none =>
        rw [checkPostF_assign hpas hpa hd] at h
        obtain ⟨x, hx, rfl⟩ := Except.map_eq_ok h
        have hgood := (codeDiff_good f1 log earlier _ _ amt d2 hd hl (fun q hq a ha => (he q hq).1 a ha) hamt).restrict amt
        refine ⟨fun a ha => ?_, hp.2.1, hp.2.2⟩
        rw [← Option.some.inj ha]
        exact assignFrom_fine hgood.2 hamt hx

theorem parsePosts_fine (cx : Ctx) (log : List Entry) (hl : FineLog cx.env log) (ps done posts : List Posting)
    (hd : ∀ q ∈ done, PFine cx.env q) (hps : ∀ q ∈ ps, PFine cx.env q)
    (h : parsePosts cx log done ps = .ok posts) : ∀ q ∈ posts, PFine cx.env q := by
  induction ps generalizing done with
  | nil => simp only [parsePosts] at h; cases h; exact hd
  | cons p ps ih =>
    rw [parsePosts, checkPost_eq] at h
    cases hc : checkPostF Gen.Assert.virtualCountsSameXactReal Gen.Assert.ownAmountBeforeRestriction cx log done p with
    | error e => rw [hc] at h; cases h
    | ok p' =>
      rw [hc] at h
      have hp' := checkPostF_fine _ _ cx log done p p' hl hd (hps p List.mem_cons_self) hc
      apply ih (done ++ [p']) _ (fun q hq => hps q (List.mem_cons_of_mem _ hq)) h
      intro q hq
      rcases List.mem_append.mp hq with hq | hq
      · exact hd q hq
      · simp only [List.mem_singleton] at hq; subst hq; exact hp'

theorem mem_entriesOf {ps : List Posting} {e : Entry} (h : e ∈ entriesOf ps) :
    ∃ p ∈ ps, ∃ a, p.amount = some a ∧ e.amt = a := by
  induction ps with
  | nil => cases h
  | cons p ps ih =>
    unfold entriesOf at h
    cases hpa : p.amount with
    | none =>
      rw [hpa] at h
      obtain ⟨q, hq, a, ha, hea⟩ := ih h
      exact ⟨q, List.mem_cons_of_mem _ hq, a, ha, hea⟩
    | some a =>
      rw [hpa] at h
      rcases List.mem_cons.mp h with rfl | h
      · exact ⟨p, List.mem_cons_self, a, hpa, rfl⟩
      · obtain ⟨q, hq, b, hb, heb⟩ := ih h
        exact ⟨q, List.mem_cons_of_mem _ hq, b, hb, heb⟩

theorem residual_fine {env : PrecEnv} (ps : List Posting) (v bal : Value) (np np' : Option Posting)
    (hps : ∀ q ∈ ps, PFine env q) (hn : Num v) (hv : VFine env v)
    (h : residual ps v np = .ok (bal, np')) : VFine env bal := by
  induction ps generalizing v np with
  | nil => simp only [residual] at h; cases h; exact hv
  | cons p ps ih =>
    have hps' : ∀ q ∈ ps, PFine env q := fun q hq => hps q (List.mem_cons_of_mem _ hq)
    have hp := hps p List.mem_cons_self
    unfold residual at h
    split at h
    · exact ih _ _ hps' hn hv h
    · split at h
      · rename_i a hb
        have hfa : fine env a := by
          unfold balancing at hb
          rw [hp.2.2] at hb
          cases hpa : p.amount with
          | none => rw [hpa] at hb; cases hb
          | some a' =>
            rw [hpa] at hb
            simp only [Option.some.injEq] at hb
            subst hb; exact hp.1 _ hpa
        obtain ⟨_, h2, h3⟩ := accAdd_spec (env := env) v a hn ""
        exact ih _ _ hps' h2 (h3 hv hfa) h
      · split at h
        · cases h
        · exact ih _ _ hps' hn hv h

theorem mem_sortByComm {x : Amount} {l : List Amount} (h : x ∈ sortByComm l) : x ∈ l :=
  (foldr_ins_perm (ins := insertByComm) (le := fun a b => decide (a.comm ≤ b.comm)) (fun _ => rfl)
    (fun a b bs => by rw [insertByComm]; simp only [decide_eq_true_eq]) l).mem_iff.mp h

theorem balancingAmounts_fine {env : PrecEnv} (bal : Value) (hv : VFine env bal) :
    ∀ a ∈ balancingAmounts bal, fine env a := by
  intro a ha
  unfold balancingAmounts at ha
  split at ha
  · simp only [List.mem_singleton] at ha; subst ha; exact fine_neg hv
  · simp only [List.mem_singleton] at ha; subst ha; exact fine_neg (hv _ List.mem_cons_self)
  · obtain ⟨y, hy, rfl⟩ := List.mem_map.mp ha
    exact fine_neg (hv _ (mem_sortByComm hy))
  · cases ha

theorem finalize_fine (cx : Ctx) (posts : List Posting) (es : List Entry)
    (hps : ∀ q ∈ posts, PFine cx.env q) (h : finalize cx posts = .ok es) : FineLog cx.env es := by
  obtain ⟨bal, np, hres, rfl⟩ := finalize_ok h
  have hent : FineLog cx.env (entriesOf posts) := by
    intro e he
    obtain ⟨p, hp, a, hpa, hea⟩ := mem_entriesOf he
    rw [hea]; exact (hps p hp).1 a hpa
  cases np with
  | none => exact hent
  | some q =>
    intro e he
    rcases List.mem_append.mp he with he | he
    · exact hent e he
    · obtain ⟨a, ha, rfl⟩ := List.mem_map.mp he
      exact balancingAmounts_fine bal (residual_fine posts .void bal none (some q) hps trivial trivial hres) a ha

theorem runXact_fine (cx : Ctx) (log : List Entry) (hl : FineLog cx.env log) (x : Xact) (hx : XFine cx.env x)
    (es : List Entry) (h : runXact cx log x = .ok es) : FineLog cx.env es := by
  unfold runXact at h
  cases hp : parsePosts cx log [] x.posts with
  | error e => rw [hp] at h; cases h
  | ok posts =>
    rw [hp] at h
    simp only at h
    have hposts := parsePosts_fine cx log hl x.posts [] posts (fun q hq => nomatch hq) hx hp
    cases hf : finalize cx posts with
    | error e => rw [hf] at h; cases h
    | ok es' =>
      rw [hf] at h
      cases h
      exact finalize_fine cx posts _ hposts hf

theorem foldl_step_fine (cx : Ctx) (xs : List Xact) (hxs : ∀ x ∈ xs, XFine cx.env x) (s : State)
    (hs : FineLog cx.env s.log) : FineLog cx.env (xs.foldl (step cx) s).log := by
  refine foldl_step_inv cx (fun s => FineLog cx.env s.log) xs (fun s x hx hs => ?_) s hs
  cases hr : runXact cx s.log x with
  | error e => rw [step_error hr]; exact hs
  | ok es =>
    rw [step_ok hr]
    intro e he
    rcases List.mem_append.mp he with he | he
    · exact hs e he
    · exact runXact_fine cx s.log hs x (hxs x hx) es hr e he

end Ledger.Assert
