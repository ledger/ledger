/-
Sums of rationals over lists (`rsum`); the generalised denotation `denOn P` (the sum of the
quantities of all components whose commodity satisfies `P`; `Value.den · c` is the instance
`P = (· = c)`), its additivity through `Balance.add*` and `Value.add`, and what `sumFrom` /
`sumV` denote.  The `denOn` chain repeats, for an arbitrary `P`, the `den` chain of
Lemmas/Value.lean; `add_denOn` is the additivity of `Value.add` that chain does not have.
-/
import LedgerModel.Lemmas.Value
import LedgerModel.Lemmas.ExceptBind
import LedgerModel.Model.Reports

namespace Ledger
namespace Reports

def rsum : List Rat → Rat
  | [] => 0
  | x :: xs => x + rsum xs

@[simp] theorem rsum_nil : rsum [] = 0 := rfl
@[simp] theorem rsum_cons (x : Rat) (xs : List Rat) : rsum (x :: xs) = x + rsum xs := rfl

theorem rsum_append (a b : List Rat) : rsum (a ++ b) = rsum a + rsum b := by
  induction a with
  | nil => simp only [List.nil_append, rsum_nil, Rat.zero_add]
  | cons x xs ih => simp only [List.cons_append, rsum_cons, ih, Rat.add_assoc]

theorem rsum_map_zero {α : Type} (l : List α) : rsum (l.map (fun _ => (0 : Rat))) = 0 := by
  induction l with
  | nil => rfl
  | cons x xs ih => simp only [List.map_cons, rsum_cons, ih, Rat.add_zero]

theorem rsum_map_add {α : Type} (l : List α) (g h : α → Rat) :
    rsum (l.map (fun a => g a + h a)) = rsum (l.map g) + rsum (l.map h) := by
  induction l with
  | nil => simp only [List.map_nil, rsum_nil, Rat.add_zero]
  | cons x xs ih => simp only [List.map_cons, rsum_cons, ih, Rat.add_assoc, Rat.add_left_comm]

theorem rsum_map_congr {α : Type} (l : List α) (g h : α → Rat) (hgh : ∀ a ∈ l, g a = h a) :
    rsum (l.map g) = rsum (l.map h) := by
  induction l with
  | nil => rfl
  | cons x xs ih =>
    simp only [List.map_cons, rsum_cons]
    rw [hgh x List.mem_cons_self, ih (fun a ha => hgh a (List.mem_cons_of_mem _ ha))]

theorem rsum_perm {a b : List Rat} (h : a.Perm b) : rsum a = rsum b := by
  induction h with
  | nil => rfl
  | cons x _ ih => simp only [rsum_cons, ih]
  | swap x y l => simp only [rsum_cons, Rat.add_left_comm]
  | trans _ _ ih1 ih2 => rw [ih1, ih2]

/-- a sum over a filtered list is the sum of the guarded terms. -/
theorem rsum_filter {α : Type} (l : List α) (p : α → Bool) (g : α → Rat) :
    rsum ((l.filter p).map g) = rsum (l.map (fun a => if p a then g a else 0)) := by
  induction l with
  | nil => rfl
  | cons x xs ih =>
    simp only [List.filter_cons]
    split
    · rename_i h; simp only [List.map_cons, rsum_cons, ih, h, if_true]
    · rename_i h; simp only [List.map_cons, rsum_cons, ih, h, Bool.false_eq_true, if_false, Rat.zero_add]

theorem rsum_indicator_absent {α : Type} [DecidableEq α] (l : List α) (k : α) (hk : k ∉ l) (x : Rat) :
    rsum (l.map (fun a => if a = k then x else 0)) = 0 := by
  rw [rsum_map_congr l _ (fun _ => 0) (fun a ha => by
    have : a ≠ k := fun h => hk (h ▸ ha)
    simp [this])]
  exact rsum_map_zero l

/-- in a duplicate-free list the indicator of one of its members sums to the member's weight. -/
theorem rsum_indicator {α : Type} [DecidableEq α] (l : List α) (hl : l.Nodup) (k : α) (hk : k ∈ l) (x : Rat) :
    rsum (l.map (fun a => if a = k then x else 0)) = x := by
  induction l with
  | nil => cases hk
  | cons y ys ih =>
    simp only [List.map_cons, rsum_cons]
    have hnd := List.nodup_cons.mp hl
    by_cases hy : y = k
    · subst hy
      rw [if_pos rfl, rsum_indicator_absent ys y hnd.1 x, Rat.add_zero]
    · have hk' : k ∈ ys := by
        cases hk with
        | head => exact absurd rfl hy
        | tail _ h => exact h
      rw [if_neg hy, ih hnd.2 hk', Rat.zero_add]

theorem ite_add (c : Prop) [Decidable c] (x y : Rat) :
    (if c then x + y else 0) = (if c then x else 0) + (if c then y else 0) := by
  split
  · rfl
  · exact (Rat.add_zero 0).symm

def denOnA (P : Comm → Bool) (a : Amount) : Rat := if P a.comm then a.q else 0

def denOnB (P : Comm → Bool) : Balance → Rat
  | [] => 0
  | x :: xs => denOnA P x + denOnB P xs

def denOnV (P : Comm → Bool) : Value → Rat
  | .void => 0
  | .bool _ => 0
  | .int n => if P "" then (n : Rat) else 0
  | .amt a => denOnA P a
  | .bal b => denOnB P b

theorem den_eq_denOnA (a : Amount) (c : Comm) : a.den c = denOnA (fun x => decide (x = c)) a := by
  simp [Amount.den, denOnA]

theorem den_eq_denOnB (b : Balance) (c : Comm) : b.den c = denOnB (fun x => decide (x = c)) b := by
  induction b with
  | nil => rfl
  | cons x xs ih => simp only [Balance.den_cons, denOnB, ih, den_eq_denOnA]

theorem den_eq_denOnV (v : Value) (c : Comm) : v.den c = denOnV (fun x => decide (x = c)) v := by
  cases v with
  | void => rfl
  | bool b => rfl
  | int n => simp [Value.den, denOnV]
  | amt a => simp only [Value.den, denOnV, den_eq_denOnA]
  | bal b => simp only [Value.den, denOnV, den_eq_denOnB]

@[simp] theorem denOnB_nil (P : Comm → Bool) : denOnB P [] = 0 := rfl
@[simp] theorem denOnB_cons (P : Comm → Bool) (x : Amount) (xs : Balance) :
    denOnB P (x :: xs) = denOnA P x + denOnB P xs := rfl

theorem denOnA_ofInt (P : Comm → Bool) (n : Int) :
    denOnA P (Amount.ofInt n) = if P "" then (n : Rat) else 0 := rfl

theorem denOnB_ofAmt (P : Comm → Bool) (a : Amount) : denOnB P (Balance.ofAmt a) = denOnA P a := by
  unfold Balance.ofAmt
  split
  · rename_i h; simp [denOnA, h]
  · simp only [denOnB_cons, denOnB_nil, Rat.add_zero]

theorem denOnB_addGo (P : Comm → Bool) (b : Balance) (a : Amount) :
    denOnB P (Balance.addGo b a) = denOnB P b + denOnA P a := by
  induction b with
  | nil => simp only [Balance.addGo, denOnB_cons, denOnB_nil, Rat.add_zero, Rat.zero_add]
  | cons x xs ih =>
    unfold Balance.addGo
    split
    · rename_i h
      show (if P x.comm then x.q + a.q else 0) + denOnB P xs =
        (if P x.comm then x.q else 0) + denOnB P xs + (if P a.comm then a.q else 0)
      rw [← h, ite_add, Rat.add_assoc, Rat.add_assoc, Rat.add_comm (denOnB P xs)]
    · simp only [denOnB_cons, ih, Rat.add_assoc]

theorem denOnB_addAmt (P : Comm → Bool) (b : Balance) (a : Amount) :
    denOnB P (Balance.addAmt b a) = denOnB P b + denOnA P a := by
  unfold Balance.addAmt
  split
  · rename_i h; rw [denOnA, h, ite_self, Rat.add_zero]
  · exact denOnB_addGo P b a

theorem denOnB_add (P : Comm → Bool) (a b : Balance) :
    denOnB P (Balance.add a b) = denOnB P a + denOnB P b := by
  unfold Balance.add
  induction b generalizing a with
  | nil => simp only [List.foldl_nil, denOnB_nil, Rat.add_zero]
  | cons x xs ih => simp only [List.foldl_cons, ih, denOnB_addAmt, denOnB_cons, Rat.add_assoc]

theorem denOnA_add (P : Comm → Bool) {a b r : Amount} (h : Amount.add a b = .ok r) (hc : a.comm = b.comm) :
    denOnA P r = denOnA P a + denOnA P b := by
  unfold Amount.add at h
  split at h
  · cases h
  · cases h
    show (if P a.comm then a.q + b.q else 0) = (if P a.comm then a.q else 0) + (if P b.comm then b.q else 0)
    rw [← hc, ite_add]

/-- `value_t::operator+=` preserves the generalised denotation on every cell where it is defined. -/
theorem add_denOn (P : Comm → Bool) (a b r : Value) (h : Value.add a b = .ok r) :
    denOnV P r = denOnV P a + denOnV P b := by
  unfold Value.add at h
  split at h
  · cases h; simp only [denOnV, Rat.zero_add]
  · cases h; simp only [denOnV, Rat.intCast_add, ite_add]
  · rename_i x y
    split at h
    · cases h
      simp only [denOnV, denOnB_addAmt, denOnB_ofAmt, denOnA_ofInt]
    · rename_i hy
      obtain ⟨r', hr, rfl⟩ := Except.map_eq_ok h
      have hc : y.comm = "" := Decidable.not_not.mp fun hne => hy (decide_eq_true hne)
      exact denOnA_add P hr hc.symm
  · cases h
    simp only [denOnV, denOnB_add, denOnB_ofAmt, denOnA_ofInt]
  · rename_i x y
    split at h
    · cases h
      simp only [denOnV, denOnB_addAmt, denOnB_ofAmt, denOnA_ofInt]
    · rename_i hx
      obtain ⟨r', hr, rfl⟩ := Except.map_eq_ok h
      have hc : x.comm = "" := Decidable.not_not.mp fun hne => hx (decide_eq_true hne)
      exact denOnA_add P hr hc
  · rename_i x y
    split at h
    · cases h
      simp only [denOnV, denOnB_addAmt, denOnB_ofAmt]
    · rename_i hxy
      obtain ⟨r', hr, rfl⟩ := Except.map_eq_ok h
      exact denOnA_add P hr (Decidable.not_not.mp hxy)
  · cases h; simp only [denOnV, denOnB_add, denOnB_ofAmt]
  · cases h; simp only [denOnV, denOnB_addAmt, denOnA_ofInt]
  · cases h; simp only [denOnV, denOnB_addAmt]
  · cases h; simp only [denOnV, denOnB_add]
  · cases h

theorem addV_denOn (P : Comm → Bool) (a b r : Value) (h : addV a b = .ok r) :
    denOnV P r = denOnV P a + denOnV P b := by
  unfold addV at h
  split at h
  · cases h; simp only [denOnV, Rat.add_zero]
  · exact add_denOn P a _ r h

theorem sumFrom_cons (acc v : Value) (vs : List Value) :
    sumFrom acc (v :: vs) = (addV acc v).bind (fun a => sumFrom a vs) := by
  rw [sumFrom]; cases addV acc v <;> rfl

theorem sumFrom_denOn (P : Comm → Bool) (vs : List Value) (acc r : Value) (h : sumFrom acc vs = .ok r) :
    denOnV P r = denOnV P acc + rsum (vs.map (denOnV P)) := by
  induction vs generalizing acc with
  | nil => cases h; exact (Rat.add_zero _).symm
  | cons v vs ih =>
    rw [sumFrom_cons] at h
    obtain ⟨a, ha, h⟩ := Except.bind_eq_ok h
    rw [ih a h, addV_denOn P acc v a ha, List.map_cons, rsum_cons, Rat.add_assoc]

theorem sumV_denOn (P : Comm → Bool) (vs : List Value) (r : Value) (h : sumV vs = .ok r) :
    denOnV P r = rsum (vs.map (denOnV P)) := by
  rw [sumFrom_denOn P vs .void r h]
  exact Rat.zero_add _

/-- the `den` instance used by the property theorems. -/
theorem sumV_den (vs : List Value) (r : Value) (h : sumV vs = .ok r) (c : Comm) :
    r.den c = rsum (vs.map (fun v => v.den c)) := by
  rw [den_eq_denOnV, sumV_denOn _ vs r h]
  exact rsum_map_congr vs _ _ (fun v _ => (den_eq_denOnV v c).symm)

theorem addV_den (a b r : Value) (h : addV a b = .ok r) (c : Comm) : r.den c = a.den c + b.den c := by
  rw [den_eq_denOnV, addV_denOn _ a b r h, ← den_eq_denOnV, ← den_eq_denOnV]

end Reports
end Ledger
