/-
Helper lemmas behind Props/C09: exactness (`fine`: the precision counter does not exceed the display
precision, so `is_zero` is exact) of the balances the `= AMOUNT` block builds,
their denotations, and the per-account file-order specification.
-/
import LedgerModel.Model.Assert
import LedgerModel.Lemmas.Value

namespace Ledger.Assert

/-- `amount_t::is_zero` is exact for this amount: no commodity, or a precision
    counter within the commodity's display precision (true of every parsed amount,
    since parsing raises the display precision to the written one). -/
def fine (env : PrecEnv) (a : Amount) : Prop := a.hasComm = false ∨ a.prec ≤ env a.comm

def BFine (env : PrecEnv) (b : Balance) : Prop := ∀ x ∈ b, fine env x

theorem isZero_of_fine {env : PrecEnv} {a : Amount} (h : fine env a) :
    Amount.isZero env a = decide (a.q = 0) := by
  unfold Amount.isZero
  rcases h with h | h
  · simp [h]
  · by_cases hc : a.hasComm = true
    · simp [hc, h]
    · simp [hc]

theorem fine_neg {env : PrecEnv} {a : Amount} (h : fine env a) : fine env a.neg := h

theorem fine_zeroLike {env : PrecEnv} {a : Amount} (h : fine env a) : fine env (zeroLike a) := h

theorem hasComm_eq_of_comm {a b : Amount} (h : a.comm = b.comm) : a.hasComm = b.hasComm := by
  simp [Amount.hasComm, h]

theorem fine_merge {env : PrecEnv} {x a : Amount} (q : Rat) (hx : fine env x) (ha : fine env a)
    (hc : x.comm = a.comm) : fine env { x with q := q, prec := max x.prec a.prec } := by
  rcases hx with hx | hx
  · exact Or.inl hx
  · rcases ha with ha | ha
    · left
      have h2 : x.hasComm = false := by rw [hasComm_eq_of_comm hc]; exact ha
      simpa [Amount.hasComm] using h2
    · right
      show max x.prec a.prec ≤ env x.comm
      rw [hc] at hx ⊢
      exact Nat.max_le.mpr ⟨hx, ha⟩

/-- `balance_t::is_zero` on a well-formed, exact balance: every commodity is zero. -/
theorem balIsZero_iff {env : PrecEnv} {b : Balance} (hw : b.comms.Nodup) (hf : BFine env b) :
    balIsZero env b = true ↔ ∀ c, b.den c = 0 := by
  unfold balIsZero
  rw [List.all_eq_true]
  constructor
  · intro h c
    refine Balance.den_of_isRealZero b (Balance.isRealZero_iff.mpr fun x hx => ?_) c
    have := h x hx
    rw [isZero_of_fine (hf x hx)] at this
    simpa using this
  · intro h x hx
    rw [isZero_of_fine (hf x hx)]
    have := h x.comm
    rw [Balance.den_of_mem hw hx] at this
    simpa using this

theorem BFine_ofAmt {env : PrecEnv} {a : Amount} (h : fine env a) : BFine env (Balance.ofAmt a) := by
  unfold Balance.ofAmt; split
  · intro x hx; cases hx
  · intro x hx; simp at hx; subst hx; exact h

/-- an entry of `subGo b a` is an entry of `b`, an entry of `b` in `a`'s commodity with the quantities and
    precisions merged, or `a` negated. -/
theorem forall_subGo {P : Amount → Prop} {b : Balance} {a : Amount} (hb : ∀ x ∈ b, P x)
    (hm : ∀ x ∈ b, x.comm = a.comm → ∀ q, P { x with q := q, prec := max x.prec a.prec }) (hn : P a.neg) :
    ∀ y ∈ Balance.subGo b a, P y := by
  induction b with
  | nil => intro y hy; rw [Balance.subGo, List.mem_singleton] at hy; rw [hy]; exact hn
  | cons x xs ih =>
    have hxs : ∀ y ∈ xs, P y := fun y hy => hb y (List.mem_cons_of_mem _ hy)
    unfold Balance.subGo
    split
    · rename_i hc
      split
      · exact hxs
      · intro y hy
        rcases List.mem_cons.mp hy with rfl | hy
        · exact hm x List.mem_cons_self hc _
        · exact hxs y hy
    · intro y hy
      rcases List.mem_cons.mp hy with rfl | hy
      · exact hb _ List.mem_cons_self
      · exact ih hxs (fun z hz => hm z (List.mem_cons_of_mem _ hz)) y hy

theorem BFine_subGo {env : PrecEnv} {b : Balance} (hb : BFine env b) {a : Amount} (ha : fine env a) :
    BFine env (Balance.subGo b a) :=
  forall_subGo hb (fun x hx hc q => fine_merge q (hb x hx) ha hc) (fine_neg ha)

theorem BFine_subAmt {env : PrecEnv} {b : Balance} (hb : BFine env b) {a : Amount} (ha : fine env a) :
    BFine env (Balance.subAmt b a) := by
  unfold Balance.subAmt; split
  · exact hb
  · exact BFine_subGo hb ha

theorem BFine_sub {env : PrecEnv} {d : Balance} (hd : BFine env d) {b : Balance} (hb : BFine env b) :
    BFine env (Balance.sub d b) := by
  unfold Balance.sub
  induction b generalizing d with
  | nil => exact hd
  | cons x xs ih =>
    exact ih (BFine_subAmt hd (hb x List.mem_cons_self)) (fun y hy => hb y (List.mem_cons_of_mem _ hy))

/-- an entry of `addGo b a` is an entry of `b`, an entry of `b` in `a`'s commodity with the quantities and
    precisions merged, or `a` itself. -/
theorem forall_addGo {P : Amount → Prop} {b : Balance} {a : Amount} (hb : ∀ x ∈ b, P x)
    (hm : ∀ x ∈ b, x.comm = a.comm → ∀ q, P { x with q := q, prec := max x.prec a.prec }) (ha : P a) :
    ∀ y ∈ Balance.addGo b a, P y := by
  induction b with
  | nil => intro y hy; rw [Balance.addGo, List.mem_singleton] at hy; rw [hy]; exact ha
  | cons x xs ih =>
    have hxs : ∀ y ∈ xs, P y := fun y hy => hb y (List.mem_cons_of_mem _ hy)
    unfold Balance.addGo
    split
    · rename_i hc
      intro y hy
      rcases List.mem_cons.mp hy with rfl | hy
      · exact hm x List.mem_cons_self hc _
      · exact hxs y hy
    · intro y hy
      rcases List.mem_cons.mp hy with rfl | hy
      · exact hb _ List.mem_cons_self
      · exact ih hxs (fun z hz => hm z (List.mem_cons_of_mem _ hz)) y hy

theorem BFine_addGo {env : PrecEnv} {b : Balance} (hb : BFine env b) {a : Amount} (ha : fine env a) :
    BFine env (Balance.addGo b a) :=
  forall_addGo hb (fun x hx hc q => fine_merge q (hb x hx) ha hc) ha

theorem BFine_addAmt {env : PrecEnv} {b : Balance} (hb : BFine env b) {a : Amount} (ha : fine env a) :
    BFine env (Balance.addAmt b a) := by
  unfold Balance.addAmt; split
  · exact hb
  · exact BFine_addGo hb ha

theorem qtyIn_eq_den (c : Comm) (a : Amount) : qtyIn c a = a.den c := rfl

/-- VOID, AMOUNT or BALANCE -/
def Num : Value → Prop
  | .void => True
  | .amt _ => True
  | .bal _ => True
  | _ => False

def VFine (env : PrecEnv) : Value → Prop
  | .amt a => fine env a
  | .bal b => BFine env b
  | _ => True

theorem accAdd_void (a : Amount) : accAdd .void a = .amt a := rfl

theorem accAdd_bal (b : Balance) (a : Amount) : accAdd (.bal b) a = .bal (Balance.addAmt b a) := rfl

theorem accAdd_amt_ne (x a : Amount) (h : x.comm ≠ a.comm) :
    accAdd (.amt x) a = .bal (Balance.addAmt (Balance.ofAmt x) a) := by
  simp [accAdd, Value.add, h]

theorem accAdd_amt_eq (x a : Amount) (h : x.comm = a.comm) :
    accAdd (.amt x) a = .amt { x with q := x.q + a.q, prec := max x.prec a.prec } := by
  have hh : x.hasComm = a.hasComm := hasComm_eq_of_comm h
  simp [accAdd, Value.add, h, Amount.add, hh, Except.map]

theorem accAdd_spec {env : PrecEnv} (v : Value) (a : Amount) (hv : Num v) (c : Comm) :
    (accAdd v a).den c = v.den c + a.den c ∧ Num (accAdd v a) ∧
      (VFine env v → fine env a → VFine env (accAdd v a)) := by
  cases v with
  | void => rw [accAdd_void]; refine ⟨?_, trivial, fun _ h => h⟩; simp only [Value.den, Rat.zero_add]
  | bool b => cases hv
  | int n => cases hv
  | amt x =>
    by_cases h : x.comm = a.comm
    · rw [accAdd_amt_eq x a h]
      refine ⟨?_, trivial, fun hx ha => fine_merge _ hx ha h⟩
      simp only [Value.den, Amount.den, h]
      split
      · rfl
      · exact (Rat.add_zero 0).symm
    · rw [accAdd_amt_ne x a h]
      refine ⟨?_, trivial, fun hx ha => BFine_addAmt (BFine_ofAmt hx) ha⟩
      simp only [Value.den, Balance.addAmt_den, Balance.den_ofAmt]
  | bal b =>
    rw [accAdd_bal]
    refine ⟨?_, trivial, fun hb ha => BFine_addAmt hb ha⟩
    simp only [Value.den, Balance.addAmt_den]

theorem foldl_accAdd_den (l : List Amount) (v : Value) (hv : Num v) (c : Comm) :
    (l.foldl accAdd v).den c = v.den c + sumQty c l ∧ Num (l.foldl accAdd v) := by
  induction l generalizing v with
  | nil => exact ⟨(Rat.add_zero _).symm, hv⟩
  | cons a l ih =>
    obtain ⟨h1, h2, _⟩ := accAdd_spec (env := fun _ => 0) v a hv c
    obtain ⟨i1, i2⟩ := ih (accAdd v a) h2
    exact ⟨by rw [List.foldl_cons, i1, h1, sumQty, qtyIn_eq_den, Rat.add_assoc], i2⟩

theorem foldl_accAdd_fine {env : PrecEnv} (l : List Amount) (v : Value) (hv : Num v) (hf : VFine env v)
    (hl : ∀ a ∈ l, fine env a) : VFine env (l.foldl accAdd v) := by
  induction l generalizing v with
  | nil => exact hf
  | cons a l ih =>
    obtain ⟨_, h2, h3⟩ := accAdd_spec (env := env) v a hv ""
    exact ih (accAdd v a) h2 (h3 hf (hl a List.mem_cons_self)) (fun b hb => hl b (List.mem_cons_of_mem _ hb))

theorem counted_eq (acct : String) (v : Bool) :
    counted acct (!v) = fun e => (decide (e.account = acct) && specCounts v e.virt) := by
  funext e; simp [counted, specCounts]

def FineLog (env : PrecEnv) (log : List Entry) : Prop := ∀ e ∈ log, fine env e.amt

def FinePosts (env : PrecEnv) (ps : List Posting) : Prop := ∀ p ∈ ps, ∀ a, p.amount = some a → fine env a

/-- account_t::amount(real_only) is the specification's sum over the log. -/
theorem accTotal_den (log : List Entry) (acct : String) (v : Bool) (c : Comm) :
    (accTotal log acct (!v)).den c = sumQty c (specLogAmounts log acct v) ∧ Num (accTotal log acct (!v)) := by
  unfold accTotal specLogAmounts
  rw [counted_eq]
  obtain ⟨h1, h2⟩ := foldl_accAdd_den
    ((log.filter (fun e => (decide (e.account = acct) && specCounts v e.virt))).map Entry.amt) .void trivial c
  exact ⟨by rw [h1]; exact Rat.zero_add _, h2⟩

theorem accTotal_fine {env : PrecEnv} (log : List Entry) (acct : String) (r : Bool) (hl : FineLog env log) :
    VFine env (accTotal log acct r) := by
  refine foldl_accAdd_fine _ .void trivial trivial ?_
  intro a ha
  obtain ⟨e, he, rfl⟩ := List.mem_map.mp ha
  exact hl e (List.mem_filter.mp he).1

/-- well-formed and exact: what `is_zero` needs to be the test "zero in every commodity" -/
def Good (env : PrecEnv) (b : Balance) : Prop := b.comms.Nodup ∧ BFine env b

theorem Good.ofAmt {env : PrecEnv} {a : Amount} (h : fine env a) : Good env (Balance.ofAmt a) :=
  ⟨Balance.nodup_comms_ofAmt a, BFine_ofAmt h⟩

theorem Good.subAmt {env : PrecEnv} {b : Balance} (hb : Good env b) {a : Amount} (ha : fine env a) :
    Good env (Balance.subAmt b a) :=
  ⟨Balance.nodup_comms_subAmt hb.1 a, BFine_subAmt hb.2 ha⟩

theorem Good.sub {env : PrecEnv} {d : Balance} (hd : Good env d) {b : Balance} (hb : BFine env b) :
    Good env (Balance.sub d b) :=
  ⟨Balance.nodup_comms_sub hd.1 b, BFine_sub hd.2 hb⟩

theorem subTotal_den (d : Balance) (v : Value) (hv : Num v) (c : Comm) :
    (subTotal d v).den c = d.den c - v.den c := by
  cases v with
  | void => simp only [subTotal, Value.den, Rat.sub_eq_add_neg, Rat.neg_zero, Rat.add_zero]
  | bool b => cases hv
  | int n => cases hv
  | amt a => exact Balance.subAmt_den d a c
  | bal b => exact Balance.sub_den d b c

theorem Good.subTotal {env : PrecEnv} {d : Balance} (hd : Good env d) {v : Value} (hv : VFine env v) :
    Good env (subTotal d v) := by
  cases v with
  | amt a => exact hd.subAmt hv
  | bal b => exact hd.sub hv
  | _ => exact hd

/-- amounts the code subtracts for the earlier postings of the transaction -/
def codeEarlierAmounts (f1 : Bool) (earlier : List Posting) (acct : String) (v : Bool) : List Amount :=
  (earlier.filter (fun p => p.account = acct && sameXactCounts f1 v (virt p))).filterMap (·.amount)

theorem sumQty_eq_den (c : Comm) (l : List Amount) : sumQty c l = Balance.den l c := by
  induction l with
  | nil => rfl
  | cons a l ih => rw [sumQty, ih]; rfl

/-- when the loop over the earlier postings succeeds it has subtracted exactly `codeEarlierAmounts`. -/
theorem subEarlier_eq (f1 : Bool) (acct : String) (v : Bool) (ps : List Posting) (d d2 : Balance)
    (h : subEarlier f1 d acct v ps = .ok d2) : d2 = Balance.sub d (codeEarlierAmounts f1 ps acct v) := by
  induction ps generalizing d with
  | nil => cases h; rfl
  | cons p ps ih =>
    unfold subEarlier at h
    unfold codeEarlierAmounts
    rw [List.filter_cons]
    by_cases hp : p.account = acct ∧ sameXactCounts f1 v (virt p) = true
    · have hf : (decide (p.account = acct) && sameXactCounts f1 v (virt p)) = true := by simp [hp.1, hp.2]
      rw [if_pos hp] at h
      rw [if_pos hf]
      cases ha : p.amount with
      | none => rw [ha] at h; cases h
      | some a =>
        rw [ha] at h
        rw [List.filterMap_cons_some ha]
        exact ih _ h
    · have hf : ¬ (decide (p.account = acct) && sameXactCounts f1 v (virt p)) = true := by
        simpa only [Bool.and_eq_true, decide_eq_true_eq] using hp
      rw [if_neg hp] at h
      rw [if_neg hf]
      exact ih _ h

theorem codeEarlier_fine {env : PrecEnv} {ps : List Posting} (hps : FinePosts env ps) (f1 : Bool) (acct : String)
    (v : Bool) : BFine env (codeEarlierAmounts f1 ps acct v) := by
  intro a ha
  obtain ⟨p, hp, hpa⟩ := List.mem_filterMap.mp ha
  exact hps p (List.mem_filter.mp hp).1 a hpa

/-- no earlier posting of the transaction to this account is still without an amount -/
def NoElidedEarlier (earlier : List Posting) (acct : String) : Prop :=
  ∀ p ∈ earlier, p.account = acct → p.amount.isSome = true

theorem subEarlier_ok (f1 : Bool) (acct : String) (v : Bool) (ps : List Posting) (d : Balance)
    (hn : NoElidedEarlier ps acct) : ∃ d2, subEarlier f1 d acct v ps = .ok d2 := by
  induction ps generalizing d with
  | nil => exact ⟨d, rfl⟩
  | cons p ps ih =>
    have hn' : NoElidedEarlier ps acct := fun q hq => hn q (List.mem_cons_of_mem _ hq)
    unfold subEarlier
    by_cases hp : p.account = acct ∧ sameXactCounts f1 v (virt p) = true
    · rw [if_pos hp]
      have := hn p List.mem_cons_self hp.1
      cases ha : p.amount with
      | none => rw [ha] at this; cases this
      | some a => exact ih _ hn'
    · rw [if_neg hp]; exact ih _ hn'

/-- the loop over the earlier postings fails only on a posting that has no amount yet. -/
theorem subEarlier_error (f1 : Bool) (acct : String) (v : Bool) (ps : List Posting) (d : Balance) (e : AErr)
    (h : subEarlier f1 d acct v ps = .error e) : e = .nullEarlier := by
  induction ps generalizing d with
  | nil => cases h
  | cons p ps ih =>
    unfold subEarlier at h
    split at h
    · cases ha : p.amount with
      | none => rw [ha] at h; cases h; rfl
      | some a => rw [ha] at h; exact ih _ h
    · exact ih _ h

/-- The guard of the `_partial` theorems, first half: the asserting posting is
    ordinary, or no earlier ORDINARY posting of the same transaction goes to the
    same account — or the source already counts those (`f1`). -/
def guardVirt (f1 : Bool) (earlier : List Posting) (p : Posting) : Bool :=
  f1 || !virt p || earlier.all (fun e => !(decide (e.account = p.account) && !virt e))

theorem codeEarlier_eq_spec (f1 : Bool) (earlier : List Posting) (p : Posting)
    (hg : guardVirt f1 earlier p = true) :
    codeEarlierAmounts f1 earlier p.account (virt p) = specEarlierAmounts earlier p.account (virt p) := by
  unfold codeEarlierAmounts specEarlierAmounts
  congr 1
  apply List.filter_congr
  intro e he
  by_cases ha : e.account = p.account
  · simp only [ha, decide_true, Bool.true_and]
    unfold sameXactCounts specCounts
    cases f1 with
    | true => rfl
    | false =>
      simp only [guardVirt, Bool.false_or, Bool.or_eq_true, Bool.not_eq_true', List.all_eq_true] at hg
      cases hv : virt p with
      | false => cases virt e <;> rfl
      | true =>
        rcases hg with hg | hg
        · rw [hv] at hg; cases hg
        · have := hg e he
          simp [ha] at this
          simp [this]
  · simp [ha]

/-- with a commodity asked for, the restriction is empty or the one entry of that commodity. -/
theorem restrict_cases (d : Balance) (amt : Amount) (hc : amt.hasComm = true) :
    restrict d amt = [] ∨ ∃ w ∈ d, w.comm = amt.comm ∧ restrict d amt = [w] := by
  unfold restrict
  rw [if_pos hc]
  cases hf : d.find? amt.comm with
  | none => exact .inl rfl
  | some w =>
    have hm := Balance.find?_some_mem hf
    have hwc := Balance.find?_some_comm hf
    by_cases hq : w.q = 0
    · exact .inl (by simp only [Balance.ofAmt, hq, if_true])
    · exact .inr ⟨w, hm, hwc, by simp only [Balance.ofAmt, hq, if_false]⟩

theorem restrict_noComm (d : Balance) (amt : Amount) (hc : amt.hasComm = false) : restrict d amt = d := by
  unfold restrict; rw [hc]; rfl

theorem restrict_den (d : Balance) (amt : Amount) (hw : d.comms.Nodup) (c : Comm) :
    (restrict d amt).den c =
      (if amt.hasComm then (if c = amt.comm then d.den c else 0) else d.den c) := by
  unfold restrict
  by_cases hc : amt.hasComm = true
  · simp only [hc, if_true]
    cases hf : d.find? amt.comm with
    | none =>
      have := Balance.den_eq_zero_of_not_mem d amt.comm ((Balance.find?_none_iff d amt.comm).mp hf)
      by_cases hcc : c = amt.comm
      · subst hcc; simp [this]
      · simp [hcc]
    | some w =>
      have hm := Balance.find?_some_mem hf
      have hwc := Balance.find?_some_comm hf
      rw [Balance.den_ofAmt]
      by_cases hcc : c = amt.comm
      · subst hcc; simp only [if_true, Amount.den, hwc]; rw [← hwc, Balance.den_of_mem hw hm]
      · have : ¬ w.comm = c := by rw [hwc]; exact fun e => hcc e.symm
        simp [Amount.den, this, hcc]
  · simp only [hc]; rfl

theorem Good.restrict {env : PrecEnv} {d : Balance} (hd : Good env d) (amt : Amount) : Good env (restrict d amt) := by
  by_cases hc : amt.hasComm = true
  · rcases restrict_cases d amt hc with h | ⟨w, hm, _, h⟩
    · rw [h]; exact ⟨List.nodup_nil, fun x hx => nomatch hx⟩
    · rw [h]; exact ⟨List.pairwise_singleton _ _, fun x hx => by rw [List.mem_singleton.mp hx]; exact hd.2 w hm⟩
  · rw [restrict_noComm d amt (by simpa using hc)]; exact hd

end Ledger.Assert
