/-
`FinX.finalizeF` (Model/Finalize.lean) on the common domain, stage by stage: the
residual scan is `OF.xbalance` and finds the elided posting; the cost loop leaves
the rows alone; the elided posting is filled with `OF.inferred`.  What the
implicit two-commodity exchange does is in Lemmas/CoherenceExch.lean.
-/
import LedgerModel.Lemmas.CoherenceCore

namespace Ledger
namespace Coh

open OF (bamt vadd xbalance nullPosts isNullPost inferred)

/-- the posting as `FinX.finalize` receives it -/
abbrev fp (env : PrecEnv) (p : Posting) : FinX.FPost := FinX.FPost.ofPosting env ⟨p, none⟩

theorem fp_mustBalance (env : PrecEnv) (p : Posting) : (fp env p).mustBalance = p.mustBalance := rfl

theorem fp_amount (env : PrecEnv) (p : Posting) : (fp env p).amount = p.amount :=
  FinX.ofPosting_amount_plain env ⟨p, none⟩ rfl

theorem fp_account (env : PrecEnv) (p : Posting) : (fp env p).account = p.account := rfl

theorem fp_kind (env : PrecEnv) (p : Posting) : (fp env p).kind = p.kind := rfl

theorem fp_cost (env : PrecEnv) (p : Posting) :
    (fp env p).cost = match p.amount, p.cost with
      | some a, some c => some (FinX.parseCost env a c)
      | _, _ => none := rfl

theorem fp_eq (env : PrecEnv) (p : Posting) :
    fp env p = { account := p.account, kind := p.kind, state := p.state, amount := p.amount,
                 cost := (match p.amount, p.cost with
                   | some a, some c => some (FinX.parseCost env a c)
                   | _, _ => none),
                 calculated := false, costCalculated := false, generated := false, inferred := false,
                 lotPrice := none } := by
  obtain ⟨acct, kind, st, amt, cost, asr, note, line⟩ := p
  cases amt <;> cases cost <;> rfl

theorem fp_lotPrice (env : PrecEnv) (p : Posting) : (fp env p).lotPrice = none := by
  rw [fp_eq]

theorem ofXact_posts (env : PrecEnv) (x : Xact) :
    (FinX.LXact.ofXact x).posts.map (FinX.FPost.ofPosting env) = x.posts.map (fp env) := by
  unfold FinX.LXact.ofXact
  rw [List.map_map]
  rfl

/-- the total cost of C01's reader, flag cleared by `rounded()`, is C08's `totalCost` -/
theorem parseCost_unkeep (env : PrecEnv) (a : Amount) (c : Cost) :
    ({ FinX.parseCost env a c with keep := false } : Amount) = OF.totalCost a c := by
  unfold FinX.parseCost OF.totalCost
  by_cases hp : c.perUnit = true
  · simp only [hp, if_true]
    simp [Amount.mul, Amount.clampPrec]
  · simp only [hp]
    by_cases hq : a.q < 0
    · simp [hq, Amount.neg]
    · simp [hq]

theorem totalCost_comm (a : Amount) (c : Cost) : (OF.totalCost a c).comm = c.amt.comm := by
  unfold OF.totalCost; cases c.perUnit <;> rfl

theorem unkeep_id (a : Amount) (h : a.keep = false) : ({ a with keep := false } : Amount) = a := by
  cases a; simp_all

theorem costOrAmt_fp (env : PrecEnv) (p : Posting) (hm : p.mustBalance = true)
    (hk : ∀ a, p.amount = some a → a.keep = false) :
    (FinX.costOrAmt (fp env p)).map (fun a => ({ a with keep := false } : Amount)) = bamt p := by
  unfold bamt
  rw [if_pos hm, fp_eq]
  unfold FinX.costOrAmt
  cases ha : p.amount with
  | none => rfl
  | some a =>
    cases hc : p.cost with
    | none =>
      rw [Option.map_some, unkeep_id a (hk a ha)]
    | some c =>
      simp only [Option.map_some]
      rw [parseCost_unkeep]

theorem costOrAmt_fp_none (env : PrecEnv) (p : Posting) :
    FinX.costOrAmt (fp env p) = none ↔ p.amount = none := by
  rw [fp_eq]
  unfold FinX.costOrAmt
  cases p.amount <;> cases p.cost <;> simp

theorem scan_prefix (env : PrecEnv) (rest : List FinX.FPost) (pre : List Posting) : ∀ (i : Nat) (v : Value)
    (np : Option (Nat × String)), VAB v → (∀ p ∈ pre, ∀ a, p.amount = some a → a.keep = false) →
    (∀ p ∈ pre, isNullPost p = false) →
    FinX.scan (pre.map (fp env) ++ rest) i v np
      = FinX.scan rest (i + pre.length) ((pre.filterMap bamt).foldl vadd v) np := by
  induction pre with
  | nil => intro _ _ _ _ _ _; rfl
  | cons p pre ih =>
    intro i v np hv hk hn
    obtain ⟨hkp, hks⟩ := List.forall_mem_cons.1 hk
    obtain ⟨hnp, hns⟩ := List.forall_mem_cons.1 hn
    have e : i + (p :: pre).length = (i + 1) + pre.length := (Nat.succ_add_eq_add_succ i pre.length).symm
    rw [e, List.map_cons, List.cons_append]
    rcases bamt_cases p with ⟨hm, hb, _⟩ | ⟨_, _, _, h⟩ | ⟨_, b, hm, _, hb, _⟩
    · rw [FinX.scan_cons_skip (p := fp env p) hm, List.filterMap_cons_none hb]
      exact ih _ v np hv hks hns
    · rw [hnp] at h; cases h
    · have hc := costOrAmt_fp env p hm hkp
      rw [hb, Option.map_eq_some_iff] at hc
      obtain ⟨a0, h0, rfl⟩ := hc
      rw [FinX.scan_cons_amt (p := fp env p) hm h0 (add_eq_vadd v _ hv), List.filterMap_cons_some hb,
        List.foldl_cons]
      exact ih _ _ np (VAB_vadd v _ hv) hks hns

theorem scan_noNull (env : PrecEnv) (ps : List Posting) (hk : noKeepAmt ps = true)
    (hnull : nullPosts ps = []) :
    FinX.scan (ps.map (fp env)) 0 .void none = .ok (xbalance ps, none) := by
  have := scan_prefix env [] ps 0 .void none trivial (noKeepAmt_iff.1 hk) (nullPosts_eq_nil.1 hnull)
  rw [List.append_nil] at this
  rw [this]
  rfl

theorem scan_oneNull (env : PrecEnv) (pre post : List Posting) (n : Posting)
    (hk : noKeepAmt (pre ++ n :: post) = true) (hpre : nullPosts pre = []) (hpost : nullPosts post = [])
    (hn : isNullPost n = true) :
    FinX.scan ((pre ++ n :: post).map (fp env)) 0 .void none
      = .ok (xbalance (pre ++ n :: post), some (pre.length, n.account)) := by
  obtain ⟨hk1, hk2⟩ := List.forall_mem_append.1 (noKeepAmt_iff.1 hk)
  obtain ⟨hnm, hna⟩ := isNullPost_iff.1 hn
  have hpost' := scan_prefix env [] post (0 + pre.length + 1) ((pre.filterMap bamt).foldl vadd .void)
    (some (0 + pre.length, (fp env n).account)) (VAB_foldl _ _ trivial) (List.forall_mem_cons.1 hk2).2
    (nullPosts_eq_nil.1 hpost)
  rw [List.append_nil] at hpost'
  rw [List.map_append, List.map_cons,
    scan_prefix env _ pre 0 .void none trivial hk1 (nullPosts_eq_nil.1 hpre),
    FinX.scan_cons_null (p := fp env n) hnm ((costOrAmt_fp_none env n).2 hna), hpost', Nat.zero_add]
  unfold xbalance
  rw [List.filterMap_append, List.filterMap_cons_none (bamt_null hn), List.foldl_append]
  rfl

theorem scan_twoNulls (env : PrecEnv) (ps : List Posting) (a b : Posting) (r : List Posting)
    (h : nullPosts ps = a :: b :: r) :
    FinX.scan (ps.map (fp env)) 0 .void none = .error .twoNulls ∨
    FinX.scan (ps.map (fp env)) 0 .void none = .error .misspelled := by
  obtain ⟨pre, post, rfl, _, ha, hpost⟩ := nullPosts_eq_cons.1 h
  obtain ⟨ham, haa⟩ := isNullPost_iff.1 ha
  have hb : b ∈ nullPosts post := by rw [hpost]; exact List.mem_cons_self
  obtain ⟨hbm, hba⟩ := mem_nullPosts hb
  rw [List.map_append, List.map_cons]
  exact FinX.scan_two_nulls (pre.map (fp env)) (post.map (fp env)) (fp env a) 0 .void ham
    ((costOrAmt_fp_none env a).2 haa)
    ⟨fp env b, List.mem_map_of_mem (List.mem_filter.1 hb).1, hbm, (costOrAmt_fp_none env b).2 hba⟩ rfl

/-- every entry of the residual fold satisfies a property of the commodity that
    all folded amounts satisfy -/
def entriesP (P : Comm → Prop) : Value → Prop
  | .amt a => P a.comm
  | .bal b => ∀ x ∈ b, P x.comm
  | _ => True

theorem entriesP_addGo (P : Comm → Prop) (b : Balance) (a : Amount) (hb : ∀ x ∈ b, P x.comm) (ha : P a.comm) :
    ∀ x ∈ Balance.addGo b a, P x.comm :=
  Assert.forall_addGo (P := fun x => P x.comm) hb (fun x hx _ _ => hb x hx) ha

theorem entriesP_addAmt (P : Comm → Prop) (b : Balance) (a : Amount) (hb : ∀ x ∈ b, P x.comm) (ha : P a.comm) :
    ∀ x ∈ Balance.addAmt b a, P x.comm := by
  unfold Balance.addAmt
  split
  · exact hb
  · exact entriesP_addGo P b a hb ha

theorem entriesP_vadd (P : Comm → Prop) (v : Value) (a : Amount) (hvab : VAB v) (hv : entriesP P v)
    (ha : P a.comm) : entriesP P (vadd v a) := by
  cases v with
  | void => exact ha
  | amt x =>
    simp only [vadd]
    split
    · exact hv
    · apply entriesP_addAmt P _ a _ ha
      intro y hy
      unfold Balance.ofAmt at hy
      split at hy
      · cases hy
      · simp only [List.mem_cons, List.not_mem_nil, or_false] at hy; rw [hy]; exact hv
  | bal b => exact entriesP_addAmt P b a hv ha
  | int n => cases hvab
  | bool _ => cases hvab

theorem entriesP_foldl (P : Comm → Prop) (l : List Amount) (hl : ∀ a ∈ l, P a.comm) :
    ∀ v, VAB v → entriesP P v → entriesP P (l.foldl vadd v) := by
  induction l with
  | nil => intro v _ h; exact h
  | cons a l ih =>
    intro v hvab hv
    exact ih (fun x hx => hl x (List.mem_cons_of_mem _ hx)) _ (VAB_vadd v a hvab)
      (entriesP_vadd P v a hvab hv (hl a List.mem_cons_self))

theorem xbalance_plain (ps : List Posting) (hl : noLotAmt ps = true) (hc : noLotCost ps = true) :
    entriesP (fun c => plain c = true) (xbalance ps) := by
  unfold xbalance
  refine entriesP_foldl _ _ ?_ .void trivial trivial
  intro b hb
  obtain ⟨p, hp, hpb⟩ := List.mem_filterMap.1 hb
  have h1 := noLotAmt_iff.1 hl p hp
  have h2 := noLotCost_iff.1 hc p hp
  unfold bamt at hpb
  split at hpb
  · cases hamt : p.amount with
    | none => rw [hamt] at hpb; cases hpb
    | some x =>
      rw [hamt] at hpb
      cases hcost : p.cost with
      | none =>
        rw [hcost] at hpb
        rw [← Option.some.inj hpb]
        exact h1 x hamt
      | some k =>
        rw [hcost] at hpb
        rw [← Option.some.inj hpb, totalCost_comm]
        exact h2 k hcost
  · cases hpb

theorem inferred_plain (v : Value) (hv : entriesP (fun c => plain c = true) v) :
    ∀ a ∈ inferred v, plain a.comm = true := by
  cases v with
  | void => intro a ha; cases ha
  | amt x => intro a ha; simp only [inferred, List.mem_cons, List.not_mem_nil, or_false] at ha; rw [ha]; exact hv
  | bal b =>
    intro a ha
    simp only [inferred, List.mem_map] at ha
    obtain ⟨x, hx, rfl⟩ := ha
    exact hv x ((OF.isort_perm _ b).mem_iff.1 hx)
  | int n => intro a ha; simp only [inferred, List.mem_cons, List.not_mem_nil, or_false] at ha; rw [ha]; rfl
  | bool _ => intro a ha; cases ha

theorem FinX_sortedAmounts_eq_OF (enum : Balance → Balance) (henum : ∀ b, (enum b).Perm b)
    (b : Balance) (hw : b.comms.Nodup) (hp : ∀ x ∈ b, plain x.comm = true) :
    FinX.sortedAmounts enum b = OF.sortedAmounts b := by
  rw [OF_sortedAmounts_eq_FinX_sortByComm b hp]
  unfold FinX.sortedAmounts
  have key : FinX.sortByComm (enum b) = FinX.sortByComm b :=
    FinX.sortByComm_eq_of_perm (henum b) (Balance.nodup_comms_perm (henum b).symm hw)
  cases b with
  | nil => exact key
  | cons a as =>
    cases as with
    | nil => rfl
    | cons _ _ => exact key

/-- xact.cc 363-370: the amounts the elided posting offsets are the negations of
    `OF.inferred`. -/
theorem fillAmounts_vab (enum : Balance → Balance) (henum : ∀ b, (enum b).Perm b) (B : Value)
    (hB : VAB B) (hw : FinX.wfV B) (hp : entriesP (fun c => plain c = true) B) :
    ∃ amts, FinX.fillAmounts enum B = .ok amts ∧ amts.map Amount.neg = inferred B := by
  cases B with
  | void => exact ⟨[], rfl, rfl⟩
  | amt a => exact ⟨[a], rfl, rfl⟩
  | bal b =>
    refine ⟨FinX.sortedAmounts enum b, rfl, ?_⟩
    rw [FinX_sortedAmounts_eq_OF enum henum b hw hp]
    rfl
  | int _ => cases hB
  | bool _ => cases hB

/-- what `lotStep` leaves of a posting (the posting itself should it raise) -/
def afterLotStep (env : PrecEnv) (date : String) (p : FinX.FPost) : FinX.FPost :=
  match FinX.lotStep env date p with
  | .ok (p', _) => p'
  | .error _ => p

theorem lotStep_eq (env : PrecEnv) (date : String) (p : FinX.FPost) (h : p.lotPrice = none) :
    FinX.lotStep env date p = .ok (afterLotStep env date p, none) := by
  obtain ⟨p1, hs⟩ := FinX.lotStep_nogain env date p (Or.inl h)
  unfold afterLotStep
  rw [hs]

theorem afterLotStep_nocost (env : PrecEnv) (date : String) (p : FinX.FPost) (h : p.cost = none) :
    afterLotStep env date p = p := by
  unfold afterLotStep
  rw [FinX.lotStep_nocost env date p h]

theorem afterLotStep_isSome (env : PrecEnv) (date : String) (p : FinX.FPost) (h : p.lotPrice = none) :
    (afterLotStep env date p).amount.isSome = p.amount.isSome :=
  (FinX.lotStep_spec env date p _ none (lotStep_eq env date p h)).2.2.2.1

theorem lotLoop_map (env : PrecEnv) (date : String) : ∀ (L : List FinX.FPost) (B : Value),
    (∀ p ∈ L, p.lotPrice = none) → FinX.lotLoop env date L B = .ok (L.map (afterLotStep env date), B) := by
  intro L
  induction L with
  | nil => intro B _; rfl
  | cons p ps ih =>
    intro B h
    unfold FinX.lotLoop
    rw [lotStep_eq env date p (h p List.mem_cons_self)]
    simp only [FinX.addGain]
    rw [ih B (fun q hq => h q (List.mem_cons_of_mem _ hq))]
    rfl

/-- the computed lot annotation does not change the row: same quantity, same
    precision counter, and the BASE commodity of `BASE{price}[date]` -/
theorem rowOfFin_afterLotStep (env : PrecEnv) (date : String) (p : FinX.FPost) (h : p.lotPrice = none)
    (hp : ∀ a, p.amount = some a → plain a.comm = true) : rowOfFin (afterLotStep env date p) = rowOfFin p := by
  obtain ⟨acct, kind, st, amount, cost, cl, cc, gen, inf, lp⟩ := p
  simp only at h hp
  subst h
  unfold afterLotStep FinX.lotStep
  cases cost with
  | none => rfl
  | some cost =>
    cases amount with
    | none => rfl
    | some amt =>
      simp only
      obtain ⟨pu, hpu⟩ := FinX.perUnitCost_ok env amt cost
      rw [hpu]
      simp only [rowOfFin, Option.map_some]
      rw [lotBase_annotate amt.comm pu date (hp amt rfl), lotBase_plain amt.comm (hp amt rfl)]

/-- what the pricing loop of the implicit exchange leaves untouched -/
abbrev keptFields (q : FinX.FPost) : String × PostKind × Option Amount × Option Amount :=
  (q.account, q.kind, q.amount, q.lotPrice)

/-- `L` has the accounts, kinds and amounts of the parsed postings `ps`, in
    order, and no lot price: true of `ps.map (fp env)`, kept by `FinX.exchPosts`. -/
def Mirror (L : List FinX.FPost) (ps : List Posting) : Prop :=
  L.map keptFields = ps.map (fun p => (p.account, p.kind, p.amount, none))

theorem Mirror.map_fp (env : PrecEnv) (ps : List Posting) : Mirror (ps.map (fp env)) ps := by
  unfold Mirror
  rw [List.map_map]
  apply List.map_congr_left
  intro p _
  show (p.account, p.kind, (Coh.fp env p).amount, (Coh.fp env p).lotPrice) = _
  rw [fp_amount, fp_lotPrice]

theorem Mirror.lotPrice {L : List FinX.FPost} {ps : List Posting} (h : Mirror L ps) :
    ∀ q ∈ L, q.lotPrice = none :=
  forall_of_map_eq h fun _ _ _ e => congrArg (·.2.2.2) e

theorem Mirror.isSome {L : List FinX.FPost} {ps : List Posting} (h : Mirror L ps)
    (hS : ∀ p ∈ ps, p.amount.isSome = true) (env : PrecEnv) (date : String) :
    ∀ q ∈ L.map (afterLotStep env date), q.amount.isSome = true :=
  List.forall_mem_map.2 <| forall_of_map_eq h fun q p hp e => by
    have h3 : q.amount = p.amount := congrArg (·.2.2.1) e
    rw [afterLotStep_isSome env date q (congrArg (·.2.2.2) e), h3]
    exact hS p hp

theorem Mirror.rows {L : List FinX.FPost} {ps : List Posting} (h : Mirror L ps)
    (hpl : ∀ p ∈ ps, ∀ a, p.amount = some a → plain a.comm = true) (env : PrecEnv) (date : String) :
    (L.map (afterLotStep env date)).filterMap rowOfFin = rowsOf [] ps := by
  rw [List.filterMap_map]
  refine filterMap_of_map_eq h fun q p hp e => ?_
  have h1 : q.account = p.account := congrArg (·.1) e
  have h2 : q.kind = p.kind := congrArg (·.2.1) e
  have h3 : q.amount = p.amount := congrArg (·.2.2.1) e
  show rowOfFin (afterLotStep env date q) = rowOf [] p
  rw [rowOfFin_afterLotStep env date q (congrArg (·.2.2.2) e) (h3 ▸ hpl p hp), rowOf_nil]
  unfold rowOfFin
  rw [h1, h2, h3]
  cases ha : p.amount with
  | none => rfl
  | some a => rw [Option.map_some, Option.map_some, lotBase_plain a.comm (hpl p hp a ha)]

theorem finish_ok_of (L : List FinX.FPost) (hne : L ≠ []) (h : ∀ q ∈ L, q.amount.isSome = true) :
    FinX.finish L = .ok ⟨L⟩ := by
  have hnone : ∀ q ∈ L, ¬ (q.amount.isNone = true) := fun q hq e => by
    have := h q hq
    cases hqa : q.amount with
    | none => rw [hqa] at this; cases this
    | some _ => rw [hqa] at e; cases e
  have h2 : L.any (fun p => p.amount.isNone) = false := List.any_eq_false.2 hnone
  have h1 : L.all (fun p => p.amount.isNone) = false := by
    cases L with
    | nil => exact absurd rfl hne
    | cons q qs =>
      rw [List.all_cons, Bool.and_eq_false_iff]
      exact Or.inl (Bool.eq_false_iff.2 (hnone q List.mem_cons_self))
  unfold FinX.finish
  rw [h1, h2]
  rfl

theorem finish_nil : FinX.finish [] = .error .ignored := rfl

/-- with every amount written, `finish` accepts the rows of `ps` (the empty
    transaction is dropped, which is an acceptance without rows) -/
theorem Mirror.finish {L : List FinX.FPost} {ps : List Posting} (h : Mirror L ps)
    (hS : ∀ p ∈ ps, p.amount.isSome = true)
    (hpl : ∀ p ∈ ps, ∀ a, p.amount = some a → plain a.comm = true) (env : PrecEnv) (date : String) :
    verdictFin (FinX.finish (L.map (afterLotStep env date))) = .accepted (rowsOf [] ps) := by
  cases ps with
  | nil =>
    rw [List.map_eq_nil_iff.1 h]
    rfl
  | cons p ps' =>
    have hne : L.map (afterLotStep env date) ≠ [] := by
      intro e
      rw [List.map_eq_nil_iff] at e
      rw [e] at h
      cases h
    rw [finish_ok_of _ hne (h.isSome hS env date)]
    exact congrArg Verdict.accepted (h.rows hpl env date)

theorem isNull_valueIsZero (env : PrecEnv) (v : Value) (h : FinX.isNull v = true) :
    FinX.valueIsZero env v = true := by
  cases v <;> first | rfl | cases h

/-- Nothing elided: the verdict is the display-zero test of the balance the
    exchange step leaves. -/
theorem fin_noNull (env : PrecEnv) (enum : Balance → Balance) (date : String) (ps : List Posting)
    (L2 : List FinX.FPost) (B2 : Value) (hk : noKeepAmt ps = true) (hnull : nullPosts ps = [])
    (hvn : noVirtNull ps = true) (hla : noLotAmt ps = true)
    (hex : FinX.exchange2 env enum (ps.map (fp env)) (xbalance ps) none = .ok (L2, B2))
    (hco : FinX.costsOk L2 = true) (hM : Mirror L2 ps) :
    verdictFin (FinX.finalizeF env none enum date (ps.map (fp env)))
      = if FinX.valueIsZero env B2 then .accepted (rowsOf [] ps) else .unbalanced := by
  rw [FinX.finalizeF_of_stages (scan_noNull env ps hk hnull) rfl hex hco
    (lotLoop_map env date L2 B2 hM.lotPrice) rfl]
  cases hz : FinX.valueIsZero env B2 with
  | true =>
    rw [if_neg (fun h => Bool.noConfusion h.2), if_pos rfl]
    exact hM.finish (allSome_of hvn hnull) (noLotAmt_iff.1 hla) env date
  | false =>
    have hn : FinX.isNull B2 = false := by
      cases h : FinX.isNull B2 with
      | false => rfl
      | true => rw [isNull_valueIsZero env B2 h] at hz; cases hz
    rw [if_pos ⟨hn, rfl⟩]
    rfl

/-- the elided posting after `add_balancing_post` -/
def filled (q : FinX.FPost) (a : Amount) : FinX.FPost := { q with amount := some a.neg, calculated := true }

/-- a generated copy for a further commodity -/
def extraPost (q : FinX.FPost) (r : Amount) : FinX.FPost :=
  { q with amount := some r.neg, calculated := true, generated := true }

theorem fillPosts_cons (ps : List FinX.FPost) (i : Nat) (q : FinX.FPost) (a : Amount) (rest : List Amount) :
    FinX.fillPosts ps i q (a :: rest) = ps.set i (filled q a) ++ rest.map (extraPost q) := rfl

theorem rowOfFin_filled (q : FinX.FPost) (a : Amount) (h : plain a.comm = true) :
    rowOfFin (filled q a) = some ⟨q.account, q.kind, a.neg⟩ := by
  unfold rowOfFin filled
  rw [Option.map_some]
  have : (a.neg).comm = a.comm := rfl
  rw [this, lotBase_plain a.comm h]
  rfl

theorem extra_rows (q : FinX.FPost) (rest : List Amount) (h : ∀ r ∈ rest, plain r.comm = true) :
    (rest.map (extraPost q)).filterMap rowOfFin
      = (rest.map Amount.neg).map (fun a => (⟨q.account, q.kind, a⟩ : Row)) := by
  rw [List.filterMap_map, List.map_map, ← List.filterMap_eq_map']
  exact filterMap_congr_mem fun r hr => rowOfFin_filled q r (h r hr)

theorem costsOk_fp (env : PrecEnv) (ps : List Posting) (hco : costOtherComm ps = true) :
    FinX.costsOk (ps.map (fp env)) = true := by
  unfold FinX.costsOk
  rw [List.all_map, List.all_eq_true]
  intro p hp
  unfold costOtherComm at hco
  have := List.all_eq_true.1 hco p hp
  show (match (fp env p).cost, (fp env p).amount with
    | some c, some a => decide (a.comm ≠ c.comm)
    | _, _ => true) = true
  rw [fp_cost, fp_amount]
  cases ha : p.amount with
  | none => rfl
  | some a =>
    cases hc : p.cost with
    | none => rfl
    | some c =>
      rw [ha, hc] at this
      simp only [bne_iff_ne, ne_eq] at this
      simp only [FinX.parseCost_comm, ne_eq, decide_eq_true_eq]
      exact this

theorem fin_oneNull (env : PrecEnv) (enum : Balance → Balance) (henum : ∀ b, (enum b).Perm b) (date : String)
    (ps : List Posting) (n : Posting) (hnull : nullPosts ps = [n])
    (hk : noKeepAmt ps = true) (hvn : noVirtNull ps = true) (hco : costOtherComm ps = true)
    (hla : noLotAmt ps = true) (hlc : noLotCost ps = true) :
    verdictFin (FinX.finalizeF env none enum date (ps.map (fp env))) = ref env ps := by
  obtain ⟨pre, post, e, hpre, hn, hpost⟩ := nullPosts_eq_cons.1 hnull
  obtain ⟨hnm, hna⟩ := isNullPost_iff.1 hn
  have hpl := xbalance_plain ps hla hlc
  have hscan : FinX.scan (ps.map (fp env)) 0 .void none = .ok (xbalance ps, some (pre.length, n.account)) := by
    rw [e]; exact scan_oneNull env pre post n (e ▸ hk) hpre hpost hn
  obtain ⟨amts, hfa, hinf⟩ := fillAmounts_vab enum henum (xbalance ps) (VAB_xbalance ps)
    (FinX.scan_inv _ 0 .void none _ _ hscan rfl trivial).2.1 hpl
  -- the scan finds `n` at index `pre.length`; the cost loop maps `afterLotStep` and leaves
  -- `n` alone; `fillNull` writes the negations of `inferred` there and appends the rest;
  -- `finish` then sees every amount
  have hvn' := List.forall_mem_append.1 (e ▸ noVirtNull_iff.1 hvn)
  have hla' := List.forall_mem_append.1 (e ▸ noLotAmt_iff.1 hla)
  have hpreS := allSome_of (noVirtNull_iff.2 hvn'.1) hpre
  have hpostS := allSome_of (noVirtNull_iff.2 (List.forall_mem_cons.1 hvn'.2).2) hpost
  have hpreL := hla'.1
  have hpostL := (List.forall_mem_cons.1 hla'.2).2
  have hMpre := Mirror.map_fp env pre
  have hMpost := Mirror.map_fp env post
  generalize hPre : (pre.map (fp env)).map (afterLotStep env date) = Pre at *
  generalize hPost : (post.map (fp env)).map (afterLotStep env date) = Post at *
  have hmapg : (ps.map (fp env)).map (afterLotStep env date) = Pre ++ fp env n :: Post := by
    rw [e, List.map_append, List.map_cons, List.map_append, List.map_cons, hPre, hPost,
      afterLotStep_nocost env date (fp env n) (by rw [fp_cost, hna])]
  have hlen : Pre.length = pre.length := by rw [← hPre, List.length_map, List.length_map]
  have hPreS : ∀ q ∈ Pre, q.amount.isSome = true := hPre ▸ hMpre.isSome hpreS env date
  have hPostS : ∀ q ∈ Post, q.amount.isSome = true := hPost ▸ hMpost.isSome hpostS env date
  have hPreR : Pre.filterMap rowOfFin = rowsOf [] pre := hPre ▸ hMpre.rows hpreL env date
  have hPostR : Post.filterMap rowOfFin = rowsOf [] post := hPost ▸ hMpost.rows hpostL env date
  have hf : FinX.fillNull enum (Pre ++ fp env n :: Post) (xbalance ps) (some pre.length)
      = .ok (FinX.fillPosts (Pre ++ fp env n :: Post) Pre.length (fp env n) amts, .void) := by
    rw [← hlen]
    unfold FinX.fillNull
    simp only [getElem?_length_append, hfa]
  rw [FinX.finalizeF_of_stages hscan rfl rfl (costsOk_fp env ps hco)
    (by rw [lotLoop_map env date _ _ (Mirror.map_fp env ps).lotPrice, hmapg]) hf,
    if_neg (fun h => Bool.noConfusion h.1)]
  unfold ref
  rw [hnull]
  simp only
  cases amts with
  | nil =>
    have hi : inferred (xbalance ps) = [] := hinf.symm
    rw [if_pos hi]
    unfold FinX.fillPosts FinX.finish
    have hall : (Pre ++ fp env n :: Post).all (fun p => p.amount.isNone) = ps.all (fun p => p.amount.isNone) := by
      rw [← hmapg, List.all_map, List.all_map]
      apply List.all_congr rfl
      intro p
      show (afterLotStep env date (fp env p)).amount.isNone = p.amount.isNone
      rw [← Option.not_isSome, ← Option.not_isSome, afterLotStep_isSome env date (fp env p) (fp_lotPrice env p),
        fp_amount]
    have hany : (Pre ++ fp env n :: Post).any (fun p => p.amount.isNone) = true := by
      rw [List.any_eq_true]
      refine ⟨fp env n, List.mem_append_right _ List.mem_cons_self, ?_⟩
      rw [fp_amount, hna]
      rfl
    rw [hall, hany]
    cases ps.all (fun p => p.amount.isNone) <;> rfl
  | cons a rest =>
    have hi : inferred (xbalance ps) = a.neg :: rest.map Amount.neg := hinf.symm
    have hinfp := inferred_plain (xbalance ps) hpl
    rw [hi] at hinfp
    have hap : plain a.comm = true := hinfp a.neg List.mem_cons_self
    have hrestp : ∀ r ∈ rest, plain r.comm = true := fun r hr =>
      hinfp r.neg (List.mem_cons_of_mem _ (List.mem_map_of_mem hr))
    have hne : ¬ inferred (xbalance ps) = [] := by rw [hi]; exact List.cons_ne_nil _ _
    rw [if_neg hne, fillPosts_cons, set_length_append]
    have hL : ∀ q ∈ Pre ++ filled (fp env n) a :: Post ++ rest.map (extraPost (fp env n)),
        q.amount.isSome = true :=
      List.forall_mem_append.2 ⟨List.forall_mem_append.2 ⟨hPreS, List.forall_mem_cons.2 ⟨rfl, hPostS⟩⟩,
        List.forall_mem_map.2 fun _ _ => rfl⟩
    rw [finish_ok_of _ (by simp) hL]
    refine congrArg Verdict.accepted ?_
    show (Pre ++ filled (fp env n) a :: Post ++ rest.map (extraPost (fp env n))).filterMap rowOfFin = _
    rw [List.filterMap_append, List.filterMap_append, List.filterMap_cons_some (rowOfFin_filled _ a hap),
      hPreR, hPostR, extra_rows (fp env n) rest hrestp, hi, e, rowsOf_split hpreS hpostS, rowOf_null hn]
    rfl

theorem fin_twoNulls (env : PrecEnv) (enum : Balance → Balance) (date : String) (ps : List Posting)
    (a b : Posting) (r : List Posting) (h : nullPosts ps = a :: b :: r) :
    verdictFin (FinX.finalizeF env none enum date (ps.map (fp env))) = ref env ps := by
  unfold ref
  rw [h]
  simp only
  unfold FinX.finalizeF
  rcases scan_twoNulls env ps a b r h with h1 | h1 <;> rw [h1] <;> rfl

end Coh
end Ledger
