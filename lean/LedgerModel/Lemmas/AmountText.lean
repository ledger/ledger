/-
Lemmas behind Props/C04, about Model/AmountText.lean.  In file order:
* definitions the statements use: `roundDiv`; `fracVal`, `magVal` (value of digit strings); `groupRev`
  (grouping read from the right); `Mode`, `Scans` (the reader's scan); `Num.Digits`; `StopsAt`,
  `QuantBody` (what parse_quantity takes whole); `SymOK` (the guard on symbols); `afterQuantity`,
  `afterSymbol` (the two branches of amount_t::parse); `printedNum`, `learnedStyle`; `TailOK` (the guard
  on what follows the amount);
* rounding: `roundDiv_cases` opens `roundDiv` once, `roundDiv_spec` (within half a unit, even at a tie),
  `le_roundDiv`/`roundDiv_le`; on rationals `roundTo_eq`, `roundTo_mul_pow`, `roundUnits_eq_of_scaled`,
  `roundUnits_tie`, `roundUnits_sign`;
* digits: `digitChar_table`, `decVal_append`, `decVal_digits` (integer digits and decimals spell the
  number), `magVal_eq`, trimming (`trimFrac_split`, `fracVal_trimFrac`), `fmtNum_digits`, `fmtNum_val`;
* grouping: `groupInt_filter`, `groupInt_reverse` (against `groupRev`), `groupInt_length`;
* scan: `Scans.append`/`nonsep`/`mark`, `scan_group`, `scanStep_decimal`, `scan_render`;
* reading a printed number: `stripSeps_render`, `parseQuantity_body`, `render_body`, `finish_render`;
* symbols: facts from the `invalid_chars` table, `readBare_sym`, `readQuoted_escaped`,
  `parseSymbol_quoted`/`_bare`, `parseSymbol_qualified`;
* amount_t::parse on what amount_t::print wrote: `parseAmount_number_first`/`_symbol_first`,
  `parse_plain`, `parse_suffix`, `parse_prefix`, `printAmount_eq`, `parse_print_main`;
* is_zero: `plain_all_zero_iff`, `isZeroAmt_exact`, `isZeroAmt_eq`, `isZeroAmt_sound`;
* learning: `learnAll_eq`, `foldl_max_prec`, `migrate_eq_self`, `Style.union_learnedStyle`.
-/
import LedgerModel.Model.AmountText
import LedgerModel.Lemmas.ListExtra

namespace Ledger.AmountText

/-- the integer core of `Amount.roundUnits`. -/
def roundDiv (n d : Int) : Int :=
  let w := Int.fdiv n d
  let r := Int.fmod n d
  if 2 * r > d ∨ (2 * r = d ∧ w % 2 ≠ 0) then w + 1 else w

/-- fractional value of a digit string: `0.d₁d₂…`. -/
def fracVal (s : Text) : Rat := (decVal s : Rat) / (10 : Rat) ^ s.length

/-- magnitude denoted by integer digits and decimals. -/
def magVal (ints frac : Text) : Rat := (decVal ints : Rat) + fracVal frac

/-- the specification, read from the right: after every three digits a mark, if more digits follow.
    Input and output are the reversed strings. -/
def groupRev (sep : Char) : Text → Text
  | a :: b :: c :: t => if t = [] then [a, b, c] else a :: b :: c :: sep :: groupRev sep t
  | l => l

/-- `sep` is accepted as a thousands mark in state `st`. -/
def Mode (sep : Char) (st : Scan) : Prop :=
  (sep = ',' ∧ st.dcs = false ∧ st.noMoreCommas = false) ∨
  (sep = '.' ∧ st.dcs = true ∧ st.noMorePeriods = false)

/-- The scan of the piece `xs` of the text (walked from its last character) takes `st` to `st'`:
    `n` characters further from the last mark, still accepting `sep` as thousands mark, precision
    and decimal style untouched, thousands marks seen before or (`th`) in `xs`. -/
structure Scans (sep : Char) (st : Scan) (xs : Text) (n : Nat) (th : Bool) (st' : Scan) : Prop where
  run : scanGo st xs.reverse = .ok st'
  mode : Mode sep st'
  off : st'.off = st.off + n
  prec : st'.prec = st.prec
  dcs : st'.dcs = st.dcs
  thousands : st'.thousands = (st.thousands || th)

/-- what the reader needs of a printed number: at least one integer digit, digits only. -/
structure Num.Digits (n : Num) : Prop where
  int_ne : n.int ≠ []
  int : ∀ c ∈ n.int, isDigit c = true
  frac : ∀ c ∈ n.frac, isDigit c = true

/-- `t` is empty or starts with a character outside the class `p`. -/
def StopsAt (p : Char → Bool) (t : Text) : Prop := t = [] ∨ ∃ c r, t = c :: r ∧ p c = false

/-- a text parse_quantity takes whole: quantity characters only, a digit first and last. -/
structure QuantBody (body : Text) : Prop where
  chars : ∀ c ∈ body, isQuantChar c = true
  last : ∃ b d, body = b ++ [d] ∧ isDigit d = true
  first : ∃ h r, body = h :: r ∧ isDigit h = true

/-- Symbols the printer can protect: non-empty, within the reader's buffer, without a newline;
    when printed in quotes without the repaired escapes, free of `"` and `\\`; when printed bare,
    not a reserved word, free of `"` and `\\`, and free of vertical tab / form feed (white space
    that `invalid_chars` misses).  With the repaired source (all three `Gen.symbol…` flags true)
    only the newline and vertical-tab / form-feed conditions remain (`symOK_of_protected`). -/
def SymOK (sym : Text) : Prop :=
  sym ≠ [] ∧ sym.length ≤ Gen.symbolBufMax ∧
  (∀ c ∈ sym, c ≠ '\n') ∧
  (needsQuotes sym = true → Gen.symbolEscapesBackslashQuote = false → ∀ c ∈ sym, c ≠ '"' ∧ c ≠ '\\') ∧
  (needsQuotes sym = false →
    isReserved sym = false ∧ ∀ c ∈ sym, c ≠ '"' ∧ c ≠ '\\' ∧ c.toNat ≠ 11 ∧ c.toNat ≠ 12)

instance (sym : Text) : Decidable (SymOK sym) := by unfold SymOK; infer_instance

def spOf (b : Bool) : Text := if b then [' '] else []

/-- amount_t::parse once the quantity text `quant` has been read first and `rest` follows it. -/
def afterQuantity (dcOf : Text → Bool) (negative : Bool) (quant : Text) : Text → Except PErr Parsed
  | [] => finish (dcOf []) negative quant [] {} []
  | n :: r =>
    if n = '\n' then finish (dcOf []) negative quant [] {} (n :: r)
    else
      match parseSymbol (n :: r) with
      | .error e => .error e
      | .ok sr => finish (dcOf sr.1) negative quant sr.1 { separated := isSpace n, suffixed := sr.1 ≠ [] } sr.2

/-- amount_t::parse once the symbol `sym` has been read first and `rest` follows it. -/
def afterSymbol (dcOf : Text → Bool) (negative : Bool) (sym : Text) : Text → Except PErr Parsed
  | [] => finish (dcOf sym) negative [] sym {} []
  | n :: r =>
    if n = '\n' then finish (dcOf sym) negative [] sym {} (n :: r)
    else finish (dcOf sym) negative (parseQuantity (n :: r)).1 sym { separated := isSpace n }
      (parseQuantity (n :: r)).2

/-- the number amount_t::print writes for an amount (q, prec, keep) of a commodity. -/
def printedNum (ci : CommInfo) (q : Rat) (amtPrec : Nat) (keep : Bool) : Num :=
  fmtNum q (displayPrec true ci.prec amtPrec keep) (some ci.prec)

/-- the style flags the reader learns from one printed amount. -/
def learnedStyle (st : Style) (dc : Bool) (n : Num) : Style :=
  { suffixed := st.suffixed, separated := st.separated,
    thousands := st.thousands && decide (n.int.length ≥ 4), decimalComma := dc }

/-- what may follow a printed amount: nothing, or a character that ends both a bare symbol and a number. -/
def TailOK (tail : Text) : Prop :=
  tail = [] ∨ ∃ c r, tail = c :: r ∧ invalidChar c = true ∧ isQuantChar c = false

instance (tail : Text) : Decidable (TailOK tail) := by
  unfold TailOK
  cases tail with
  | nil => exact isTrue (Or.inl rfl)
  | cons c r =>
    by_cases h : invalidChar c = true ∧ isQuantChar c = false
    · exact isTrue (Or.inr ⟨c, r, rfl, h⟩)
    · exact isFalse (by
        intro h'
        rcases h' with h' | ⟨c', r', he, h1, h2⟩
        · cases h'
        · cases he; exact h ⟨h1, h2⟩)

theorem Amount.roundUnits_eq (q : Rat) (p : Nat) :
    Amount.roundUnits q p = roundDiv (q.num * (10 : Int) ^ p) q.den := rfl

/-- With `r` the remainder: rounded down only if `2r ≤ d`, and then the result times `d` is `r` below
    `n`; rounded up only if `d ≤ 2r`, and then it is `d - r` above; at the half the result is even.
    The only place where `roundDiv` is opened. -/
theorem roundDiv_cases (n d : Int) :
    (2 * Int.fmod n d ≤ d ∧ roundDiv n d * d - n = -Int.fmod n d ∨
      d ≤ 2 * Int.fmod n d ∧ roundDiv n d * d - n = d - Int.fmod n d) ∧
    (2 * Int.fmod n d = d → roundDiv n d % 2 = 0) := by
  have hw : Int.fdiv n d * d - n = -Int.fmod n d :=
    Int.sub_eq_iff_eq_add'.mpr (Int.sub_eq_iff_eq_add.mpr (Int.fdiv_mul_add_fmod n d).symm).symm
  have hw1 : (Int.fdiv n d + 1) * d - n = d - Int.fmod n d := by
    rw [Int.add_mul, Int.one_mul, Int.add_comm _ d, Int.add_sub_assoc, hw]; rfl
  unfold roundDiv
  simp only
  generalize Int.fdiv n d = w at *
  generalize Int.fmod n d = r at *
  split
  next h =>
    refine ⟨.inr ⟨h.elim Int.le_of_lt (fun h => Int.le_of_eq h.1.symm), hw1⟩, fun ht => ?_⟩
    rcases h with h | h
    · exact absurd ht.symm (Int.ne_of_lt h)
    · rw [Int.add_emod, (Int.emod_two_eq w).resolve_left h.2]; rfl
  next h =>
    obtain ⟨h1, h2⟩ := not_or.mp h
    exact ⟨.inl ⟨Int.not_lt.mp h1, hw⟩, fun ht => Decidable.not_not.mp (fun hp => h2 ⟨ht, hp⟩)⟩

theorem roundDiv_spec (n d : Int) (hd : 0 < d) :
    2 * (roundDiv n d * d - n) ≤ d ∧ -d ≤ 2 * (roundDiv n d * d - n) ∧
    (2 * (roundDiv n d * d - n) = d ∨ 2 * (roundDiv n d * d - n) = -d → roundDiv n d % 2 = 0) := by
  have h0 := Int.fmod_nonneg_of_pos n hd
  have h1 := Int.fmod_lt_of_pos n hd
  obtain ⟨hc, hp⟩ := roundDiv_cases n d
  generalize Int.fmod n d = r at *
  have hd0 : -d < 0 := Int.neg_neg_of_pos hd
  rcases hc with ⟨h, e⟩ | ⟨h, e⟩ <;> rw [e]
  · -- the error is `-r` with `0 ≤ 2r ≤ d`
    have h2 : -(2 * r) ≤ 0 := Int.neg_nonpos_of_nonneg (Int.mul_nonneg (by decide) h0)
    rw [Int.mul_neg]
    exact ⟨Int.le_trans h2 (Int.le_of_lt hd), Int.neg_le_neg h,
      fun t => hp (t.elim (fun t => absurd (t ▸ h2) (Int.not_le.mpr hd)) Int.neg_inj.mp)⟩
  · -- the error is `d - r` with `0 < d - r` and `2(d - r) = d + (d - 2r) ≤ d`
    have h2 : 0 ≤ 2 * (d - r) := Int.mul_nonneg (by decide) (Int.sub_nonneg_of_le (Int.le_of_lt h1))
    have e2 : 2 * (d - r) = d + d - 2 * r := by rw [Int.mul_sub, Int.two_mul d]
    refine ⟨?_, Int.le_trans (Int.le_of_lt hd0) h2, fun t => hp (t.elim (fun t => ?_) (fun t => ?_))⟩
    · rw [e2]; exact Int.sub_left_le_of_le_add (Int.add_le_add_right h d)
    · rw [e2] at t; exact (Int.add_left_cancel (Int.sub_eq_iff_eq_add.mp t)).symm
    · exact absurd (t ▸ h2) (Int.not_le.mpr hd0)

theorem roundDiv_tie_even (n d : Int) (_hd : 0 < d) (htie : 2 * Int.fmod n d = d) :
    roundDiv n d % 2 = 0 :=
  (roundDiv_cases n d).2 htie

theorem le_roundDiv (n d k : Int) (hd : 0 < d) (h : k * d ≤ n) : k ≤ roundDiv n d := by
  have hb := (roundDiv_spec n d hd).2.1
  apply Int.not_lt.mp
  intro hlt
  -- a smaller result would be a whole unit below `k`
  have := Int.mul_le_mul_of_nonneg_right (Int.le_sub_one_of_lt hlt) (Int.le_of_lt hd)
  rw [Int.sub_mul, Int.one_mul] at this
  omega

theorem roundDiv_le (n d k : Int) (hd : 0 < d) (h : n ≤ k * d) : roundDiv n d ≤ k := by
  have hb := (roundDiv_spec n d hd).1
  apply Int.not_lt.mp
  intro hlt
  have := Int.mul_le_mul_of_nonneg_right (Int.add_one_le_of_lt hlt) (Int.le_of_lt hd)
  rw [Int.add_mul, Int.one_mul] at this
  omega

theorem roundDiv_exact (m d : Int) (hd : 0 < d) : roundDiv (m * d) d = m :=
  Int.le_antisymm (roundDiv_le _ d m hd (Int.le_refl _)) (le_roundDiv _ d m hd (Int.le_refl _))

theorem roundDiv_half (n d k : Int) (hd : 0 < d) (h : 2 * n = (2 * k + 1) * d) :
    roundDiv n d = if k % 2 = 0 then k else k + 1 := by
  have e1 : (k + 1) * d = k * d + d := by rw [Int.add_mul, Int.one_mul]
  rw [Int.add_mul, Int.one_mul, Int.mul_assoc] at h
  -- `n` is half a `d` above `k * d` and half a `d` below `(k + 1) * d`
  have hlo : 2 * (k * d - n) = -d := by rw [Int.mul_sub, h, ← Int.sub_sub, Int.sub_self, Int.zero_sub]
  have hhi : 2 * ((k + 1) * d - n) = d := by
    rw [e1, Int.add_comm _ d, Int.add_sub_assoc, Int.mul_add, hlo, Int.two_mul, Int.add_neg_cancel_right]
  have h1 : k * d ≤ n := Int.le_of_lt (Int.lt_of_sub_neg
    (Int.lt_of_mul_lt_mul_left (a := 2) (by rw [hlo]; exact Int.neg_neg_of_pos hd) (by decide)))
  have h2 : n ≤ (k + 1) * d := Int.le_of_lt (Int.lt_of_sub_pos
    (Int.lt_of_mul_lt_mul_left (a := 2) (by rw [hhi]; exact hd) (by decide)))
  have hs := (roundDiv_spec n d hd).2.2
  rcases Int.le_iff_lt_or_eq.mp (le_roundDiv n d k hd h1) with hlt | heq
  · rw [Int.le_antisymm (roundDiv_le n d (k + 1) hd h2) hlt] at hs ⊢
    have := hs (.inl hhi)
    rw [if_neg (fun h0 => by rw [Int.add_emod, h0] at this; exact absurd this (by decide))]
  · rw [← heq] at hs ⊢
    rw [if_pos (hs (.inr hlo))]

theorem rat_den_pos_int (q : Rat) : (0 : Int) < q.den := Int.natCast_pos.mpr q.den_pos

theorem rat_mul_den (q : Rat) : q * (q.den : Rat) = (q.num : Rat) := by
  have h := Rat.num_divInt_den q
  rw [Rat.divInt_eq_div] at h
  have hd : ((q.den : Int) : Rat) ≠ 0 := by
    simp [Rat.intCast_eq_zero_iff, q.den_nz]
  have := Rat.div_mul_cancel (a := (q.num : Rat)) hd
  rw [h] at this
  exact this

theorem ten_pow_pos (p : Nat) : (0 : Rat) < (10 : Rat) ^ p := Rat.pow_pos (by decide)

theorem ten_pow_ne_zero (p : Nat) : (10 : Rat) ^ p ≠ 0 := Rat.ne_of_gt (ten_pow_pos p)

theorem rat_pow_add (a : Rat) (m n : Nat) : a ^ (m + n) = a ^ m * a ^ n := by
  induction n with
  | zero => rw [Nat.add_zero, Rat.pow_zero, Rat.mul_one]
  | succ n ih => rw [← Nat.add_assoc, Rat.pow_succ, Rat.pow_succ, ih, Rat.mul_assoc]

theorem rat_mul_add_div (a b T : Rat) (hT : T ≠ 0) : (a * T + b) / T = a + b / T := by
  rw [Rat.div_def, Rat.add_mul, Rat.mul_assoc, Rat.mul_inv_cancel T hT, Rat.mul_one, ← Rat.div_def]

theorem rat_mul_div_mul_right (x A B : Rat) (hB : B ≠ 0) : (x * B) / (A * B) = x / A := by
  rw [Rat.div_def, Rat.inv_mul_rev, Rat.mul_assoc x, ← Rat.mul_assoc B, Rat.mul_inv_cancel B hB,
    Rat.one_mul, ← Rat.div_def]

theorem rat_abs_le_of_scaled {x e c : Rat} (hc : 0 < c) (h1 : x * c ≤ e * c) (h2 : -(e * c) ≤ x * c) :
    x.abs ≤ e := by
  rcases Rat.le_total (a := 0) (b := x) with hx | hx
  · rw [Rat.abs_of_nonneg hx]; exact Rat.le_of_mul_le_mul_right h1 hc
  · rw [Rat.abs_of_nonpos hx]
    refine Rat.le_of_mul_le_mul_right ?_ hc
    rw [Rat.neg_mul]
    exact Rat.neg_le_iff.mp h2

theorem roundTo_eq (q : Rat) (p : Nat) :
    Amount.roundTo q p = (Amount.roundUnits q p : Rat) / (10 : Rat) ^ p := by
  unfold Amount.roundTo
  rw [Rat.mkRat_eq_div]
  simp [Rat.natCast_pow]

theorem roundTo_mul_pow (q : Rat) (p : Nat) :
    Amount.roundTo q p * (10 : Rat) ^ p = (Amount.roundUnits q p : Rat) := by
  rw [roundTo_eq]
  exact Rat.div_mul_cancel (Rat.ne_of_gt (ten_pow_pos p))

theorem scaled_int_eq (q : Rat) (p : Nat) (m : Int) (c : Int) (h : (c : Rat) * (q * (10 : Rat) ^ p) = (m : Rat)) :
    c * (q.num * (10 : Int) ^ p) = m * q.den := by
  have hN := rat_mul_den q
  apply Rat.intCast_inj.mp
  simp only [Rat.intCast_mul, Rat.intCast_pow, Rat.intCast_natCast, Rat.intCast_ofNat]
  rw [← hN, ← h, Rat.mul_assoc q, Rat.mul_comm (q.den : Rat), ← Rat.mul_assoc q, ← Rat.mul_assoc]

theorem roundUnits_eq_of_scaled (q : Rat) (p : Nat) (m : Int) (h : q * (10 : Rat) ^ p = (m : Rat)) :
    Amount.roundUnits q p = m := by
  have hi := scaled_int_eq q p m 1 (by rw [Rat.intCast_one, Rat.one_mul]; exact h)
  rw [Amount.roundUnits_eq, ← Int.one_mul (q.num * _), hi]
  exact roundDiv_exact m q.den (rat_den_pos_int q)

theorem roundTo_id_aux (q : Rat) (p : Nat) (m : Int) (h : q * (10 : Rat) ^ p = (m : Rat)) :
    Amount.roundTo q p = q := by
  rw [roundTo_eq, roundUnits_eq_of_scaled q p m h, ← h]
  exact Rat.mul_div_cancel (Rat.ne_of_gt (ten_pow_pos p))

theorem roundUnits_tie (q : Rat) (p : Nat) (k : Int) (h : q * (10 : Rat) ^ p = (k : Rat) + 1 / 2) :
    Amount.roundUnits q p = if k % 2 = 0 then k else k + 1 := by
  have half : ((2 : Int) : Rat) * (1 / 2) = ((1 : Int) : Rat) := by decide +kernel
  have hi := scaled_int_eq q p (2 * k + 1) 2 (by
    rw [h, Rat.mul_add, half, Rat.intCast_add, Rat.intCast_mul])
  exact roundDiv_half _ _ k (rat_den_pos_int q) hi

theorem roundUnits_sign (q : Rat) (p : Nat) :
    (q < 0 → Amount.roundUnits q p ≤ 0) ∧ (¬ q < 0 → 0 ≤ Amount.roundUnits q p) := by
  have hT : (0 : Int) < (10 : Int) ^ p := Int.pow_pos (by decide)
  rw [Amount.roundUnits_eq]
  constructor
  · intro h
    have hn : q.num < 0 := Int.not_le.mp (fun h' => Rat.not_le.mpr h (Rat.num_nonneg.mp h'))
    exact roundDiv_le _ _ 0 (rat_den_pos_int q)
      (by rw [Int.zero_mul]; exact Int.le_of_lt (Int.mul_neg_of_neg_of_pos hn hT))
  · intro h
    exact le_roundDiv _ _ 0 (rat_den_pos_int q)
      (by rw [Int.zero_mul]; exact Int.mul_nonneg (Rat.num_nonneg.mpr (Rat.not_lt.mp h)) (Int.le_of_lt hT))

theorem roundTo_eq_zero_iff (q : Rat) (p : Nat) : Amount.roundTo q p = 0 ↔ Amount.roundUnits q p = 0 := by
  constructor
  · intro h
    have := roundTo_mul_pow q p
    rw [h, Rat.zero_mul] at this
    exact Rat.intCast_eq_zero_iff.mp this.symm
  · intro h
    rw [roundTo_eq, h, Rat.intCast_zero, Rat.div_def, Rat.zero_mul]

theorem roundTo_zero (p : Nat) : Amount.roundTo 0 p = 0 :=
  roundTo_id_aux 0 p 0 (Rat.zero_mul _)

theorem roundUnits_pos_of_gt_one (q : Rat) (p : Nat) (h : q.num > (q.den : Int)) :
    0 < Amount.roundUnits q p := by
  have hT : (1 : Int) ≤ (10 : Int) ^ p := Int.pow_pos (by decide)
  have hn : q.num * 1 ≤ q.num * (10 : Int) ^ p :=
    Int.mul_le_mul_of_nonneg_left hT (Int.le_trans (Int.natCast_nonneg _) (Int.le_of_lt h))
  rw [Amount.roundUnits_eq]
  exact le_roundDiv _ _ 1 (rat_den_pos_int q)
    (by rw [Int.one_mul]; rw [Int.mul_one] at hn; exact Int.le_trans (Int.le_of_lt h) hn)

theorem digitChar_table : ∀ r, r < 10 → digitVal (digitChar r) = r ∧ isDigit (digitChar r) = true := by
  decide

theorem digitChar_mod (d : Nat) : digitChar (d % 10) = digitChar d := by
  unfold digitChar
  rw [Nat.mod_mod]

theorem digitVal_digitChar (d : Nat) : digitVal (digitChar d) = d % 10 := by
  rw [← digitChar_mod]
  exact (digitChar_table _ (Nat.mod_lt d (by decide))).1

theorem isDigit_digitChar (d : Nat) : isDigit (digitChar d) = true := by
  rw [← digitChar_mod]
  exact (digitChar_table _ (Nat.mod_lt d (by decide))).2

theorem isDigit_not_sep {c : Char} (h : isDigit c = true) : isSep c = false := by
  unfold isDigit at h
  unfold isSep
  have h1 : c ≠ ',' := by intro e; subst e; revert h; decide
  have h2 : c ≠ '.' := by intro e; subst e; revert h; decide
  simp [h1, h2]

theorem digit_not_space {c : Char} (h : isDigit c = true) : isSpace c = false := by
  unfold isDigit at h; unfold isSpace
  simp only [Bool.decide_and, Bool.and_eq_true, decide_eq_true_eq] at h
  -- a digit is at least 48, a space at most 32
  exact decide_eq_false (fun hs => hs.elim (fun e => absurd (e ▸ h.1) (by decide))
    (fun hs => absurd (Nat.le_trans h.1 hs.2) (by decide)))

theorem digit_not_minus {c : Char} (h : isDigit c = true) : c ≠ '-' := by
  intro e; subst e; revert h; decide

theorem isQuant_of_digit {c : Char} (h : isDigit c = true) : isQuantChar c = true := by
  unfold isQuantChar; simp [h]

theorem isQuant_of_sep {c : Char} (h : isSep c = true) : isQuantChar c = true := by
  unfold isQuantChar; simp [h]

/-- the decimal mark and the thousands mark of either style are separators. -/
theorem mark_isSep (dc : Bool) :
    isSep (if dc then ',' else '.') = true ∧ isSep (if dc then '.' else ',') = true := by
  cases dc <;> exact ⟨rfl, rfl⟩

theorem decVal_append (a b : Text) : decVal (a ++ b) = decVal a * 10 ^ b.length + decVal b := by
  -- the fold started at any accumulator
  have hfold (s : Text) : ∀ acc, s.foldl (fun a c => 10 * a + digitVal c) acc = acc * 10 ^ s.length + decVal s := by
    induction s with
    | nil => intro acc; simp [decVal]
    | cons c s ih =>
      intro acc
      simp only [List.foldl_cons, decVal, List.length_cons]
      rw [ih, ih (10 * 0 + digitVal c), Nat.pow_succ]
      simp only [decVal]
      rw [Nat.add_mul, Nat.mul_zero, Nat.zero_add, Nat.mul_comm 10 acc, Nat.mul_assoc, Nat.mul_comm 10,
        Nat.add_assoc]
  unfold decVal
  rw [List.foldl_append, hfold]
  rfl

theorem decVal_nil : decVal [] = 0 := rfl

theorem decVal_singleton (c : Char) : decVal [c] = digitVal c := by
  simp [decVal]

theorem decVal_snoc (a : Text) (c : Char) : decVal (a ++ [c]) = decVal a * 10 + digitVal c := by
  rw [decVal_append, decVal_singleton, List.length_singleton, Nat.pow_one]

theorem digitVal_eq_zero {c : Char} (hd : isDigit c = true) : digitVal c = 0 ↔ c = '0' := by
  refine ⟨fun h => ?_, fun h => h ▸ rfl⟩
  unfold isDigit at hd
  unfold digitVal at h
  simp only [Bool.decide_and, Bool.and_eq_true, decide_eq_true_eq] at hd
  have : c.toNat = 48 := Nat.le_antisymm (Nat.le_of_sub_eq_zero h) hd.1
  rw [← Char.ofNat_toNat c, this]

theorem decVal_eq_zero_iff (s : Text) (hd : ∀ c ∈ s, isDigit c = true) :
    decVal s = 0 ↔ ∀ c ∈ s, c = '0' := by
  induction s with
  | nil => exact ⟨fun _ _ h => (nomatch h), fun _ => rfl⟩
  | cons c s ih =>
    obtain ⟨hc, hr⟩ := List.forall_mem_cons.mp hd
    rw [← List.singleton_append, decVal_append, decVal_singleton, List.singleton_append,
      List.forall_mem_cons, Nat.add_eq_zero_iff, Nat.mul_eq_zero, ih hr, digitVal_eq_zero hc,
      or_iff_left (Nat.ne_of_gt (Nat.pow_pos (by decide)))]

theorem fracDigits_length (n p : Nat) : (fracDigits n p).length = p := by
  induction p generalizing n with
  | zero => rfl
  | succ p ih => rw [fracDigits, List.length_append, ih, List.length_singleton]

theorem decVal_fracDigits (n p : Nat) : decVal (fracDigits n p) = n % 10 ^ p := by
  induction p generalizing n with
  | zero => rw [Nat.pow_zero, Nat.mod_one]; rfl
  | succ p ih =>
    rw [fracDigits, decVal_snoc, ih, digitVal_digitChar, Nat.pow_succ, Nat.mul_comm (10 ^ p) 10,
      Nat.mod_mul, Nat.mul_comm, Nat.add_comm]

theorem fracDigits_isDigit (n p : Nat) : ∀ c ∈ fracDigits n p, isDigit c = true := by
  induction p generalizing n with
  | zero => exact fun _ h => nomatch h
  | succ p ih =>
    intro c hc
    rw [fracDigits, List.mem_append, List.mem_singleton] at hc
    rcases hc with hc | hc
    · exact ih _ c hc
    · exact hc ▸ isDigit_digitChar n

theorem decVal_intDigits (n : Nat) : decVal (intDigits n) = n := by
  induction n using Nat.strongRecOn with
  | _ n ih =>
    rw [intDigits]
    split
    · rename_i h
      rw [decVal_singleton, digitVal_digitChar, Nat.mod_eq_of_lt h]
    · rename_i h
      rw [decVal_snoc, ih (n / 10) (Nat.div_lt_self (Nat.lt_of_lt_of_le (by decide) (Nat.not_lt.mp h)) (by decide)), digitVal_digitChar,
        Nat.div_add_mod']

theorem intDigits_isDigit (n : Nat) : ∀ c ∈ intDigits n, isDigit c = true := by
  induction n using Nat.strongRecOn with
  | _ n ih =>
    rw [intDigits]
    split
    · exact fun c hc => List.mem_singleton.mp hc ▸ isDigit_digitChar n
    · rename_i h
      intro c hc
      rw [List.mem_append, List.mem_singleton] at hc
      rcases hc with hc | hc
      · exact ih (n / 10) (Nat.div_lt_self (Nat.lt_of_lt_of_le (by decide) (Nat.not_lt.mp h)) (by decide)) c hc
      · exact hc ▸ isDigit_digitChar n

theorem intDigits_ne_nil (n : Nat) : intDigits n ≠ [] := by
  rw [intDigits]
  split <;> simp

theorem decVal_digits (m p : Nat) :
    decVal (intDigits (m / 10 ^ p) ++ fracDigits (m % 10 ^ p) p) = m := by
  rw [decVal_append, decVal_intDigits, decVal_fracDigits, fracDigits_length, Nat.mod_mod,
    Nat.div_add_mod']

theorem magVal_eq (ints frac : Text) :
    magVal ints frac = (decVal (ints ++ frac) : Rat) / (10 : Rat) ^ frac.length := by
  unfold magVal fracVal
  rw [decVal_append, Rat.natCast_add, Rat.natCast_mul, Rat.natCast_pow, Rat.natCast_ofNat,
    rat_mul_add_div _ _ _ (ten_pow_ne_zero _)]

theorem decVal_div (ints frac : Text) :
    ((decVal (ints ++ frac) : Int) : Rat) / (10 : Rat) ^ frac.length = magVal ints frac := by
  rw [Rat.intCast_natCast, magVal_eq]

theorem Num.val_eq (n : Num) :
    n.val = if n.neg then -(magVal n.int n.frac) else magVal n.int n.frac := rfl

theorem signed_decVal_div (n : Num) :
    (((if n.neg then -(decVal (n.int ++ n.frac) : Int) else (decVal (n.int ++ n.frac) : Int)) : Int) : Rat)
        / (10 : Rat) ^ n.frac.length = n.val := by
  rw [Num.val_eq]
  cases n.neg with
  | false => exact decVal_div n.int n.frac
  | true =>
    rw [if_pos rfl, if_pos rfl, Rat.intCast_neg, Rat.div_def, Rat.neg_mul, ← Rat.div_def, decVal_div]

theorem fracVal_append_zeros (t : Text) (k : Nat) : fracVal (t ++ List.replicate k '0') = fracVal t := by
  unfold fracVal
  have hz : ∀ c ∈ List.replicate k '0', c = '0' := fun c hc => (List.mem_replicate.mp hc).2
  rw [decVal_append, (decVal_eq_zero_iff _ (fun c hc => by rw [hz c hc]; rfl)).mpr hz, Nat.add_zero,
    List.length_append, List.length_replicate, rat_pow_add, Rat.natCast_mul, Rat.natCast_pow,
    Rat.natCast_ofNat, rat_mul_div_mul_right _ _ _ (ten_pow_ne_zero k)]

theorem dropTrailingZeros_split (s : Text) :
    ∃ k, s = dropTrailingZeros s ++ List.replicate k '0' := by
  have hdrop (r : Text) : ∃ k, r = List.replicate k '0' ++ r.dropWhile (· = '0') := by
    induction r with
    | nil => exact ⟨0, rfl⟩
    | cons c r ih =>
      by_cases hc : c = '0'
      · obtain ⟨k, hk⟩ := ih
        refine ⟨k + 1, ?_⟩
        subst hc
        simp only [List.dropWhile_cons, decide_true, if_true, List.replicate_succ, List.cons_append]
        rw [← hk]
      · exact ⟨0, by simp [hc]⟩
  obtain ⟨k, hk⟩ := hdrop s.reverse
  refine ⟨k, ?_⟩
  unfold dropTrailingZeros
  simpa using congrArg List.reverse hk

theorem trimFrac_split (f : Text) (z : Nat) : ∃ k, f = trimFrac f z ++ List.replicate k '0' := by
  obtain ⟨k, hk⟩ := dropTrailingZeros_split (f.drop z)
  refine ⟨k, ?_⟩
  unfold trimFrac
  rw [List.append_assoc, ← hk, List.take_append_drop]

theorem fracVal_trimFrac (f : Text) (z : Nat) : fracVal (trimFrac f z) = fracVal f := by
  obtain ⟨k, hk⟩ := trimFrac_split f z
  conv => rhs; rw [hk]
  exact (fracVal_append_zeros _ k).symm

theorem trimFrac_mem (f : Text) (z : Nat) : ∀ c ∈ trimFrac f z, c ∈ f := by
  obtain ⟨k, hk⟩ := trimFrac_split f z
  intro c hc
  rw [hk]; exact List.mem_append_left _ hc

theorem trimFrac_length_le (f : Text) (z : Nat) : (trimFrac f z).length ≤ f.length := by
  obtain ⟨k, hk⟩ := trimFrac_split f z
  have := congrArg List.length hk
  simp only [List.length_append, List.length_replicate] at this
  exact this ▸ Nat.le_add_right _ k

theorem trimFrac_length_ge (f : Text) (z : Nat) : min z f.length ≤ (trimFrac f z).length := by
  unfold trimFrac
  rw [List.length_append, List.length_take]
  exact Nat.le_add_right _ _

theorem trimFrac_full (f : Text) : trimFrac f f.length = f := by
  unfold trimFrac dropTrailingZeros
  simp

theorem fmtNum_digits (q : Rat) (p : Nat) (z : Option Nat) : (fmtNum q p z).Digits := by
  refine ⟨intDigits_ne_nil _, intDigits_isDigit _, ?_⟩
  unfold fmtNum
  cases z with
  | none => exact fracDigits_isDigit _ _
  | some z => exact fun c hc => fracDigits_isDigit _ _ c (trimFrac_mem _ _ c hc)

theorem fmtNum_val (q : Rat) (p : Nat) (zeros : Option Nat) :
    (fmtNum q p zeros).val = Amount.roundTo q p := by
  have hm (m : Nat) : magVal (intDigits (m / 10 ^ p)) (fracDigits (m % 10 ^ p) p)
      = (m : Rat) / (10 : Rat) ^ p := by
    rw [magVal_eq, decVal_digits, fracDigits_length]
  have hmag : magVal (fmtNum q p zeros).int (fmtNum q p zeros).frac
      = ((Amount.roundUnits q p).natAbs : Rat) / (10 : Rat) ^ p := by
    cases zeros with
    | none => exact hm _
    | some z => exact (congrArg (_ + ·) (fracVal_trimFrac _ z)).trans (hm _)
  rw [Num.val_eq, hmag, roundTo_eq, ← Rat.intCast_natCast]
  have hs := roundUnits_sign q p
  show (if decide (q < 0) = true then _ else _) = _
  by_cases hq : q < 0
  · rw [decide_eq_true hq, if_pos rfl, Int.ofNat_natAbs_of_nonpos (hs.1 hq), Rat.intCast_neg,
      Rat.div_def, Rat.neg_mul, Rat.neg_neg, Rat.div_def]
  · rw [decide_eq_false hq, if_neg Bool.false_ne_true, Int.natAbs_of_nonneg (hs.2 hq)]

theorem groupInt_cons (sep c : Char) (rest : Text) : groupInt sep (c :: rest) =
    if rest.length ≥ 3 ∧ rest.length % 3 = 0 then c :: sep :: groupInt sep rest else c :: groupInt sep rest := by
  rw [groupInt]

theorem groupInt_head (sep d : Char) (r : Text) : ∃ Y, groupInt sep (d :: r) = d :: Y := by
  rw [groupInt_cons]; split <;> exact ⟨_, rfl⟩

theorem groupInt_mem (sep : Char) (ds : Text) : ∀ c ∈ groupInt sep ds, c = sep ∨ c ∈ ds := by
  induction ds with
  | nil => exact fun _ h => nomatch h
  | cons x rest ih =>
    intro c hc
    have hcons : c = x ∨ c ∈ groupInt sep rest → c = sep ∨ c ∈ x :: rest := fun h =>
      h.elim (fun e => .inr (e ▸ List.mem_cons_self))
        (fun h => (ih c h).imp id (List.mem_cons_of_mem x))
    rw [groupInt_cons] at hc
    split at hc
    · rcases List.mem_cons.mp hc with h | h
      · exact hcons (.inl h)
      · exact (List.mem_cons.mp h).elim .inl (fun h => hcons (.inr h))
    · exact hcons (List.mem_cons.mp hc)

theorem groupInt_snoc (sep : Char) (ds : Text) (d : Char) : ∃ X, groupInt sep (ds ++ [d]) = X ++ [d] := by
  induction ds with
  | nil => exact ⟨[], rfl⟩
  | cons x rest ih =>
    obtain ⟨X, hX⟩ := ih
    rw [List.cons_append, groupInt_cons, hX]
    split
    · exact ⟨x :: sep :: X, rfl⟩
    · exact ⟨x :: X, rfl⟩

theorem groupInt_filter (sep : Char) (ds : Text) (h : ∀ c ∈ ds, c ≠ sep) :
    (groupInt sep ds).filter (fun c => decide (c ≠ sep)) = ds := by
  induction ds with
  | nil => rfl
  | cons c rest ih =>
    obtain ⟨hc, hr⟩ := List.forall_mem_cons.mp h
    rw [groupInt_cons]
    split <;> simpa [hc] using ih hr

theorem groupRev_snoc (sep : Char) (l : Text) (x : Char) :
    groupRev sep (l ++ [x]) =
      groupRev sep l ++ (if l.length ≥ 3 ∧ l.length % 3 = 0 then [sep] else []) ++ [x] := by
  induction l using groupRev.induct with
  | case1 a b c => simp [groupRev]
  | case2 a b c t ht ih =>
    have hc : ((a :: b :: c :: t).length ≥ 3 ∧ (a :: b :: c :: t).length % 3 = 0) ↔
        (t.length ≥ 3 ∧ t.length % 3 = 0) := by
      show (t.length + 3 ≥ 3 ∧ (t.length + 3) % 3 = 0) ↔ _
      rw [Nat.add_mod_right]
      exact ⟨fun h => ⟨Nat.le_of_dvd (List.length_pos_iff.mpr ht) (Nat.dvd_of_mod_eq_zero h.2), h.2⟩,
        fun h => ⟨Nat.le_add_left _ _, h.2⟩⟩
    simp only [hc]
    rw [groupRev, if_neg ht]
    show groupRev sep (a :: b :: c :: (t ++ [x])) = _
    rw [groupRev, if_neg (List.append_ne_nil_of_right_ne_nil t (List.cons_ne_nil x [])), ih]
    rfl
  | case3 l hl =>
    rcases l with _ | ⟨a, _ | ⟨b, _ | ⟨c, t⟩⟩⟩
    · rfl
    · rfl
    · rfl
    · exact absurd rfl (hl a b c t)

theorem groupInt_reverse (sep : Char) (ds : Text) :
    (groupInt sep ds).reverse = groupRev sep ds.reverse := by
  induction ds with
  | nil => rfl
  | cons c rest ih =>
    rw [List.reverse_cons, groupRev_snoc, ← ih, List.length_reverse, groupInt_cons]
    split <;> simp only [List.reverse_cons, List.append_assoc, List.append_nil]

theorem groupRev_length (sep : Char) (l : Text) :
    (groupRev sep l).length = l.length + (l.length - 1) / 3 := by
  induction l using groupRev.induct with
  | case1 a b c => simp [groupRev]
  | case2 a b c t ht ih =>
    obtain ⟨j, hj⟩ := Nat.exists_eq_add_one_of_ne_zero (Nat.ne_of_gt (List.length_pos_iff.mpr ht))
    rw [groupRev, if_neg ht]
    simp only [List.length_cons, ih, hj]
    show _ = _ + (j + 3) / 3
    rw [Nat.add_div_right j (by decide : 0 < 3), Nat.add_sub_cancel]
    ac_rfl
  | case3 l hl =>
    rcases l with _ | ⟨a, _ | ⟨b, _ | ⟨c, t⟩⟩⟩
    · rfl
    · simp [groupRev]
    · simp [groupRev]
    · exact absurd rfl (hl a b c t)

theorem groupInt_length (sep : Char) (ds : Text) :
    (groupInt sep ds).length = ds.length + (ds.length - 1) / 3 := by
  rw [← List.length_reverse, groupInt_reverse, groupRev_length, List.length_reverse]

theorem scanGo_append (st : Scan) (a b : Text) :
    scanGo st (a ++ b) = match scanGo st a with
                         | .ok s => scanGo s b
                         | .error e => .error e := by
  induction a generalizing st with
  | nil => rfl
  | cons c a ih =>
    simp only [List.cons_append, scanGo]
    cases scanStep st c with
    | ok s => exact ih s
    | error e => rfl

theorem isSep_false_iff {c : Char} : isSep c = false ↔ c ≠ ',' ∧ c ≠ '.' := by
  unfold isSep
  simp

theorem scanStep_nonsep (st : Scan) (c : Char) (h : isSep c = false) :
    scanStep st c = .ok { st with off := st.off + 1 } := by
  obtain ⟨h1, h2⟩ := isSep_false_iff.mp h
  unfold scanStep
  rw [if_neg h2, if_neg h1]

theorem scanGo_nonsep (st : Scan) (ds : Text) (h : ∀ c ∈ ds, isSep c = false) :
    scanGo st ds = .ok { st with off := st.off + ds.length } := by
  induction ds generalizing st with
  | nil => rfl
  | cons c ds ih =>
    obtain ⟨hc, hr⟩ := List.forall_mem_cons.mp h
    simp only [scanGo, scanStep_nonsep st c hc]
    rw [ih _ hr, List.length_cons, Nat.add_comm ds.length, Nat.add_assoc]

theorem Mode_off (sep : Char) (st : Scan) (n : Nat) (hm : Mode sep st) : Mode sep { st with off := n } := hm

/-- `a` stands before `b` in the text, so `b` is scanned first. -/
theorem Scans.append {sep : Char} {st s1 s2 : Scan} {a b : Text} {n m : Nat} {th th' : Bool}
    (hb : Scans sep st b n th s1) (ha : Scans sep s1 a m th' s2) :
    Scans sep st (a ++ b) (n + m) (th || th') s2 where
  run := by rw [List.reverse_append, scanGo_append, hb.run]; exact ha.run
  mode := ha.mode
  off := by rw [ha.off, hb.off, Nat.add_assoc]
  prec := ha.prec.trans hb.prec
  dcs := ha.dcs.trans hb.dcs
  thousands := by rw [ha.thousands, hb.thousands, Bool.or_assoc]

theorem Scans.nonsep {sep : Char} {st : Scan} (hm : Mode sep st) (ds : Text)
    (h : ∀ c ∈ ds, isSep c = false) :
    Scans sep st ds ds.length false { st with off := st.off + ds.length } where
  run := by
    rw [scanGo_nonsep st ds.reverse (fun c hc => h c (List.mem_reverse.mp hc)), List.length_reverse]
  mode := Mode_off sep st _ hm
  off := rfl
  prec := rfl
  dcs := rfl
  thousands := (Bool.or_false _).symm

theorem Scans.mark {sep : Char} {st : Scan} (hm : Mode sep st) (h3 : st.off % 3 = 0) :
    ∃ st', Scans sep st [sep] 0 true st' := by
  rcases hm with ⟨rfl, h1, h2⟩ | ⟨rfl, h1, h2⟩
  · exact ⟨{ st with thousands := true, noMorePeriods := true, lastComma := true },
      by simp [scanGo, scanStep, h1, h2, h3], .inl ⟨rfl, h1, h2⟩, rfl, rfl, rfl, (Bool.or_true _).symm⟩
  · exact ⟨{ st with thousands := true, noMoreCommas := true, lastPeriod := true },
      by simp [scanGo, scanStep, h1, h2, h3], .inr ⟨rfl, h1, h2⟩, rfl, rfl, rfl, (Bool.or_true _).symm⟩

theorem scan_group (sep : Char) (ds : Text) (hds : ∀ c ∈ ds, isSep c = false)
    (st : Scan) (hm : Mode sep st) (h3 : st.off % 3 = 0) :
    ∃ st', Scans sep st (groupInt sep ds) ds.length (decide (ds.length ≥ 4)) st' := by
  induction ds with
  | nil => exact ⟨st, rfl, hm, rfl, rfl, rfl, (Bool.or_false _).symm⟩
  | cons c rest ih =>
    obtain ⟨hc, hr⟩ := List.forall_mem_cons.mp hds
    obtain ⟨s1, h1⟩ := ih hr
    have hc' : ∀ x ∈ [c], isSep x = false := fun x hx => List.mem_singleton.mp hx ▸ hc
    rw [groupInt_cons]
    split
    · rename_i hg
      obtain ⟨s2, h2⟩ := Scans.mark h1.mode (by rw [h1.off, Nat.add_mod, h3, hg.2])
      have e : ((decide (rest.length ≥ 4) || true) || false) = decide ((c :: rest).length ≥ 4) := by
        rw [Bool.or_false, Bool.or_true]; exact (decide_eq_true (Nat.succ_le_succ hg.1)).symm
      exact ⟨_, e ▸ (h1.append h2).append (Scans.nonsep h2.mode [c] hc')⟩
    · rename_i hg
      have e : (decide (rest.length ≥ 4) || false) = decide ((c :: rest).length ≥ 4) := by
        rw [Bool.or_false, List.length_cons]
        -- no mark after `c`: `rest` does not consist of exactly three digits
        exact decide_eq_decide.mpr ⟨Nat.le_succ_of_le, fun h =>
          (Nat.lt_or_eq_of_le (Nat.le_of_succ_le_succ h)).elim id
            (fun e => absurd ⟨e ▸ Nat.le_refl 3, e ▸ rfl⟩ hg)⟩
      exact ⟨_, e ▸ h1.append (Scans.nonsep h1.mode [c] hc')⟩

theorem sgn_nonsep (neg : Bool) : ∀ c ∈ (if neg then ['-'] else []), isSep c = false := by
  cases neg
  · exact fun _ h => nomatch h
  · exact fun c hc => List.mem_singleton.mp hc ▸ rfl

/-- The decimal mark, met in a state that has seen only digits: it fixes the precision, and the
    decimal style if the reader did not know it and the number of decimals rules out a thousands
    mark. -/
theorem scanStep_decimal (st : Scan) (dc : Bool)
    (hfresh : st.lastComma = false ∧ st.lastPeriod = false ∧ st.noMoreCommas = false ∧
      st.noMorePeriods = false)
    (hG : st.dcs = dc ∨ (st.dcs = false ∧ st.off % 3 ≠ 0)) :
    ∃ s1, scanStep st (if dc then ',' else '.') = .ok s1 ∧ Mode (if dc then '.' else ',') s1 ∧
      s1.off = 0 ∧ s1.prec = st.off ∧ s1.dcs = dc ∧ s1.thousands = st.thousands := by
  obtain ⟨hc, hp, hnc, hnp⟩ := hfresh
  cases dc with
  | false =>
    have hd : st.dcs = false := hG.elim id (·.1)
    exact ⟨{ st with noMorePeriods := true, prec := st.off, off := 0, lastPeriod := true },
      by simp [scanStep, hnp, hd, hc], .inl ⟨rfl, hd, hnc⟩, rfl, rfl, hd, rfl⟩
  | true =>
    rcases hG with hd | ⟨hd, h3⟩
    · exact ⟨{ st with noMoreCommas := true, prec := st.off, off := 0, lastComma := true },
        by simp [scanStep, hnc, hd, hp], .inr ⟨rfl, hd, hnp⟩, rfl, rfl, hd, rfl⟩
    · exact ⟨{ st with dcs := true, noMoreCommas := true, prec := st.off, off := 0, lastComma := true },
        by simp [scanStep, hnc, hd, hc, hp, h3], .inr ⟨rfl, rfl, hnp⟩, rfl, rfl, rfl, rfl⟩

/-- The reader's scan of a printed number: it finds the decimals, the thousands style when marks
    are present, and the decimal-comma style — provided the reader starts in the style the number
    was written in, or starts in period style and the decimals are not a multiple of three. -/
theorem scan_render (n : Num) (thou dc dc0 : Bool) (hn : n.Digits)
    (hG : dc0 = dc ∨ (dc0 = false ∧ n.frac.length % 3 ≠ 0)) :
    ∃ sc, scan dc0 (n.render thou dc) = .ok sc ∧ sc.prec = n.frac.length ∧
      sc.dcs = dc ∧ sc.thousands = (thou && decide (n.int.length ≥ 4)) := by
  obtain ⟨neg, ints, frac⟩ := n
  obtain ⟨_, hi, hf⟩ := hn
  dsimp only at hi hf hG ⊢
  -- the decimals and their mark leave a state that accepts the thousands mark of the style
  have hfrac : ∃ s1, scanGo { dcs := dc0 } (if frac = [] then [] else (if dc then ',' else '.') :: frac).reverse
        = .ok s1 ∧ Mode (if dc then '.' else ',') s1 ∧ s1.off = 0 ∧ s1.prec = frac.length ∧ s1.dcs = dc ∧
        s1.thousands = false := by
    by_cases hfe : frac = []
    · have hdc : dc0 = dc := hG.elim id (fun h => absurd (hfe ▸ rfl) h.2)
      rw [if_pos hfe, hfe, ← hdc]
      refine ⟨_, rfl, ?_, rfl, rfl, rfl, rfl⟩
      cases dc0
      · exact .inl ⟨rfl, rfl, rfl⟩
      · exact .inr ⟨rfl, rfl, rfl⟩
    · rw [if_neg hfe, List.reverse_cons, scanGo_append, scanGo_nonsep _ frac.reverse
        (fun c hc => isDigit_not_sep (hf c (List.mem_reverse.mp hc))), List.length_reverse]
      obtain ⟨s1, e1, h1⟩ := scanStep_decimal { dcs := dc0, off := 0 + frac.length } dc ⟨rfl, rfl, rfl, rfl⟩
        ((Nat.zero_add frac.length).symm ▸ hG)
      refine ⟨s1, ?_, ?_⟩
      · show scanGo _ [_] = _
        rw [scanGo, e1]; rfl
      · rw [Nat.zero_add] at h1; exact h1
  obtain ⟨s1, e1, m1, o1, p1, d1, t1⟩ := hfrac
  have hi' : ∀ c ∈ ints, isSep c = false := fun c hc => isDigit_not_sep (hi c hc)
  obtain ⟨s2, h2⟩ : ∃ s2, Scans (if dc then '.' else ',') s1
      (if thou then groupInt (if dc then '.' else ',') ints else ints) ints.length
      (thou && decide (ints.length ≥ 4)) s2 := by
    cases thou with
    | true => exact scan_group _ ints hi' s1 m1 (by rw [o1])
    | false => exact ⟨_, Scans.nonsep m1 ints hi'⟩
  have h3 := h2.append (Scans.nonsep h2.mode _ (sgn_nonsep neg))
  refine ⟨_, ?_, h3.prec.trans p1, h3.dcs.trans d1, ?_⟩
  · unfold scan Num.render
    rw [List.reverse_append, scanGo_append, e1]
    exact h3.run
  · rw [h3.thousands, t1, Bool.or_false, Bool.false_or]

theorem stripSeps_cons_nonsep (c : Char) (t : Text) (h : isSep c = false) :
    stripSeps (c :: t) = c :: stripSeps t := by
  rw [stripSeps.eq_def]; simp [h]

theorem stripSeps_sep_nonsep (s d : Char) (t : Text) (hs : isSep s = true) (hd : isSep d = false) :
    stripSeps (s :: d :: t) = stripSeps (d :: t) := by
  rw [stripSeps_cons_nonsep d t hd, stripSeps.eq_def]; simp [hs]

theorem stripSeps_nonsep_append (a b : Text) (h : ∀ c ∈ a, isSep c = false) :
    stripSeps (a ++ b) = a ++ stripSeps b := by
  induction a with
  | nil => rfl
  | cons c a ih =>
    obtain ⟨hc, hr⟩ := List.forall_mem_cons.mp h
    rw [List.cons_append, stripSeps_cons_nonsep _ _ hc, ih hr, List.cons_append]

theorem stripSeps_group (sep : Char) (hsep : isSep sep = true) (ds tail : Text)
    (h : ∀ c ∈ ds, isSep c = false) :
    stripSeps (groupInt sep ds ++ tail) = ds ++ stripSeps tail := by
  induction ds with
  | nil => rfl
  | cons c rest ih =>
    obtain ⟨hc, hr⟩ := List.forall_mem_cons.mp h
    rw [groupInt_cons]
    split
    · rename_i hg
      cases rest with
      | nil => exact absurd hg.1 (by decide)
      | cons d r =>
        obtain ⟨Y, hY⟩ := groupInt_head sep d r
        have hd := hr d List.mem_cons_self
        rw [List.cons_append, stripSeps_cons_nonsep _ _ hc, List.cons_append]
        have := ih hr
        rw [hY] at this ⊢
        rw [List.cons_append] at this ⊢
        rw [stripSeps_sep_nonsep sep d _ hsep hd, this]
        rfl
    · rw [List.cons_append, stripSeps_cons_nonsep _ _ hc, ih hr, List.cons_append]

theorem stripSeps_render (n : Num) (thou dc : Bool) (hn : n.Digits) :
    stripSeps (n.render thou dc) = (if n.neg then ['-'] else []) ++ (n.int ++ n.frac) := by
  obtain ⟨neg, ints, frac⟩ := n
  obtain ⟨_, hi, hf⟩ := hn
  dsimp only at hi hf ⊢
  have hi' : ∀ c ∈ ints, isSep c = false := fun c hc => isDigit_not_sep (hi c hc)
  have hf' : ∀ c ∈ frac, isSep c = false := fun c hc => isDigit_not_sep (hf c hc)
  have hfr : stripSeps (if frac = [] then [] else (if dc then ',' else '.') :: frac) = frac := by
    cases frac with
    | nil => rfl
    | cons f fr =>
      rw [if_neg (List.cons_ne_nil f fr), stripSeps_sep_nonsep _ f fr (mark_isSep dc).1
        (List.forall_mem_cons.mp hf').1]
      simpa [stripSeps] using stripSeps_nonsep_append (f :: fr) [] hf'
  unfold Num.render
  rw [List.append_assoc, stripSeps_nonsep_append _ _ (sgn_nonsep neg)]
  cases thou with
  | true => rw [if_pos rfl, stripSeps_group _ (mark_isSep dc).2 _ _ hi', hfr]
  | false => rw [if_neg Bool.false_ne_true, stripSeps_nonsep_append _ _ hi', hfr]

theorem intOfText_digits (ds : Text) (hne : ds ≠ []) (h : ∀ c ∈ ds, isDigit c = true) :
    intOfText ds = some (decVal ds : Int) := by
  have hall : ds.all isDigit = true := List.all_eq_true.mpr h
  obtain ⟨c, t, rfl⟩ := List.exists_cons_of_ne_nil hne
  have hc : c ≠ '-' := by
    intro e; have := h c List.mem_cons_self; rw [e] at this; revert this; decide
  unfold intOfText
  split
  · rename_i ds' heq
    cases heq; exact absurd rfl hc
  · simp [hall]

theorem intOfText_neg_digits (ds : Text) (hne : ds ≠ []) (h : ∀ c ∈ ds, isDigit c = true) :
    intOfText ('-' :: ds) = some (-(decVal ds : Int)) := by
  have hall : ds.all isDigit = true := List.all_eq_true.mpr h
  unfold intOfText
  simp [hne, hall]

theorem StopsAt.cons {p : Char → Bool} {c : Char} (h : p c = false) (r : Text) : StopsAt p (c :: r) :=
  .inr ⟨c, r, rfl, h⟩

theorem skipWs_of_head (t : Text) (h : StopsAt isSpace t) : skipWs t = t := by
  rcases h with rfl | ⟨c, r, rfl, hc⟩
  · rfl
  · simp [skipWs, hc]

theorem skipWs_spaces (sp t : Text) (hsp : ∀ c ∈ sp, isSpace c = true) (h : StopsAt isSpace t) :
    skipWs (sp ++ t) = t := by
  induction sp with
  | nil => exact skipWs_of_head t h
  | cons c sp ih =>
    obtain ⟨hc, hr⟩ := List.forall_mem_cons.mp hsp
    have := ih hr
    simp only [skipWs] at this ⊢
    simp [hc, this]

theorem takeWhileN_append (p : Char → Bool) (n : Nat) (a tail : Text)
    (ha : ∀ c ∈ a, p c = true) (hlen : a.length ≤ n) (ht : StopsAt p tail) :
    takeWhileN p n (a ++ tail) = a := by
  induction a generalizing n with
  | nil =>
    rcases ht with rfl | ⟨c, r, rfl, hc⟩
    · cases n <;> rfl
    · cases n with
      | zero => rfl
      | succ n => simp [takeWhileN, hc]
  | cons c a ih =>
    obtain ⟨hc, hr⟩ := List.forall_mem_cons.mp ha
    cases n with
    | zero => exact absurd hlen (Nat.not_succ_le_zero _)
    | succ n => simp [takeWhileN, hc, ih n hr (Nat.le_of_succ_le_succ hlen)]

theorem stripTrailing_id (a : Text) (d : Char) (hd : isDigit d = true) :
    stripTrailingNonDigits (a ++ [d]) = a ++ [d] := by
  unfold stripTrailingNonDigits
  simp [hd]

theorem startsMinus_cons (c : Char) (t : Text) : startsMinus (c :: t) = decide (c = '-') := by
  unfold startsMinus
  split
  · rename_i heq; cases heq; simp
  · rename_i h
    by_cases hc : c = '-'
    · subst hc; exact absurd rfl (h t)
    · simp [hc]

theorem startsDigit_cons (c : Char) (t : Text) : startsDigit (c :: t) = isDigit c := rfl

theorem QuantBody.stopsAt_space {body : Text} (hb : QuantBody body) (t : Text) :
    StopsAt isSpace (body ++ t) := by
  obtain ⟨h, r, rfl, hd⟩ := hb.first
  exact .cons (digit_not_space hd) _

theorem QuantBody.startsMinus {body : Text} (hb : QuantBody body) (t : Text) :
    startsMinus (body ++ t) = false := by
  obtain ⟨h, r, rfl, hd⟩ := hb.first
  rw [List.cons_append, startsMinus_cons, decide_eq_false (digit_not_minus hd)]

theorem QuantBody.startsDigit {body : Text} (hb : QuantBody body) (t : Text) :
    startsDigit (body ++ t) = true := by
  obtain ⟨h, r, rfl, hd⟩ := hb.first
  exact hd

theorem parseQuantity_body (sp : Text) (neg : Bool) (body tail : Text)
    (hsp : ∀ c ∈ sp, isSpace c = true) (hb : QuantBody body)
    (hlen : ((if neg then ['-'] else []) ++ body).length ≤ Gen.quantityBufMax)
    (ht : StopsAt isQuantChar tail) :
    parseQuantity (sp ++ ((if neg then ['-'] else []) ++ (body ++ tail)))
      = ((if neg then ['-'] else []) ++ body, tail) := by
  obtain ⟨b', d, hbd, hd⟩ := hb.last
  cases neg with
  | false =>
    have hl : body.length ≤ Gen.quantityBufMax := hlen
    unfold parseQuantity
    simp only [Bool.false_eq_true, if_false, List.nil_append,
      skipWs_spaces sp _ hsp (hb.stopsAt_space tail), hb.startsMinus tail,
      takeWhileN_append isQuantChar _ body tail hb.chars hl ht]
    rw [hbd, stripTrailing_id b' d hd]
    rw [List.drop_length, List.nil_append, List.drop_left]
  | true =>
    have hl : body.length ≤ Gen.quantityBufMax - 1 := Nat.le_sub_one_of_lt hlen
    have hneg : startsMinus ('-' :: (body ++ tail)) = true := rfl
    have e2 : ['-'] ++ body = ('-' :: b') ++ [d] := by rw [hbd]; rfl
    unfold parseQuantity
    simp only [if_true, List.singleton_append,
      skipWs_spaces sp _ hsp (.cons (p := isSpace) (c := '-') rfl (body ++ tail)), hneg,
      List.drop_succ_cons, List.drop_zero,
      takeWhileN_append isQuantChar _ body tail hb.chars hl ht]
    rw [← List.singleton_append, e2, stripTrailing_id _ d hd]
    rw [List.drop_length, List.nil_append, List.drop_left]

theorem intPart_body (ints : Text) (thou dc : Bool) (hine : ints ≠ [])
    (hi : ∀ c ∈ ints, isDigit c = true) :
    QuantBody (if thou then groupInt (if dc then '.' else ',') ints else ints) := by
  obtain ⟨i', dl, hil⟩ := list_snoc_of_ne_nil ints hine
  obtain ⟨h, r, hhr⟩ := List.exists_cons_of_ne_nil hine
  have hdl : isDigit dl = true := hi dl (hil ▸ List.mem_append_right _ List.mem_cons_self)
  have hh : isDigit h = true := hi h (hhr ▸ List.mem_cons_self)
  cases thou with
  | false => exact ⟨fun c hc => isQuant_of_digit (hi c hc), ⟨i', dl, hil, hdl⟩, ⟨h, r, hhr, hh⟩⟩
  | true =>
    refine ⟨fun c hc => ?_, ?_, ?_⟩
    · rcases groupInt_mem _ _ c hc with h | h
      · rw [h]; exact isQuant_of_sep (mark_isSep dc).2
      · exact isQuant_of_digit (hi c h)
    · obtain ⟨X, hX⟩ := groupInt_snoc (if dc then '.' else ',') i' dl
      exact ⟨X, dl, by rw [if_pos rfl, hil, hX], hdl⟩
    · obtain ⟨Y, hY⟩ := groupInt_head (if dc then '.' else ',') h r
      exact ⟨h, Y, by rw [if_pos rfl, hhr, hY], hh⟩

theorem QuantBody.append_frac {body : Text} (hb : QuantBody body) (dc : Bool) (frac : Text)
    (hf : ∀ c ∈ frac, isDigit c = true) :
    QuantBody (body ++ (if frac = [] then [] else (if dc then ',' else '.') :: frac)) := by
  by_cases hfe : frac = []
  · rw [if_pos hfe, List.append_nil]; exact hb
  · obtain ⟨f', fl, hfl⟩ := list_snoc_of_ne_nil frac hfe
    obtain ⟨h, r, hhr, hh⟩ := hb.first
    rw [if_neg hfe]
    refine ⟨fun c hc => ?_, ⟨body ++ (if dc then ',' else '.') :: f', fl, ?_, ?_⟩, ⟨h, _, by rw [hhr]; rfl, hh⟩⟩
    · rcases List.mem_append.mp hc with h | h
      · exact hb.chars c h
      · rcases List.mem_cons.mp h with h | h
        · rw [h]; exact isQuant_of_sep (mark_isSep dc).1
        · exact isQuant_of_digit (hf c h)
    · rw [hfl, List.append_assoc, List.cons_append]
    · exact hf fl (hfl ▸ List.mem_append_right _ List.mem_cons_self)

theorem render_body (n : Num) (thou dc : Bool) (hn : n.Digits) :
    QuantBody (({ n with neg := false } : Num).render thou dc) :=
  (intPart_body n.int thou dc hn.int_ne hn.int).append_frac dc n.frac hn.frac

theorem render_sgn (n : Num) (thou dc : Bool) :
    n.render thou dc = (if n.neg then ['-'] else []) ++ ({ n with neg := false } : Num).render thou dc :=
  List.append_assoc _ _ _

/-- amount.cc 1098-1227 applied to a printed number. -/
theorem finish_render (n : Num) (thou dc dc0 negative : Bool) (sym : Text) (fl : Style) (rest : Text)
    (hn : n.Digits) (hG : dc0 = dc ∨ (dc0 = false ∧ n.frac.length % 3 ≠ 0)) :
    finish dc0 negative (n.render thou dc) sym fl rest =
      .ok { q := if negative then -n.val else n.val, prec := n.frac.length, sym := sym,
            flags := { fl with thousands := thou && decide (n.int.length ≥ 4), decimalComma := dc },
            rest := rest } := by
  obtain ⟨sc, hsc, hp, hd, ht⟩ := scan_render n thou dc dc0 hn hG
  have hdig : ∀ c ∈ n.int ++ n.frac, isDigit c = true :=
    fun c hc => (List.mem_append.mp hc).elim (hn.int c) (hn.frac c)
  have hne2 : n.int ++ n.frac ≠ [] := List.append_ne_nil_of_left_ne_nil hn.int_ne _
  have hint : (intOfText ((if n.neg then ['-'] else []) ++ (n.int ++ n.frac))).getD 0
      = if n.neg then -(decVal (n.int ++ n.frac) : Int) else (decVal (n.int ++ n.frac) : Int) := by
    cases n.neg with
    | false => exact congrArg (·.getD 0) (intOfText_digits _ hne2 hdig)
    | true => exact congrArg (·.getD 0) (intOfText_neg_digits _ hne2 hdig)
  have hne : n.render thou dc ≠ [] := by
    obtain ⟨h, r, e, _⟩ := (render_body n thou dc hn).first
    rw [render_sgn, e]
    exact List.append_ne_nil_of_right_ne_nil _ (List.cons_ne_nil h r)
  unfold finish
  rw [if_neg hne, hsc]
  simp only
  rw [stripSeps_render n thou dc hn, hint, hp, hd, ht, signed_decVal_div]

theorem invalid_of_digit (c : Char) (h : isDigit c = true) : invalidChar c = true := by
  unfold isDigit at h
  unfold invalidChar
  simp only [Bool.decide_and, Bool.and_eq_true, decide_eq_true_eq] at h
  have table : ∀ n, n < 58 → 48 ≤ n → Gen.invalidChars.getD n false = true := by decide +kernel
  exact table c.toNat (Nat.lt_succ_of_le h.2) h.1

theorem invalid_space : invalidChar ' ' = true := by decide +kernel

theorem invalid_minus : invalidChar '-' = true := by decide +kernel

theorem invalid_period : invalidChar '.' = true := by decide +kernel

theorem invalid_comma : invalidChar ',' = true := by decide +kernel

theorem notSpace_of_valid (c : Char) (h : invalidChar c = false) (h11 : c.toNat ≠ 11) (h12 : c.toNat ≠ 12) :
    isSpace c = false := by
  unfold invalidChar at h
  unfold isSpace
  have t32 : Gen.invalidChars.getD 32 false = true := by decide +kernel
  have table : ∀ n, n < 14 → 9 ≤ n → n ≠ 11 → n ≠ 12 → Gen.invalidChars.getD n false = true := by
    decide +kernel
  simp only [Bool.decide_and, Bool.decide_or, Bool.or_eq_false_iff, Bool.and_eq_false_imp, decide_eq_true_eq, decide_eq_false_iff_not]
  constructor
  · intro e; rw [e, t32] at h; cases h
  · intro h9 h13
    rw [table c.toNat (Nat.lt_succ_of_le h13) h9 h11 h12] at h; cases h

theorem quant_invalid (c : Char) (h : isQuantChar c = true) : invalidChar c = true := by
  unfold isQuantChar isSep at h
  simp only [Bool.decide_or, Bool.or_eq_true, decide_eq_true_eq] at h
  rcases h with h | h | h
  · exact invalid_of_digit c h
  · rw [h]; exact invalid_comma
  · rw [h]; exact invalid_period

theorem readBare_sym (n : Nat) (sym tail : Text)
    (hv : ∀ c ∈ sym, invalidChar c = false ∧ c ≠ '\\') (hlen : sym.length ≤ n)
    (ht : StopsAt (fun c => !invalidChar c) tail) :
    readBare n (sym ++ tail) = .ok (sym, tail) := by
  induction sym generalizing n with
  | nil =>
    cases n with
    | zero => rfl
    | succ n =>
      rcases ht with rfl | ⟨c, r, rfl, hc⟩
      · rfl
      · have : invalidChar c = true := by simpa using hc
        simp [readBare, this]
  | cons c sym ih =>
    obtain ⟨hc, hr⟩ := List.forall_mem_cons.mp hv
    cases n with
    | zero => simp at hlen
    | succ n =>
      simp only [List.length_cons] at hlen
      simp only [List.cons_append, readBare, hc.1, hc.2, Bool.false_eq_true, if_false]
      rw [ih n hr (Nat.le_of_succ_le_succ hlen)]

theorem escapeSym_of_plain (s : Text) (h : ∀ c ∈ s, c ≠ '"' ∧ c ≠ '\\') : escapeSym s = s := by
  induction s with
  | nil => rfl
  | cons c s ih =>
    obtain ⟨hc, hr⟩ := List.forall_mem_cons.mp h
    rw [escapeSym, if_neg (not_or.mpr hc), ih hr]

/-- the quoted reader undoes `escapeSym` (the repaired printer). -/
theorem readQuoted_escaped (n : Nat) (sym tail : Text)
    (hv : ∀ c ∈ sym, c ≠ '\n') (hlen : sym.length ≤ n) :
    readQuoted n (escapeSym sym ++ '"' :: tail) = (sym, '"' :: tail) := by
  induction sym generalizing n with
  | nil =>
    cases n with
    | zero => rfl
    | succ n => exact (readQuoted.eq_def _ _).trans (if_pos (.inr rfl))
  | cons c sym ih =>
    obtain ⟨hc, hr⟩ := List.forall_mem_cons.mp hv
    cases n with
    | zero => exact absurd hlen (Nat.not_succ_le_zero _)
    | succ n =>
      have hi := ih n hr (Nat.le_of_succ_le_succ hlen)
      rw [escapeSym]
      by_cases he : c = '"' ∨ c = '\\'
      · -- escaped: the reader meets the backslash, then `c`, which `unescape` leaves as it is
        rw [if_pos he, List.cons_append, List.cons_append, readQuoted, if_neg (by decide), if_pos rfl]
        show (unescape c :: (readQuoted n _).1, (readQuoted n _).2) = _
        have hu : unescape '"' = '"' ∧ unescape '\\' = '\\' := by decide +kernel
        rw [hi]
        rcases he with rfl | rfl
        · rw [hu.1]
        · rw [hu.2]
      · obtain ⟨hq, hb⟩ := not_or.mp he
        rw [if_neg he, List.cons_append]
        simp only [readQuoted, hc, hq, hb, or_self, if_false, hi]

theorem startsQuote_cons (c : Char) (t : Text) : startsQuote (c :: t) = decide (c = '"') := by
  unfold startsQuote
  split
  · rename_i heq; cases heq; simp
  · rename_i h
    by_cases hc : c = '"'
    · subst hc; exact absurd rfl (h t)
    · simp [hc]

theorem valid_of_bare (sym : Text) (h : needsQuotes sym = false) : ∀ c ∈ sym, invalidChar c = false := by
  unfold needsQuotes at h
  simp only [Bool.or_eq_false_iff] at h
  intro c hc
  have := List.any_eq_false.mp h.1.1 c hc
  simpa using this

/-- first character of the printed symbol: it opens the symbol-first branch of amount_t::parse. -/
theorem qualified_head (sym : Text) (hok : SymOK sym) :
    ∃ ch r, qualified sym = ch :: r ∧ isSpace ch = false ∧ ch ≠ '-' ∧ isDigit ch = false ∧ ch ≠ '\n' ∧
      isQuantChar ch = false := by
  obtain ⟨hne, _, hnl, _, hbare⟩ := hok
  unfold qualified
  by_cases hq : needsQuotes sym = true
  · rw [if_pos hq]
    exact ⟨'"', _, rfl, rfl, by decide, rfl, by decide, rfl⟩
  · have hq' : needsQuotes sym = false := by simpa using hq
    rw [if_neg hq]
    obtain ⟨ch, r, rfl⟩ := List.exists_cons_of_ne_nil hne
    have hv := valid_of_bare _ hq' ch List.mem_cons_self
    have hb := (hbare hq').2 ch List.mem_cons_self
    -- digits, marks and the minus sign are all invalid in a bare symbol
    have hcon {P : Prop} (h : P → invalidChar ch = true) : ¬ P :=
      fun hp => Bool.noConfusion ((h hp).symm.trans hv)
    exact ⟨ch, r, rfl, notSpace_of_valid ch hv hb.2.2.1 hb.2.2.2, hcon (· ▸ invalid_minus),
      Bool.eq_false_iff.mpr (hcon (invalid_of_digit ch)), hnl ch List.mem_cons_self,
      Bool.eq_false_iff.mpr (hcon (quant_invalid ch))⟩

/-- a quoted symbol: what parse_symbol returns once READ_INTO has stopped at the closing quote. -/
theorem parseSymbol_quoted (s body sym tail : Text) (h : skipWs s = '"' :: body)
    (hr : readQuoted Gen.symbolBufMax body = (sym, '"' :: tail)) (hne : sym ≠ []) :
    parseSymbol s = .ok (sym, tail) := by
  unfold parseSymbol
  simp only [h, List.drop_succ_cons, List.drop_zero, hr]
  have hq (t : Text) : startsQuote ('"' :: t) = true := rfl
  rw [hq, hq, if_pos rfl, if_pos rfl, if_neg hne]

/-- a bare symbol: what parse_symbol returns once its own loop has stopped. -/
theorem parseSymbol_bare (s t sym tail : Text) (h : skipWs s = t) (hq : startsQuote t = false)
    (hr : readBare Gen.symbolBufMax t = .ok (sym, tail)) (hne : sym ≠ [])
    (hres : isReserved sym = false) :
    parseSymbol s = .ok (sym, tail) := by
  unfold parseSymbol
  simp only [h, hq, hr]
  rw [if_neg Bool.false_ne_true, if_neg (not_or.mpr ⟨hne, ne_true_of_eq_false hres⟩)]

theorem parseSymbol_qualified (sp sym tail : Text) (hsp : ∀ c ∈ sp, isSpace c = true)
    (hok : SymOK sym) (ht : StopsAt (fun c => !invalidChar c) tail) :
    parseSymbol (sp ++ (qualified sym ++ tail)) = .ok (sym, tail) := by
  obtain ⟨ch, r, hqh, hsp0, _, _, _, _⟩ := qualified_head sym hok
  obtain ⟨hne, hlen, hnl, hquoted, hbare⟩ := hok
  have hskip : skipWs (sp ++ (qualified sym ++ tail)) = qualified sym ++ tail :=
    skipWs_spaces sp _ hsp (by rw [hqh]; exact .cons hsp0 _)
  by_cases hq : needsQuotes sym = true
  · have e : qualified sym ++ tail
        = '"' :: ((if Gen.symbolEscapesBackslashQuote then escapeSym sym else sym) ++ '"' :: tail) := by
      unfold qualified; rw [if_pos hq, List.cons_append, List.append_assoc]; rfl
    refine parseSymbol_quoted _ _ sym tail (hskip.trans e) ?_ hne
    -- where the printer does not escape, the guard leaves nothing to escape
    have hbody : (if Gen.symbolEscapesBackslashQuote then escapeSym sym else sym) = escapeSym sym := by
      cases hesc : Gen.symbolEscapesBackslashQuote with
      | true => rfl
      | false => exact (escapeSym_of_plain sym (hquoted hq hesc)).symm
    rw [hbody]
    exact readQuoted_escaped _ sym tail hnl hlen
  · have hq' : needsQuotes sym = false := Bool.eq_false_iff.mpr hq
    have e : qualified sym = sym := by unfold qualified; rw [if_neg hq]
    have hch := (hbare hq').2
    rw [e] at hskip hqh ⊢
    refine parseSymbol_bare _ _ sym tail hskip ?_
      (readBare_sym _ sym tail (fun c hc => ⟨valid_of_bare _ hq' c hc, (hch c hc).2.1⟩) hlen ht) hne
      (hbare hq').1
    rw [hqh, List.cons_append, startsQuote_cons,
      decide_eq_false (hch ch (hqh ▸ List.mem_cons_self)).1]

/-- With the repaired source every symbol without newline (and, bare, without vertical tab /
    form feed) within the buffer is protected: reserved words and symbols with `"` or `\\` included. -/
theorem symOK_of_protected (hr : Gen.symbolQuotesReserved = true) (hb : Gen.symbolQuotesBackslashQuote = true)
    (he : Gen.symbolEscapesBackslashQuote = true) (sym : Text) (hne : sym ≠ [])
    (hlen : sym.length ≤ Gen.symbolBufMax)
    (hc : ∀ c ∈ sym, c ≠ '\n' ∧ c.toNat ≠ 11 ∧ c.toNat ≠ 12) : SymOK sym := by
  refine ⟨hne, hlen, fun c h => (hc c h).1, ?_, ?_⟩
  · intro _ h; rw [he] at h; cases h
  · intro hq
    unfold needsQuotes at hq
    simp only [hr, hb, Bool.true_and, Bool.or_eq_false_iff] at hq
    refine ⟨hq.2, fun c h => ?_⟩
    have := List.any_eq_false.mp hq.1.2 c h
    simp only [Bool.or_eq_true, decide_eq_true_eq, not_or] at this
    exact ⟨this.2, this.1, (hc c h).2.1, (hc c h).2.2⟩

theorem qualified_nil : qualified [] = [] := by decide +kernel

theorem spOf_spaces (b : Bool) : ∀ c ∈ spOf b, isSpace c = true := by
  cases b
  · exact fun _ h => nomatch h
  · exact fun c hc => List.mem_singleton.mp hc ▸ rfl

/-- A number first: optional `-`, then a text that parse_quantity takes whole.  The sign is taken
    by amount_t::parse itself, the quantity is read unsigned. -/
theorem parseAmount_number_first (dcOf : Text → Bool) (neg : Bool) (body T : Text)
    (hb : QuantBody body) (hlen : body.length ≤ Gen.quantityBufMax) (hT : StopsAt isQuantChar T) :
    parseAmount dcOf ((if neg then ['-'] else []) ++ (body ++ T)) = afterQuantity dcOf neg body T := by
  have hPQ := parseQuantity_body [] false body T (fun _ h => nomatch h) hb hlen hT
  rw [List.nil_append, if_neg Bool.false_ne_true, List.nil_append, List.nil_append] at hPQ
  have hB0 := skipWs_of_head _ (hb.stopsAt_space T)
  -- the sign is taken, and the blanks after it skipped, before the quantity is read
  generalize hX : (if neg then ['-'] else []) ++ (body ++ T) = X
  have hs : skipWs X = X ∧ startsMinus X = neg ∧ (if neg then skipWs (X.drop 1) else X) = body ++ T := by
    subst hX
    cases neg with
    | false => exact ⟨hB0, hb.startsMinus T, rfl⟩
    | true => exact ⟨skipWs_of_head _ (.cons (p := isSpace) rfl _), rfl, hB0⟩
  unfold parseAmount
  simp only [hs.1, hs.2.1, hs.2.2, hb.startsDigit T, if_true, hPQ]
  cases T <;> rfl

theorem parseAmount_symbol_first (dcOf : Text → Bool) (s sym rest : Text)
    (h0 : StopsAt isSpace s) (hm : startsMinus s = false) (hd : startsDigit s = false)
    (hPS : parseSymbol s = .ok (sym, rest)) :
    parseAmount dcOf s = afterSymbol dcOf false sym rest := by
  unfold parseAmount
  simp only [skipWs_of_head s h0, hm, Bool.false_eq_true, if_false, hd, hPS]
  cases rest <;> rfl

theorem parse_plain (dcOf : Text → Bool) (n : Num) (thou dc : Bool) (hn : n.Digits)
    (hG : dcOf [] = dc ∨ (dcOf [] = false ∧ n.frac.length % 3 ≠ 0))
    (hlen : (n.render thou dc).length ≤ Gen.quantityBufMax) :
    parseAmount dcOf (n.render thou dc) =
      .ok { q := n.val, prec := n.frac.length, sym := [],
            flags := { thousands := thou && decide (n.int.length ≥ 4), decimalComma := dc },
            rest := [] } := by
  rw [render_sgn, List.length_append] at hlen
  rw [render_sgn, ← List.append_nil (Num.render _ thou dc),
    parseAmount_number_first dcOf n.neg _ [] (render_body n thou dc hn)
      (Nat.le_trans (Nat.le_add_left _ _) hlen) (.inl rfl)]
  exact finish_render { n with neg := false } thou dc (dcOf []) n.neg [] {} [] ⟨hn.1, hn.2, hn.3⟩ hG

/-- what follows the number in suffix position: optional space, then the printed symbol. -/
theorem suffix_tail (sep : Bool) (sym tail : Text) (hok : SymOK sym) :
    ∃ n r, spOf sep ++ (qualified sym ++ tail) = n :: r ∧ n ≠ '\n' ∧ isSpace n = sep ∧ isQuantChar n = false := by
  obtain ⟨ch, r, hqh, hsp0, _, _, hnl, hqc⟩ := qualified_head sym hok
  cases sep with
  | true => exact ⟨' ', qualified sym ++ tail, rfl, by decide, by decide, by decide⟩
  | false => exact ⟨ch, r ++ tail, by rw [hqh]; rfl, hnl, hsp0, hqc⟩

theorem parse_suffix (dcOf : Text → Bool) (n : Num) (thou dc sep : Bool) (sym tail : Text)
    (hn : n.Digits) (hok : SymOK sym)
    (hG : dcOf sym = dc ∨ (dcOf sym = false ∧ n.frac.length % 3 ≠ 0))
    (hlen : (n.render thou dc).length ≤ Gen.quantityBufMax)
    (ht : StopsAt (fun c => !invalidChar c) tail) :
    parseAmount dcOf (n.render thou dc ++ (spOf sep ++ (qualified sym ++ tail))) =
      .ok { q := n.val, prec := n.frac.length, sym := sym,
            flags := { suffixed := true, separated := sep,
                       thousands := thou && decide (n.int.length ≥ 4), decimalComma := dc },
            rest := tail } := by
  obtain ⟨c, r, hT, hnl, hnsp, hnq⟩ := suffix_tail sep sym tail hok
  have hPS := parseSymbol_qualified (spOf sep) sym tail (spOf_spaces sep) hok ht
  rw [render_sgn, List.length_append] at hlen
  rw [render_sgn, List.append_assoc,
    parseAmount_number_first dcOf n.neg _ _ (render_body n thou dc hn)
      (Nat.le_trans (Nat.le_add_left _ _) hlen) (by rw [hT]; exact .cons hnq r)]
  rw [hT] at hPS ⊢
  rw [afterQuantity, if_neg hnl, hPS]
  show finish (dcOf sym) n.neg _ sym { separated := isSpace c, suffixed := decide (sym ≠ []) } tail = _
  rw [finish_render { n with neg := false } thou dc (dcOf sym) n.neg sym _ tail ⟨hn.1, hn.2, hn.3⟩ hG,
    hnsp, decide_eq_true hok.1]
  rfl

/-- what follows the symbol in prefix position: optional space, then the number. -/
theorem prefix_tail (sep : Bool) (n : Num) (thou dc : Bool) (tail : Text) (hn : n.Digits) :
    ∃ c r, spOf sep ++ (n.render thou dc ++ tail) = c :: r ∧ c ≠ '\n' ∧ isSpace c = sep ∧
      invalidChar c = true := by
  obtain ⟨bh, br, hBh, hbhd⟩ := (render_body n thou dc hn).first
  cases sep with
  | true => exact ⟨' ', _, rfl, by decide, by decide, invalid_space⟩
  | false =>
    rw [render_sgn]
    cases n.neg with
    | false =>
      refine ⟨bh, br ++ tail, by rw [hBh]; rfl, ?_, digit_not_space hbhd, invalid_of_digit bh hbhd⟩
      intro e; subst e; revert hbhd; decide
    | true => exact ⟨'-', _, rfl, by decide, by decide, invalid_minus⟩

theorem parse_prefix (dcOf : Text → Bool) (n : Num) (thou dc sep : Bool) (sym tail : Text)
    (hn : n.Digits) (hok : SymOK sym)
    (hG : dcOf sym = dc ∨ (dcOf sym = false ∧ n.frac.length % 3 ≠ 0))
    (hlen : (n.render thou dc).length ≤ Gen.quantityBufMax)
    (ht : StopsAt isQuantChar tail) :
    parseAmount dcOf (qualified sym ++ (spOf sep ++ (n.render thou dc ++ tail))) =
      .ok { q := n.val, prec := n.frac.length, sym := sym,
            flags := { suffixed := false, separated := sep,
                       thousands := thou && decide (n.int.length ≥ 4), decimalComma := dc },
            rest := tail } := by
  obtain ⟨ch, qr, hqh, hchsp, hchm, hchd, _, _⟩ := qualified_head sym hok
  obtain ⟨c, r, hT, hnl, hnsp, hninv⟩ := prefix_tail sep n thou dc tail hn
  have hPS := parseSymbol_qualified [] sym (spOf sep ++ (n.render thou dc ++ tail))
    (fun _ h => nomatch h) hok
    (by rw [hT]; exact .cons (p := fun c => !invalidChar c) (by show (!invalidChar c) = false; rw [hninv]; rfl) r)
  rw [List.nil_append] at hPS
  rw [render_sgn] at hlen
  have hPQ := parseQuantity_body (spOf sep) n.neg _ tail (spOf_spaces sep) (render_body n thou dc hn) hlen ht
  rw [← List.append_assoc _ _ tail, ← render_sgn] at hPQ
  rw [parseAmount_symbol_first dcOf _ sym _ (by rw [hqh]; exact .cons hchsp _)
    (by rw [hqh, List.cons_append, startsMinus_cons, decide_eq_false hchm])
    (by rw [hqh]; exact hchd) hPS, hT, afterSymbol, if_neg hnl, ← hT, hPQ]
  show finish (dcOf sym) false _ sym { separated := isSpace c } tail = _
  rw [finish_render n thou dc (dcOf sym) false sym _ tail hn hG, hnsp]
  rfl

theorem printAmount_eq (dcDefault : Bool) (sym : Text) (ci : CommInfo) (q : Rat) (amtPrec : Nat)
    (keep : Bool) (hne : sym ≠ []) :
    printAmount dcDefault sym ci q amtPrec keep =
      (if ci.style.suffixed then
        (printedNum ci q amtPrec keep).render ci.style.thousands (dcDefault || ci.style.decimalComma)
          ++ (spOf ci.style.separated ++ qualified sym)
      else qualified sym ++ (spOf ci.style.separated ++
        (printedNum ci q amtPrec keep).render ci.style.thousands (dcDefault || ci.style.decimalComma))) := by
  unfold printAmount printedNum spOf
  simp only [hne, ne_eq, not_false_eq_true, decide_true, if_true]
  cases ci.style.suffixed
  · exact List.append_assoc _ _ _
  · exact List.append_assoc _ _ _

/-- without commodity: the bare number, no flags, no minimum of decimals. -/
theorem printAmount_nil (dc : Bool) (ci : CommInfo) (q : Rat) (p : Nat) (keep : Bool) :
    printAmount dc [] ci q p keep = (fmtNum q p (some 0)).render false dc := by
  unfold printAmount
  simp [displayPrec, qualified_nil]

theorem parse_print_main (dcDefault : Bool) (sym : Text) (ci : CommInfo) (q : Rat) (amtPrec : Nat)
    (keep : Bool) (dcOf : Text → Bool) (tail : Text)
    (hsym : SymOK sym)
    (hlen : ((printedNum ci q amtPrec keep).render ci.style.thousands
              (dcDefault || ci.style.decimalComma)).length ≤ Gen.quantityBufMax)
    (hG : dcOf sym = (dcDefault || ci.style.decimalComma) ∨
          (dcOf sym = false ∧ (printedNum ci q amtPrec keep).frac.length % 3 ≠ 0))
    (ht : TailOK tail) :
    parseAmount dcOf (printAmount dcDefault sym ci q amtPrec keep ++ tail) =
      .ok { q := Amount.roundTo q (displayPrec true ci.prec amtPrec keep),
            prec := (printedNum ci q amtPrec keep).frac.length,
            sym := sym,
            flags := learnedStyle ci.style (dcDefault || ci.style.decimalComma) (printedNum ci q amtPrec keep),
            rest := tail } := by
  have hn := fmtNum_digits q (displayPrec true ci.prec amtPrec keep) (some ci.prec)
  have ht1 : StopsAt (fun c => !invalidChar c) tail := by
    rcases ht with h | ⟨c, r, h, h1, _⟩
    · exact Or.inl h
    · exact Or.inr ⟨c, r, h, by simp [h1]⟩
  have ht2 : StopsAt isQuantChar tail := by
    rcases ht with h | ⟨c, r, h, _, h2⟩
    · exact Or.inl h
    · exact Or.inr ⟨c, r, h, h2⟩
  rw [printAmount_eq _ _ _ _ _ _ hsym.1, ← fmtNum_val q _ (some ci.prec)]
  unfold learnedStyle
  cases hsuf : ci.style.suffixed with
  | true =>
    rw [if_pos rfl, List.append_assoc, List.append_assoc]
    exact parse_suffix dcOf _ _ _ _ sym tail hn hsym hG hlen ht1
  | false =>
    rw [if_neg Bool.false_ne_true, List.append_assoc, List.append_assoc]
    exact parse_prefix dcOf _ _ _ _ sym tail hn hsym hG hlen ht2

/-- on digit strings the character test of is_zero (`0`, `.`, `-` only) says that all digits are `0`. -/
theorem plain_all_zero_iff (n : Num) (hn : n.Digits) :
    n.plain.all (fun c => c = '0' || c = '.' || c = '-') = true ↔
      (∀ c ∈ n.int, c = '0') ∧ ∀ c ∈ n.frac, c = '0' := by
  have hdig {c : Char} (hd : isDigit c = true) (ht : (c = '0' || c = '.' || c = '-') = true) : c = '0' := by
    simp only [Bool.or_eq_true, decide_eq_true_eq] at ht
    rcases ht with (h | h) | h
    · exact h
    · exact absurd h (isSep_false_iff.mp (isDigit_not_sep hd)).2
    · exact absurd h (digit_not_minus hd)
  rw [List.all_eq_true]
  unfold Num.plain
  constructor
  · intro hall
    refine ⟨fun c hc => hdig (hn.int c hc) (hall c ?_), fun c hc => hdig (hn.frac c hc) (hall c ?_)⟩
    · exact List.mem_append_left _ (List.mem_append_right _ hc)
    · rw [if_neg (List.ne_nil_of_mem hc)]
      exact List.mem_append_right _ (List.mem_cons_of_mem _ hc)
  · intro ⟨h1, h2⟩ c hc
    rcases List.mem_append.mp hc with hc | hc
    · rcases List.mem_append.mp hc with hc | hc
      · split at hc
        · rw [List.mem_singleton.mp hc]; rfl
        · exact nomatch hc
      · rw [h1 c hc]; rfl
    · split at hc
      · exact nomatch hc
      · rcases List.mem_cons.mp hc with hc | hc
        · rw [hc]; rfl
        · rw [h2 c hc]; rfl

theorem fmtNum_plain_zero_iff (q : Rat) (p : Nat) :
    (fmtNum q p none).plain.all (fun c => c = '0' || c = '.' || c = '-') = true ↔
      Amount.roundUnits q p = 0 := by
  have hn := fmtNum_digits q p none
  rw [plain_all_zero_iff _ hn, ← decVal_eq_zero_iff _ hn.int, ← decVal_eq_zero_iff _ hn.frac]
  show decVal (intDigits ((Amount.roundUnits q p).natAbs / 10 ^ p)) = 0 ∧
    decVal (fracDigits ((Amount.roundUnits q p).natAbs % 10 ^ p) p) = 0 ↔ _
  rw [decVal_intDigits, decVal_fracDigits, Nat.mod_mod, ← Int.natAbs_eq_zero]
  constructor
  · intro ⟨h1, h2⟩
    rw [← Nat.div_add_mod' (Amount.roundUnits q p).natAbs (10 ^ p), h1, h2, Nat.zero_mul]
  · intro h
    rw [h, Nat.zero_div, Nat.zero_mod]
    exact ⟨rfl, rfl⟩

theorem isZeroAmt_exact (hasComm : Bool) (cp : Nat) (q : Rat) (ap : Nat) (keep : Bool)
    (h : hasComm = false ∨ keep = true ∨ ap ≤ cp) :
    isZeroAmt hasComm cp q ap keep = decide (q = 0) := by
  unfold isZeroAmt
  cases hasComm with
  | false => rfl
  | true => rw [if_pos rfl, if_pos (h.resolve_left Bool.noConfusion)]

/-- With more decimals than the commodity displays, is_zero is "rounds to zero at the display
    precision": the shortcuts for zero and for values above one agree with the printed test. -/
theorem isZeroAmt_eq (cp : Nat) (q : Rat) (ap : Nat) (hlt : cp < ap) :
    isZeroAmt true cp q ap false = decide (Amount.roundUnits q cp = 0) := by
  unfold isZeroAmt
  rw [if_pos rfl, if_neg (not_or.mpr ⟨Bool.false_ne_true, Nat.not_le.mpr hlt⟩)]
  by_cases hq : q = 0
  · rw [if_pos hq, hq, (roundTo_eq_zero_iff 0 cp).mp (roundTo_zero cp)]
    rfl
  · rw [if_neg hq]
    by_cases hgt : q.num > (q.den : Int)
    · rw [if_pos hgt, decide_eq_false (Int.ne_of_gt (roundUnits_pos_of_gt_one q cp hgt))]
    · rw [if_neg hgt, Bool.eq_iff_iff, fmtNum_plain_zero_iff, decide_eq_true_iff]

theorem isZeroAmt_sound (hasComm : Bool) (cp : Nat) (q : Rat) (ap : Nat) (keep : Bool)
    (h : isZeroAmt hasComm cp q ap keep = true) :
    Amount.roundTo q (displayPrec hasComm cp ap keep) = 0 := by
  by_cases hx : hasComm = false ∨ keep = true ∨ ap ≤ cp
  · rw [isZeroAmt_exact _ _ _ _ _ hx, decide_eq_true_iff] at h
    rw [h]
    exact roundTo_zero _
  · obtain ⟨hc, hk, hlt⟩ := not_or.mp hx |>.imp id not_or.mp
    rw [Bool.not_eq_false] at hc
    rw [Bool.not_eq_true] at hk
    subst hc hk
    rw [isZeroAmt_eq cp q ap (Nat.not_le.mp hlt), decide_eq_true_iff] at h
    exact (roundTo_eq_zero_iff q cp).mpr h

theorem migrate_of_noMigrate (c : CommInfo) (p : Parsed) (h : c.noMigrate = true) : migrate c p = c := by
  unfold migrate
  rw [if_pos h]

theorem migrate_of_migrating (c : CommInfo) (p : Parsed) (h : c.noMigrate = false) :
    migrate c p = { c with style := c.style.union p.flags, prec := max c.prec p.prec } := by
  unfold migrate
  rw [if_neg (ne_true_of_eq_false h)]

/-- style and precision are learned independently: the union of all flags, the largest precision. -/
theorem learnAll_eq (c : CommInfo) (ps : List Parsed) (h : c.noMigrate = false) :
    learnAll c ps = { c with style := ps.foldl (fun s p => s.union p.flags) c.style,
                             prec := ps.foldl (fun m p => max m p.prec) c.prec } := by
  induction ps generalizing c with
  | nil => rfl
  | cons p ps ih =>
    exact (congrArg (learnAll · ps) (migrate_of_migrating c p h)).trans (ih _ h)

theorem foldl_max_prec (m : Nat) (ps : List Parsed) :
    m ≤ ps.foldl (fun m p => max m p.prec) m ∧
    (∀ p ∈ ps, p.prec ≤ ps.foldl (fun m p => max m p.prec) m) ∧
    (ps.foldl (fun m p => max m p.prec) m = m ∨ ∃ p ∈ ps, ps.foldl (fun m p => max m p.prec) m = p.prec) := by
  induction ps generalizing m with
  | nil => exact ⟨Nat.le_refl m, fun _ h => (nomatch h), .inl rfl⟩
  | cons p ps ih =>
    obtain ⟨h1, h2, h3⟩ := ih (max m p.prec)
    refine ⟨Nat.le_trans (Nat.le_max_left _ _) h1, fun x hx => ?_, ?_⟩
    · rcases List.mem_cons.mp hx with rfl | hx
      · exact Nat.le_trans (Nat.le_max_right _ _) h1
      · exact h2 x hx
    · rcases h3 with h3 | ⟨x, hx, h3⟩
      · rcases Nat.le_total p.prec m with hle | hle
        · exact .inl (h3.trans (Nat.max_eq_left hle))
        · exact .inr ⟨p, List.mem_cons_self, h3.trans (Nat.max_eq_right hle)⟩
      · exact .inr ⟨x, List.mem_cons_of_mem p hx, h3⟩

theorem migrate_eq_self (c : CommInfo) (p : Parsed) (hf : c.style.union p.flags = c.style)
    (hp : p.prec ≤ c.prec) : migrate c p = c := by
  cases h : c.noMigrate with
  | true => exact migrate_of_noMigrate c p h
  | false => rw [migrate_of_migrating c p h, hf, Nat.max_eq_left hp]

/-- the flags read off a commodity's own output are flags it already has. -/
theorem Style.union_learnedStyle (st : Style) (dc : Bool) (n : Num)
    (h : dc = true → st.decimalComma = true) : st.union (learnedStyle st dc n) = st := by
  cases st with
  | mk a b c d =>
    have h1 : (c || (c && decide (n.int.length ≥ 4))) = c := by cases c <;> rfl
    have h2 : (d || dc) = d := by
      cases dc
      · exact Bool.or_false d
      · rw [show d = true from h rfl]; rfl
    show Style.mk (a || a) (b || b) (c || (c && decide (n.int.length ≥ 4))) (d || dc) = _
    rw [Bool.or_self, Bool.or_self, h1, h2]

end Ledger.AmountText
