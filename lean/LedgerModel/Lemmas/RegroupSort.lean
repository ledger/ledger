/-
Helper lemmas behind Props/C17 (sorting part).  In file order: strict weak
orders on the members of a list (`SWOOn`); member-restricted versions of
core's merge sort theorems; `sortBy` is ordered, stable and the unique stable
arrangement (`sortBy_unique`); the strict-weak-order algebra of
sort_value_is_less_than (`lexStep_swo`, `postLess_swo`); strict weak orders
from key orders (`SWOOn.of_key`) for the date, payee and account keys; the
amount key after `.simplified()` (`amtKey`, `lt_amtKey_num`,
`lt_amtKey_mixed`) under `OneCommodity` or `AllCommoditised`; and soundness of
the decidable guards of Model/RegroupGuard (`oneCommodity_of_guard`,
`allCommoditised_of_guard`).
-/
import LedgerModel.Model.Regroup
import LedgerModel.Model.RegroupGuard
import LedgerModel.Lemmas.Value

namespace Ledger
namespace Regroup

open List

/-- `less` is a strict weak order on the members of `l`: asymmetric and
    negatively transitive (incomparability is then an equivalence and `less`
    is transitive). -/
structure SWOOn {α : Type} (less : α → α → Bool) (l : List α) : Prop where
  asymm : ∀ a ∈ l, ∀ b ∈ l, less a b = true → less b a = false
  negTrans : ∀ a ∈ l, ∀ b ∈ l, ∀ c ∈ l, less a b = false → less b c = false → less a c = false

theorem SWOOn.irrefl {α : Type} {less : α → α → Bool} {l : List α} (h : SWOOn less l)
    (a : α) (ha : a ∈ l) : less a a = false := by
  cases hl : less a a with
  | false => rfl
  | true => have := h.asymm a ha a ha hl; simp [hl] at this

theorem SWOOn.mono {α : Type} {less : α → α → Bool} {l l' : List α} (h : SWOOn less l)
    (hs : ∀ a ∈ l', a ∈ l) : SWOOn less l' :=
  ⟨fun a ha b hb => h.asymm a (hs a ha) b (hs b hb),
   fun a ha b hb c hc => h.negTrans a (hs a ha) b (hs b hb) c (hs c hc)⟩

/-- sorting `l.attach` instead of `l`: core's theorems want their hypotheses for all elements of the type, and
    on `{x // x ∈ l}` those are hypotheses on the members only -/
theorem mergeSort_attach {α : Type} (l : List α) (le : α → α → Bool) :
    (l.attach.mergeSort (fun a b => le a.1 b.1)).map Subtype.val = l.mergeSort le := by
  have h := List.map_mergeSort (r := fun (a b : {x // x ∈ l}) => le a.1 b.1) (s := le)
    (f := Subtype.val) (l := l.attach) (by intros; rfl)
  rw [h, List.attach_map_subtype_val]

theorem pairwise_mergeSort_mem {α : Type} (le : α → α → Bool) (l : List α)
    (trans : ∀ a ∈ l, ∀ b ∈ l, ∀ c ∈ l, le a b = true → le b c = true → le a c = true)
    (total : ∀ a ∈ l, ∀ b ∈ l, (le a b || le b a) = true) :
    (l.mergeSort le).Pairwise (fun a b => le a b = true) := by
  rw [← mergeSort_attach]
  apply List.Pairwise.map Subtype.val (R := fun (a b : {x // x ∈ l}) => le a.1 b.1 = true)
  · intro a b h; exact h
  · exact List.pairwise_mergeSort (le := fun (a b : {x // x ∈ l}) => le a.1 b.1)
      (fun a b c => trans a.1 a.2 b.1 b.2 c.1 c.2) (fun a b => total a.1 a.2 b.1 b.2) l.attach

theorem pair_sublist_mergeSort_mem {α : Type} (le : α → α → Bool) (l : List α)
    (trans : ∀ a ∈ l, ∀ b ∈ l, ∀ c ∈ l, le a b = true → le b c = true → le a c = true)
    (total : ∀ a ∈ l, ∀ b ∈ l, (le a b || le b a) = true)
    {a b : α} (hab : le a b = true) (h : [a, b] <+ l) : [a, b] <+ l.mergeSort le := by
  rw [← mergeSort_attach]
  rw [← List.attach_map_subtype_val l] at h
  obtain ⟨l', hl', heq⟩ := List.sublist_map_iff.mp h
  -- `l'` has two members, which are `a` and `b` with their membership proofs
  rcases l' with _ | ⟨a', _ | ⟨b', _ | ⟨c', t⟩⟩⟩ <;> cases heq
  exact (List.pair_sublist_mergeSort (le := fun (a b : {x // x ∈ l}) => le a.1 b.1)
    (fun a b c => trans a.1 a.2 b.1 b.2 c.1 c.2) (fun a b => total a.1 a.2 b.1 b.2) hab hl').map Subtype.val

theorem sortBy_perm {α : Type} (less : α → α → Bool) (l : List α) : (sortBy less l).Perm l :=
  List.mergeSort_perm _ _

private theorem le_trans_of_swo {α : Type} {less : α → α → Bool} {l : List α} (h : SWOOn less l) :
    ∀ a ∈ l, ∀ b ∈ l, ∀ c ∈ l, (!less b a) = true → (!less c b) = true → (!less c a) = true := by
  intro a ha b hb c hc h1 h2
  simp only [Bool.not_eq_true'] at h1 h2 ⊢
  exact h.negTrans c hc b hb a ha h2 h1

private theorem le_total_of_swo {α : Type} {less : α → α → Bool} {l : List α} (h : SWOOn less l) :
    ∀ a ∈ l, ∀ b ∈ l, ((!less b a) || (!less a b)) = true := by
  intro a ha b hb
  cases hba : less b a with
  | false => simp
  | true => simp [h.asymm b hb a ha hba]

theorem sortBy_pairwise {α : Type} {less : α → α → Bool} {l : List α} (h : SWOOn less l) :
    (sortBy less l).Pairwise (fun a b => less b a = false) := by
  have := pairwise_mergeSort_mem (fun a b => !less b a) l (le_trans_of_swo h) (le_total_of_swo h)
  exact this.imp (by intro a b hab; simpa using hab)

theorem sortBy_stable {α : Type} {less : α → α → Bool} {l : List α} (h : SWOOn less l)
    {a b : α} (hba : less b a = false) (hs : [a, b] <+ l) : [a, b] <+ sortBy less l :=
  pair_sublist_mergeSort_mem (fun a b => !less b a) l (le_trans_of_swo h) (le_total_of_swo h)
    (by simp [hba]) hs

/-- `x` may stand in front of `y` in a stable arrangement by `less`: `y` is not
    strictly less than `x`, and if they tie, `x` had the smaller input position. -/
def MayPrecede {α : Type} (less : α → α → Bool) (x y : α × Nat) : Prop :=
  less y.1 x.1 = false ∧ (less x.1 y.1 = false → x.2 ≤ y.2)

theorem zipIdxLE_iff_mayPrecede {α : Type} (less : α → α → Bool) (x y : α × Nat) :
    List.zipIdxLE (fun a b => !less b a) x y = true ↔ MayPrecede less x y := by
  unfold List.zipIdxLE MayPrecede
  cases h1 : less y.1 x.1 <;> cases h2 : less x.1 y.1 <;> simp [h1, h2]

theorem fst_mem_of_mem_zipIdx {α : Type} {l : List α} {x : α × Nat} (h : x ∈ l.zipIdx) : x.1 ∈ l := by
  have := List.mem_zipIdx_iff_getElem?.mp h
  exact List.mem_of_getElem? this

theorem mergeSort_zipIdx_pairwise {α : Type} {less : α → α → Bool} {l : List α} (h : SWOOn less l) :
    (l.zipIdx.mergeSort (List.zipIdxLE (fun a b => !less b a))).Pairwise (MayPrecede less) := by
  have := pairwise_mergeSort_mem (List.zipIdxLE (fun a b => !less b a)) l.zipIdx
    (by
      intro a ha b hb c hc hab hbc
      rw [zipIdxLE_iff_mayPrecede] at hab hbc ⊢
      have ma := fst_mem_of_mem_zipIdx ha
      have mb := fst_mem_of_mem_zipIdx hb
      have mc := fst_mem_of_mem_zipIdx hc
      obtain ⟨h1, h2⟩ := hab
      obtain ⟨h3, h4⟩ := hbc
      refine ⟨h.negTrans c.1 mc b.1 mb a.1 ma h3 h1, ?_⟩
      intro hac
      -- a ~ c; then a ~ b and b ~ c
      have hab' : less a.1 b.1 = false := by
        cases hx : less a.1 b.1 with
        | false => rfl
        | true =>
          have := h.negTrans a.1 ma c.1 mc b.1 mb hac h3
          simp [hx] at this
      have hbc' : less b.1 c.1 = false := by
        cases hx : less b.1 c.1 with
        | false => rfl
        | true =>
          have := h.negTrans b.1 mb a.1 ma c.1 mc h1 hac
          simp [hx] at this
      exact Nat.le_trans (h2 hab') (h4 hbc'))
    (by
      intro a ha b hb
      have ma := fst_mem_of_mem_zipIdx ha
      have mb := fst_mem_of_mem_zipIdx hb
      rw [Bool.or_eq_true, zipIdxLE_iff_mayPrecede, zipIdxLE_iff_mayPrecede]
      cases h1 : less b.1 a.1 with
      | true => exact .inr ⟨h.asymm b.1 mb a.1 ma h1, fun h2 => nomatch h1.symm.trans h2⟩
      | false =>
        cases h2 : less a.1 b.1 with
        | true => exact .inl ⟨h1, fun h3 => nomatch h2.symm.trans h3⟩
        | false =>
          -- a tie: the positions decide
          rcases Nat.le_total a.2 b.2 with hle | hle
          · exact .inl ⟨h1, fun _ => hle⟩
          · exact .inr ⟨h2, fun _ => hle⟩)
  exact this.imp (fun hab => (zipIdxLE_iff_mayPrecede less _ _).mp hab)

/-- Uniqueness of the stable arrangement: whatever algorithm produced `m`, if it
    is a rearrangement of the position-tagged input in which every element may
    precede all later ones, it is the model's output. -/
theorem sortBy_unique {α : Type} {less : α → α → Bool} {l : List α} (h : SWOOn less l)
    (m : List (α × Nat)) (hp : m.Perm l.zipIdx) (hm : m.Pairwise (MayPrecede less)) :
    m.map (·.1) = sortBy less l := by
  unfold sortBy
  rw [← List.mergeSort_zipIdx]
  congr 1
  have hS := mergeSort_zipIdx_pairwise h
  have hpS : (l.zipIdx.mergeSort (List.zipIdxLE (fun a b => !less b a))).Perm l.zipIdx := List.mergeSort_perm _ _
  refine List.Perm.eq_of_pairwise (le := MayPrecede less) ?_ hm hS (hp.trans hpS.symm)
  intro x y hx hy hxy hyx
  have mx : x ∈ l.zipIdx := hp.subset hx
  have my : y ∈ l.zipIdx := hpS.subset hy
  -- they tie, so their input positions agree, and a position holds one element
  have hpos : x.2 = y.2 := Nat.le_antisymm (hxy.2 hyx.1) (hyx.2 hxy.1)
  have h1 := List.mem_zipIdx_iff_getElem?.mp mx
  have h2 := List.mem_zipIdx_iff_getElem?.mp my
  rw [hpos, h2] at h1
  exact Prod.ext (Option.some.inj h1).symm hpos

theorem SWOOn.const_false {α : Type} (l : List α) : SWOOn (fun (_ _ : α) => false) l :=
  ⟨fun _ _ _ _ h => by simp at h, fun _ _ _ _ _ _ _ _ => rfl⟩

theorem SWOOn.flip {α : Type} {lt : α → α → Bool} {l : List α} (h : SWOOn lt l) :
    SWOOn (fun a b => lt b a) l :=
  ⟨fun a ha b hb hab => h.asymm b hb a ha hab,
   fun a ha b hb c hc h1 h2 => h.negTrans c hc b hb a ha h2 h1⟩

/-- one position of sort_value_is_less_than: decide by this key (reversed when
    `inv`), fall through to the later keys on a tie. -/
def lexStep {α : Type} (lt1 : α → α → Bool) (inv : Bool) (rest : α → α → Bool) (a b : α) : Bool :=
  if lt1 a b then !inv else if lt1 b a then inv else rest a b

theorem lexStep_inv {α : Type} {lt1 : α → α → Bool} {l : List α} (h1 : SWOOn lt1 l)
    (rest : α → α → Bool) (a b : α) (ha : a ∈ l) (hb : b ∈ l) :
    lexStep lt1 true rest a b = lexStep (fun a b => lt1 b a) false rest a b := by
  unfold lexStep
  have := h1.asymm a ha b hb
  have := h1.asymm b hb a ha
  cases h : lt1 a b <;> cases h' : lt1 b a <;> simp_all

theorem lexStep_false_iff {α : Type} (lt1 rest : α → α → Bool) (a b : α) :
    lexStep lt1 false rest a b = false ↔ lt1 a b = false ∧ (lt1 b a = true ∨ rest a b = false) := by
  unfold lexStep
  cases lt1 a b <;> cases lt1 b a <;> simp

theorem lexStep_swo_pos {α : Type} {lt1 rest : α → α → Bool} {l : List α}
    (h1 : SWOOn lt1 l) (h2 : SWOOn rest l) : SWOOn (lexStep lt1 false rest) l := by
  constructor
  · intro a ha b hb hab
    rw [lexStep_false_iff]
    unfold lexStep at hab
    cases h : lt1 a b with
    | true => exact ⟨h1.asymm a ha b hb h, Or.inl rfl⟩
    | false =>
      cases h' : lt1 b a with
      | true => simp [h, h'] at hab
      | false =>
        simp only [h, h', Bool.false_eq_true, if_false] at hab
        exact ⟨rfl, Or.inr (h2.asymm a ha b hb hab)⟩
  · intro a ha b hb c hc hab hbc
    rw [lexStep_false_iff] at hab hbc ⊢
    refine ⟨h1.negTrans a ha b hb c hc hab.1 hbc.1, ?_⟩
    -- if `c` is not below `a` under `lt1`, the three tie there and `rest` decides
    cases hca : lt1 c a with
    | true => exact Or.inl rfl
    | false =>
      have hba : lt1 b a = false := h1.negTrans b hb c hc a ha hbc.1 hca
      have hcb : lt1 c b = false := h1.negTrans c hc a ha b hb hca hab.1
      rw [hba] at hab
      rw [hcb] at hbc
      exact Or.inr (h2.negTrans a ha b hb c hc (hab.2.resolve_left (by simp)) (hbc.2.resolve_left (by simp)))

theorem lexStep_swo {α : Type} {lt1 rest : α → α → Bool} {l : List α} (inv : Bool)
    (h1 : SWOOn lt1 l) (h2 : SWOOn rest l) : SWOOn (lexStep lt1 inv rest) l := by
  cases inv with
  | false => exact lexStep_swo_pos h1 h2
  | true =>
    have h := lexStep_swo_pos (SWOOn.flip h1) h2
    constructor
    · intro a ha b hb
      rw [lexStep_inv h1 rest a b ha hb, lexStep_inv h1 rest b a hb ha]
      exact h.asymm a ha b hb
    · intro a ha b hb c hc
      rw [lexStep_inv h1 rest a b ha hb, lexStep_inv h1 rest b c hb hc, lexStep_inv h1 rest a c ha hc]
      exact h.negTrans a ha b hb c hc

/-- comparison of two postings by one key field -/
def fieldLt (k : KeyField) (a b : RPost) : Bool := svLt (keyVal k a) (keyVal k b)

theorem postLess_nil (a b : RPost) : postLess [] a b = false := by
  simp [postLess, sortVals, sortValueLess]

theorem postLess_cons (k : SortKey) (ks : List SortKey) (a b : RPost) :
    postLess (k :: ks) a b =
      if !(keyVal k.field a).isBal && !(keyVal k.field b).isBal then
        lexStep (fieldLt k.field) k.inverted (postLess ks) a b
      else postLess ks a b := by
  unfold postLess lexStep fieldLt sortVals
  simp only [List.map_cons, sortValueLess]

/-- a key field is usable on `l`: its comparison is a strict weak order on the
    members and none of them has a balance there. -/
def KeyOK (k : KeyField) (l : List RPost) : Prop :=
  SWOOn (fieldLt k) l ∧ ∀ p ∈ l, (keyVal k p).isBal = false

theorem postLess_swo (ks : List SortKey) (l : List RPost) (h : ∀ k ∈ ks, KeyOK k.field l) :
    SWOOn (postLess ks) l := by
  induction ks with
  | nil =>
    have : postLess [] = fun (_ _ : RPost) => false := by funext a b; exact postLess_nil a b
    rw [this]; exact SWOOn.const_false l
  | cons k ks ih =>
    have hk := h k (List.mem_cons_self)
    have ih' := ih (fun k' hk' => h k' (List.mem_cons_of_mem _ hk'))
    have hstep := lexStep_swo k.inverted hk.1 ih'
    have heq : ∀ a ∈ l, ∀ b ∈ l, postLess (k :: ks) a b = lexStep (fieldLt k.field) k.inverted (postLess ks) a b := by
      intro a ha b hb
      rw [postLess_cons, hk.2 a ha, hk.2 b hb]; simp
    constructor
    · intro a ha b hb
      rw [heq a ha b hb, heq b hb a ha]; exact hstep.asymm a ha b hb
    · intro a ha b hb c hc
      rw [heq a ha b hb, heq b hb c hc, heq a ha c hc]; exact hstep.negTrans a ha b hb c hc

/-- a comparison that is a strict weak order of keys is one of the items -/
theorem SWOOn.of_key {α κ : Type} (r : κ → κ → Prop) [DecidableRel r] (asymm : ∀ x y, r x y → ¬ r y x)
    (negTrans : ∀ x y z, ¬ r x y → ¬ r y z → ¬ r x z) (lt : α → α → Bool) (key : α → κ) (l : List α)
    (h : ∀ a ∈ l, ∀ b ∈ l, lt a b = decide (r (key a) (key b))) : SWOOn lt l := by
  constructor
  · intro a ha b hb; rw [h a ha b hb, h b hb a ha]
    simp only [decide_eq_true_eq, decide_eq_false_iff_not]
    exact asymm _ _
  · intro a ha b hb c hc; rw [h a ha b hb, h b hb c hc, h a ha c hc]
    simp only [decide_eq_false_iff_not]
    exact negTrans _ _ _

theorem SWOOn.of_string_key {α : Type} (lt : α → α → Bool) (key : α → String) (l : List α)
    (h : ∀ a ∈ l, ∀ b ∈ l, lt a b = decide (key a < key b)) : SWOOn lt l :=
  .of_key (· < ·) (fun _ _ => String.lt_asymm)
    (fun _ _ _ h1 h2 => String.not_lt.mpr (String.le_trans (String.not_lt.mp h2) (String.not_lt.mp h1))) lt key l h

/-- lexicographic order on (commodity symbol, quantity) -/
def lexLt (x y : String × Rat) : Prop := x.1 < y.1 ∨ (x.1 = y.1 ∧ x.2 < y.2)

instance (x y : String × Rat) : Decidable (lexLt x y) := by unfold lexLt; exact inferInstance

theorem lexLt_asymm {x y : String × Rat} (h : lexLt x y) : ¬ lexLt y x := by
  unfold lexLt at *
  rcases h with h | ⟨h1, h2⟩
  · rintro (h' | ⟨h1', _⟩)
    · exact String.lt_asymm h h'
    · rw [h1'] at h; exact String.lt_irrefl _ h
  · rintro (h' | ⟨_, h2'⟩)
    · rw [h1] at h'; exact String.lt_irrefl _ h'
    · exact Rat.not_lt.mpr (Rat.le_of_lt h2) h2'

theorem lexLt_negTrans {x y z : String × Rat} (h1 : ¬ lexLt x y) (h2 : ¬ lexLt y z) : ¬ lexLt x z := by
  unfold lexLt at *
  simp only [not_or, String.not_lt, not_and] at h1 h2
  rintro (h | ⟨he, hq⟩)
  · have : z.1 ≤ x.1 := String.le_trans h2.1 h1.1
    exact (String.not_lt.mpr this) h
  · have hyx : y.1 ≤ x.1 := h1.1
    have hxy : x.1 ≤ y.1 := by rw [he]; exact h2.1
    have e1 : x.1 = y.1 := String.le_antisymm hxy hyx
    have e2 : y.1 = z.1 := by rw [← e1]; exact he
    exact Rat.not_lt.mpr (Rat.le_trans (Rat.not_lt.mp (h2.2 e2)) (Rat.not_lt.mp (h1.2 e1))) hq

theorem keyOK_date (l : List RPost) : KeyOK .date l :=
  ⟨.of_key (· < ·) (fun _ _ => Int.lt_asymm) (fun _ _ _ h1 h2 => Int.not_lt.mpr (Int.le_trans (Int.not_lt.mp h2) (Int.not_lt.mp h1)))
    (fieldLt .date) (fun p => p.date) l
    (fun _ _ _ _ => rfl), fun _ _ => rfl⟩

theorem keyOK_payee (l : List RPost) : KeyOK .payee l :=
  ⟨SWOOn.of_string_key (fieldLt .payee) (fun p => p.payee) l (fun _ _ _ _ => rfl), fun _ _ => rfl⟩

theorem keyOK_account (l : List RPost) : KeyOK .account l :=
  ⟨SWOOn.of_string_key (fieldLt .account) (fun p => p.account) l (fun _ _ _ _ => rfl), fun _ _ => rfl⟩

/-- the key of a posting amount after `.simplified()`: a real zero is INTEGER 0. -/
def amtKey (a : Amount) : Value := if a.q = 0 then .int 0 else .amt a

theorem simplify_amt (a : Amount) : (Value.amt a).simplify = amtKey a := by
  unfold Value.simplify amtKey Value.isRealZero Amount.isRealZero
  by_cases h : a.q = 0 <;> simp [h]

theorem lt_amtKey_num (a b : Amount)
    (h : a.q = 0 ∨ b.q = 0 ∨ a.comm = b.comm ∨ a.comm = "" ∨ b.comm = "") :
    Value.lt (amtKey a) (amtKey b) = .ok (decide (a.q < b.q)) := by
  -- against INTEGER 0 the amount is compared with `Amount.ofInt 0`, whose quantity is 0
  unfold amtKey
  by_cases ha : a.q = 0 <;> by_cases hb : b.q = 0
  · rw [if_pos ha, if_pos hb, ha, hb]; rfl
  · rw [if_pos ha, if_neg hb, ha]
    exact Amount.cmp_map_gt (Amount.compat_ofInt b 0)
  · rw [if_neg ha, if_pos hb, hb]
    exact Amount.cmp_map_lt (Amount.compat_ofInt a 0)
  · rw [if_neg ha, if_neg hb]
    exact Value.lt_amt_amt (((h.resolve_left ha).resolve_left hb).imp_right
      (Or.imp Amount.not_hasComm_iff.mpr Amount.not_hasComm_iff.mpr))

theorem lt_amtKey_mixed (a b : Amount) (ha : a.q ≠ 0) (hb : b.q ≠ 0) (hca : a.comm ≠ "") (hcb : b.comm ≠ "")
    (hne : a.comm ≠ b.comm) :
    Value.lt (amtKey a) (amtKey b) = .ok (decide (a.comm < b.comm)) := by
  have hc : ¬ (a.comm = b.comm ∨ ¬ a.hasComm = true ∨ ¬ b.hasComm = true) := fun h =>
    h.elim hne (fun h => h.elim (fun h => hca (Amount.not_hasComm_iff.mp h)) (fun h => hcb (Amount.not_hasComm_iff.mp h)))
  rw [amtKey, amtKey, if_neg ha, if_neg hb]
  exact if_neg hc


theorem keyVal_amount (p : RPost) (x : Amount) (h : p.amount = .amt x) :
    keyVal .amount p = .num (amtKey x) := by
  simp [keyVal, Gen.Regroup.sortKeySimplified, h, simplify_amt]

theorem amtKey_not_bal (x : Amount) : (SortVal.num (amtKey x)).isBal = false := by
  unfold amtKey; split <;> rfl

/-- every posting amount is a single amount and all non-zero ones share the
    commodity `c` (or have none). -/
def OneCommodity (c : Comm) (l : List RPost) : Prop :=
  ∀ p ∈ l, ∃ x, p.amount = .amt x ∧ (x.q = 0 ∨ x.comm = c ∨ x.comm = "")

/-- every posting amount is a single non-zero amount with a commodity. -/
def AllCommoditised (l : List RPost) : Prop :=
  ∀ p ∈ l, ∃ x, p.amount = .amt x ∧ x.q ≠ 0 ∧ x.comm ≠ ""

/-- quantity of a posting amount -/
def amtQ (p : RPost) : Rat := match p.amount with
  | .amt x => x.q
  | _ => 0

def amtC (p : RPost) : String := match p.amount with
  | .amt x => x.comm
  | _ => ""

theorem fieldLt_amount_one {c : Comm} {l : List RPost} (h : OneCommodity c l) :
    ∀ a ∈ l, ∀ b ∈ l, fieldLt .amount a b = decide (amtQ a < amtQ b) := by
  intro a ha b hb
  obtain ⟨x, hx, hx'⟩ := h a ha
  obtain ⟨y, hy, hy'⟩ := h b hb
  unfold fieldLt
  rw [keyVal_amount a x hx, keyVal_amount b y hy]
  simp only [svLt, amtQ, hx, hy]
  -- a zero on either side, or both of commodity `c`, or one without a commodity
  have hd : x.q = 0 ∨ y.q = 0 ∨ x.comm = y.comm ∨ x.comm = "" ∨ y.comm = "" := by
    rcases hx' with h | h | h
    · exact .inl h
    · rcases hy' with h' | h' | h'
      · exact .inr (.inl h')
      · exact .inr (.inr (.inl (h.trans h'.symm)))
      · exact .inr (.inr (.inr (.inr h')))
    · exact .inr (.inr (.inr (.inl h)))
  rw [lt_amtKey_num x y hd]

theorem fieldLt_amount_mixed {l : List RPost} (h : AllCommoditised l) :
    ∀ a ∈ l, ∀ b ∈ l, fieldLt .amount a b = decide (lexLt (amtC a, amtQ a) (amtC b, amtQ b)) := by
  intro a ha b hb
  obtain ⟨x, hx, hxq, hxc⟩ := h a ha
  obtain ⟨y, hy, hyq, hyc⟩ := h b hb
  unfold fieldLt
  rw [keyVal_amount a x hx, keyVal_amount b y hy]
  simp only [svLt, amtQ, amtC, hx, hy, lexLt]
  by_cases hc : x.comm = y.comm
  · rw [lt_amtKey_num x y (.inr (.inr (.inl hc)))]
    simp [hc]
  · rw [lt_amtKey_mixed x y hxq hyq hxc hyc hc]
    simp [hc]

theorem keyOK_amount_one {c : Comm} {l : List RPost} (h : OneCommodity c l) : KeyOK .amount l :=
  ⟨.of_key (· < ·) (fun _ _ h => Rat.not_lt.mpr (Rat.le_of_lt h)) (fun _ _ _ h1 h2 => Rat.not_lt.mpr (Rat.le_trans (Rat.not_lt.mp h2) (Rat.not_lt.mp h1)))
      (fieldLt .amount) amtQ l (fieldLt_amount_one h),
   fun p hp => by obtain ⟨x, hx, _⟩ := h p hp; rw [keyVal_amount p x hx]; exact amtKey_not_bal x⟩

theorem keyOK_amount_mixed {l : List RPost} (h : AllCommoditised l) : KeyOK .amount l :=
  ⟨.of_key lexLt (fun _ _ => lexLt_asymm) (fun _ _ _ => lexLt_negTrans) (fieldLt .amount) (fun p => (amtC p, amtQ p)) l
      (fieldLt_amount_mixed h),
   fun p hp => by obtain ⟨x, hx, _⟩ := h p hp; rw [keyVal_amount p x hx]; exact amtKey_not_bal x⟩

theorem mem_nonzeroComms {l : List RPost} {p : RPost} {x : Amount} (hp : p ∈ l) (hx : p.amount = .amt x)
    (hq : x.q ≠ 0) (hc : x.comm ≠ "") : x.comm ∈ nonzeroComms l := by
  induction l with
  | nil => simp at hp
  | cons a l ih =>
    rcases List.mem_cons.mp hp with rfl | hp
    · simp [nonzeroComms, hx, hq, hc]
    · have := ih hp
      simp only [nonzeroComms]
      split
      · split
        · exact List.mem_cons_of_mem _ this
        · exact this
      · exact this

theorem oneCommodity_of_guard {l : List RPost} (h : oneCommGuard l = true) : ∃ c, OneCommodity c l := by
  simp only [oneCommGuard, Bool.and_eq_true] at h
  obtain ⟨h1, h2⟩ := h
  have hamt : ∀ p ∈ l, ∃ x, p.amount = .amt x := by
    intro p hp
    have := List.all_eq_true.mp h1 p hp
    cases hv : p.amount <;> simp [hv] at this
    exact ⟨_, rfl⟩
  cases hn : nonzeroComms l with
  | nil =>
    refine ⟨"", fun p hp => ?_⟩
    obtain ⟨x, hx⟩ := hamt p hp
    refine ⟨x, hx, ?_⟩
    by_cases hq : x.q = 0
    · exact Or.inl hq
    · by_cases hc : x.comm = ""
      · exact Or.inr (Or.inl hc)
      · have := mem_nonzeroComms hp hx hq hc
        rw [hn] at this; simp at this
  | cons c cs =>
    rw [hn] at h2
    refine ⟨c, fun p hp => ?_⟩
    obtain ⟨x, hx⟩ := hamt p hp
    refine ⟨x, hx, ?_⟩
    by_cases hq : x.q = 0
    · exact Or.inl hq
    · by_cases hc : x.comm = ""
      · exact Or.inr (Or.inr hc)
      · have hm := mem_nonzeroComms hp hx hq hc
        rw [hn] at hm
        rcases List.mem_cons.mp hm with e | e
        · exact Or.inr (Or.inl e)
        · have := List.all_eq_true.mp h2 _ e
          exact Or.inr (Or.inl (by simpa using this))

theorem allCommoditised_of_guard {l : List RPost} (h : allCommGuard l = true) : AllCommoditised l := by
  intro p hp
  have := List.all_eq_true.mp h p hp
  cases hv : p.amount <;> simp [hv] at this
  exact ⟨_, rfl, this.1, this.2⟩

end Regroup
end Ledger
