/-
`finalizeF` as a whole.  After the definitions the C01 statements use (`sumR`,
`residualOn`, `stripPost`): the pipeline of its stages as one equation
(`finalizeF_of_stages`) and its inversion with the invariants between the stages
(`finalizeF_ok_stages`); what follows from them for an accepted transaction, for
rejection, for one elided amount and for the two-posting shapes; then the
projections of `FPost.ofPosting` and `parseCost`, the journal step, and the
stripping of lot annotations.
-/
import LedgerModel.Lemmas.FinalizeSteps

namespace Ledger
namespace FinX

def sumR : List Rat → Rat
  | [] => 0
  | x :: xs => x + sumR xs

/-- residual restricted to the commodities selected by `pred` -/
def residualOn (pred : Comm → Bool) : List FPost → Rat
  | [] => 0
  | p :: ps =>
    (if p.mustBalance then
      match costOrAmt p with
      | some a => if pred a.comm then a.q else 0
      | none => 0
     else 0) + residualOn pred ps

/-- `strip_annotations` applied to a posting: quantities stay, commodities are mapped -/
def stripPost (s : Comm → Comm) (p : FPost) : FPost :=
  { p with amount := p.amount.map (fun a => { a with comm := s a.comm }),
           cost := p.cost.map (fun a => { a with comm := s a.comm }) }

theorem finalizeF_of_stages {env : PrecEnv} {bucket : Option String} {enum : Balance → Balance}
    {date : String} {ps0 ps1 ps2 ps2' ps3 : List FPost} {bal0 bal2 bal2' bal3 : Value}
    {np0 : Option (Nat × String)} {np1 : Option Nat}
    (hs : scan ps0 0 .void none = .ok (bal0, np0))
    (hab : applyBucket bucket ps0 bal0 (np0.map (·.1)) = (ps1, np1))
    (he : exchange2 env enum ps1 bal0 np1 = .ok (ps2, bal2))
    (hck : costsOk ps2 = true)
    (hl : lotLoop env date ps2 bal2 = .ok (ps2', bal2'))
    (hf : fillNull enum ps2' bal2' np1 = .ok (ps3, bal3)) :
    finalizeF env bucket enum date ps0 =
      if isNull bal3 = false ∧ valueIsZero env bal3 = false then .error .unbalanced else finish ps3 := by
  simp only [finalizeF, hs, hab, he, hck, hl, hf, Bool.true_eq_false, if_false]

/-- a transaction with a null posting gets no bucket posting: were it the only
    posting, the balance would be null -/
theorem applyBucket_of_null {bucket : Option String} {ps0 : List FPost} {bal0 : Value} {x : Nat × String}
    (hs : scan ps0 0 .void none = .ok (bal0, some x)) :
    applyBucket bucket ps0 bal0 (some x.1) = (ps0, some x.1) := by
  have hlen : ¬ (ps0.length = 1 ∧ isNull bal0 = false) := by
    rintro ⟨hl, hnn⟩
    cases ps0 with
    | nil => cases hl
    | cons q qs =>
      cases qs with
      | cons _ _ => cases hl
      | nil =>
        rcases scan_cons_ok hs with ⟨_, h⟩ | ⟨a, b', _, _, _, h⟩ | ⟨_, _, h⟩ <;> cases h
        cases hnn
  cases bucket with
  | none => rfl
  | some b => simp only [applyBucket, if_neg hlen]

theorem residual_filled_zero {enum : Balance → Balance} (henum : ∀ b, (enum b).Perm b)
    {ps : List FPost} {i : Nat} {n : FPost} {bal : Value} {amts : List Amount}
    (hi : ps[i]? = some n) (hn : nullMB n) (hw : wfV bal) (hden : ∀ c, bal.den c = residual ps c)
    (hfa : fillAmounts enum bal = .ok amts) (c : Comm) : residual (fillPosts ps i n amts) c = 0 := by
  rw [residual_fillPosts ps i n amts c hi hn, (fillAmounts_spec enum henum bal amts hfa hw).1 c, hden c]
  exact Rat.sub_self

theorem eq_of_sub_eq_sub {a r a2 r2 a0 r0 : Rat} (h1 : a2 - r2 = a0 - r0) (h2 : a - r = a2 - r2)
    (h0 : a0 = r0) : a = r := by
  rw [← Rat.sub_add_cancel (a := a) (b := r), h2, h1, h0, Rat.sub_self, Rat.zero_add]

/-- The stages of a successful `finalizeF` with the invariants that hold between
    them: the balance denotes the residual after the scan and after the cost
    loop; then either there is no null posting and the balance passes the zero
    test, or the null posting — still in place — is filled with the entries of
    the balance. -/
theorem finalizeF_ok_stages (env : PrecEnv) (bucket : Option String) (enum : Balance → Balance)
    (date : String) (ps0 : List FPost)
    (hcc : ∀ p ∈ ps0, p.costCalculated = false) (x' : FXact)
    (h : finalizeF env bucket enum date ps0 = .ok x') :
    ∃ (bal0 : Value) (np0 : Option (Nat × String)) (ps1 : List FPost) (np1 : Option Nat)
      (ps2 : List FPost) (bal2 : Value) (ps2' : List FPost) (bal2' : Value),
      scan ps0 0 .void none = .ok (bal0, np0) ∧
      applyBucket bucket ps0 bal0 (np0.map (·.1)) = (ps1, np1) ∧
      exchange2 env enum ps1 bal0 np1 = .ok (ps2, bal2) ∧
      lotLoop env date ps2 bal2 = .ok (ps2', bal2') ∧
      isNum bal0 = true ∧ wfV bal0 ∧ (∀ c, bal0.den c = residual ps1 c) ∧
      isNum bal2' = true ∧ wfV bal2' ∧ (∀ c, bal2'.den c = residual ps2' c) ∧
      ((np1 = none ∧ x'.posts = ps2' ∧ valueIsZero env bal2' = true) ∨
       ∃ i n amts, np1 = some i ∧ ps2'[i]? = some n ∧ nullMB n ∧
         fillAmounts enum bal2' = .ok amts ∧ x'.posts = fillPosts ps2' i n amts) := by
  unfold finalizeF at h
  cases hs : scan ps0 0 .void none with
  | error e => rw [hs] at h; cases h
  | ok r0 =>
    obtain ⟨bal0, np0⟩ := r0
    rw [hs] at h
    simp only at h
    obtain ⟨s1, s2, s3⟩ := scan_void_den hs
    have hnp0 : ∀ i, np0.map (·.1) = some i → ∃ n, ps0[i]? = some n ∧ nullMB n := by
      clear h
      intro i hi
      rcases scan_ok_cases hs rfl with ⟨rfl, _⟩ | ⟨pre, n, post, rfl, _, _, hn, rfl⟩
      · cases hi
      · simp only [Option.map_some, Option.some.injEq, Nat.zero_add] at hi
        subst hi
        exact ⟨n, getElem?_length_append pre post n, hn⟩
    have ab := applyBucket_spec bucket ps0 bal0 (np0.map (·.1)) hcc hnp0
    cases hab : applyBucket bucket ps0 bal0 (np0.map (·.1)) with
    | mk ps1 np1 =>
    rw [hab] at h ab
    obtain ⟨a1, a2, a3⟩ := ab
    simp only at h
    have hden0 : ∀ c, bal0.den c = residual ps1 c := fun c => (s3 c).trans (a1 c).symm
    split at h
    · cases h
    · rename_i ps2 bal2 he
      obtain ⟨e1, e2, e3, _⟩ := exchange2_inv env enum ps1 bal0 np1 ps2 bal2 he a2 s1 s2
      by_cases hck : costsOk ps2 = false
      · rw [if_pos hck] at h; cases h
      · rw [if_neg hck] at h
        split at h
        · cases h
        · rename_i ps2' bal2' hl
          obtain ⟨l1, l2, l3, l4, _⟩ := lotLoop_inv env date ps2 bal2 ps2' bal2' hl e1 e2
          have hden : ∀ c, bal2'.den c = residual ps2' c := fun c => eq_of_sub_eq_sub (e3 c) (l3 c) (hden0 c)
          refine ⟨bal0, np0, ps1, np1, ps2, bal2, ps2', bal2', rfl, hab, he, hl, s1, s2, hden0,
            l1, l2, hden, ?_⟩
          cases np1 with
          | none =>
            simp only [fillNull] at h
            split at h
            · cases h
            · rename_i hchk
              exact Or.inl ⟨rfl, finish_posts ps2' x' h, (zeroTest_passed_iff env bal2').1 hchk⟩
          | some i =>
            rw [exchange2_some] at he
            cases he
            obtain ⟨n, hn1, hn2⟩ := a3 i rfl
            have hi := l4 i n hn1 hn2
            rw [fillNull_some hi] at h
            cases hfa : fillAmounts enum bal2' with
            | error e => rw [hfa] at h; cases h
            | ok amts =>
              rw [hfa] at h
              simp only at h
              rw [if_neg (fun hh => nomatch hh.1)] at h
              exact Or.inr ⟨i, n, amts, rfl, hi, hn2, rfl, finish_posts _ x' h⟩

theorem finalizeF_ok (env : PrecEnv) (bucket : Option String) (enum : Balance → Balance)
    (henum : ∀ b, (enum b).Perm b) (date : String) (ps0 : List FPost)
    (hcc : ∀ p ∈ ps0, p.costCalculated = false) (x' : FXact)
    (h : finalizeF env bucket enum date ps0 = .ok x') :
    (∀ c, displaysZero env c (residual x'.posts c) = true) := by
  obtain ⟨bal0, np0, ps1, np1, ps2, bal2, ps2', bal2', _, _, _, _, _, _, _, l1, l2, hden, hfin⟩ :=
    finalizeF_ok_stages env bucket enum date ps0 hcc x' h
  intro c
  rcases hfin with ⟨_, hp, hz⟩ | ⟨i, n, amts, _, hi, hn, hfa, hp⟩
  · rw [hp, ← hden c]; exact value_isZero_den env bal2' l2 l1 hz c
  · rw [hp, residual_filled_zero henum hi hn l2 hden hfa c]; exact displaysZero_zero env c

/-- No null posting, no bucket, no implicit exchange, no posting with both a lot
    price and a cost, and a residual that does not display as zero in some
    commodity: "Transaction does not balance". -/
theorem finalizeF_unbalanced (env : PrecEnv) (bucket : Option String) (enum : Balance → Balance)
    (henum : ∀ b, (enum b).Perm b) (date : String) (ps0 : List FPost)
    (hnonull : ∀ p ∈ ps0, p.mustBalance = true → (costOrAmt p).isSome = true)
    (hb : bucket = none ∨ ps0.length ≠ 1)
    (hcosts : costsOk ps0 = true)
    (himp : implicitExchange env ps0 = false)
    (hlot : ∀ p ∈ ps0, p.lotPrice = none ∨ p.cost = none)
    (c : Comm) (hres : displaysZero env c (residual ps0 c) = false) :
    finalizeF env bucket enum date ps0 = .error .unbalanced := by
  obtain ⟨bal0, hs⟩ := scan_nonnull ps0 0 .void none hnonull rfl
  obtain ⟨s1, s2, s3⟩ := scan_void_den hs
  have hab : applyBucket bucket ps0 bal0 (Option.map (·.1) (none : Option (Nat × String))) = (ps0, none) := by
    unfold applyBucket
    rcases hb with rfl | hb
    · rfl
    · split
      · rw [if_neg (fun h => hb h.1)]; rfl
      · rfl
  have hex := exchange2_id_of_not_implicit env enum henum ps0 bal0 hs himp
  obtain ⟨ps', hl, _⟩ := lotLoop_nogain env date ps0 bal0 hlot
  rw [finalizeF_of_stages hs hab hex hcosts hl rfl, if_pos]
  refine Classical.not_not.1 (fun hchk => ?_)
  have := value_isZero_den env bal0 s2 s1 ((zeroTest_passed_iff env bal0).1 hchk) c
  rw [s3 c, hres] at this; cases this

theorem finalizeF_two_nulls (env : PrecEnv) (bucket : Option String) (enum : Balance → Balance)
    (date : String) (pre rest : List FPost) (n₁ : FPost) (h₁ : n₁.mustBalance = true) (h₁' : costOrAmt n₁ = none)
    (hex : ∃ p ∈ rest, p.mustBalance = true ∧ costOrAmt p = none) :
    finalizeF env bucket enum date (pre ++ n₁ :: rest) = .error .twoNulls ∨
    finalizeF env bucket enum date (pre ++ n₁ :: rest) = .error .misspelled := by
  unfold finalizeF
  rcases scan_two_nulls pre rest n₁ 0 .void h₁ h₁' hex rfl with h | h
  · rw [h]; exact Or.inl rfl
  · rw [h]; exact Or.inr rfl

/-- With a null posting present the result does not depend on the order in which
    the hash map of the residual is enumerated. -/
theorem finalizeF_order_free (env : PrecEnv) (bucket : Option String) (e₁ e₂ : Balance → Balance)
    (h₁ : ∀ b, (e₁ b).Perm b) (h₂ : ∀ b, (e₂ b).Perm b) (date : String) (ps0 : List FPost)
    (hnull : ∃ p ∈ ps0, p.mustBalance = true ∧ costOrAmt p = none) :
    finalizeF env bucket e₁ date ps0 = finalizeF env bucket e₂ date ps0 := by
  unfold finalizeF
  cases hs : scan ps0 0 .void none with
  | error e => rfl
  | ok r0 =>
    obtain ⟨bal0, np0⟩ := r0
    simp only
    obtain ⟨s1, s2, _⟩ := scan_void_den hs
    cases np0 with
    | none =>
      rcases scan_ok_cases hs rfl with ⟨_, hall⟩ | ⟨_, _, _, _, _, _, _, hnp⟩
      · obtain ⟨p, hp, hm, hn⟩ := hnull
        have := hall p hp hm
        rw [hn] at this; cases this
      · cases hnp
    | some x =>
      simp only [Option.map_some, applyBucket_of_null hs, exchange2_some]
      refine ite_congr rfl (fun _ => rfl) fun _ => ?_
      cases hl : lotLoop env date ps0 bal0 with
      | error e => rfl
      | ok r2 =>
        obtain ⟨ps2, bal2⟩ := r2
        simp only
        obtain ⟨_, l2, _⟩ := lotLoop_inv env date ps0 bal0 ps2 bal2 hl s1 s2
        have : fillNull e₁ ps2 bal2 (some x.1) = fillNull e₂ ps2 bal2 (some x.1) := by
          unfold fillNull
          simp only [fillAmounts_order_free e₁ e₂ h₁ h₂ bal2 l2]
        rw [this]

/-- Exact fragment: no costs, no lot prices, every amount a decimal with at most
    its commodity's display precision ⇒ an accepted transaction sums to exactly zero. -/
theorem finalizeF_exact (env : PrecEnv) (bucket : Option String) (enum : Balance → Balance)
    (henum : ∀ b, (enum b).Perm b) (date : String) (ps0 : List FPost)
    (hcost : ∀ p ∈ ps0, p.cost = none) (hcc : ∀ p ∈ ps0, p.costCalculated = false)
    (hlp : ∀ p ∈ ps0, p.lotPrice = none)
    (hex : ∀ p ∈ ps0, ∀ a, p.amount = some a → Exact env a) (x' : FXact)
    (h : finalizeF env bucket enum date ps0 = .ok x') : ∀ c, residual x'.posts c = 0 := by
  obtain ⟨bal0, np0, ps1, np1, ps2, bal2, ps2', bal2', hs, hab, he, hl, s1, s2, hden0, l1, l2, hden',
    hfin⟩ := finalizeF_ok_stages env bucket enum date ps0 hcc x' h
  intro c
  rcases hfin with ⟨rfl, hp, hz⟩ | ⟨i, n, amts, _, hi, hn, hfa, hp⟩
  · have sx : exactV env bal0 := scan_exact env ps0 0 .void none bal0 np0 hs trivial hcost hex
    have hps1 : ps1 = ps0 := by
      have := applyBucket_none bucket ps0 bal0 (np0.map (·.1))
      rw [hab] at this
      exact this rfl
    subst hps1
    obtain ⟨e1, e2, _, e4⟩ := exchange2_inv env enum ps1 bal0 none ps2 bal2 he hcc s1 s2
    obtain ⟨hb, hr⟩ := (lotLoop_inv env date ps2 bal2 ps2' bal2' hl e1 e2).2.2.2.2 (e4 hlp)
    subst hb
    rw [hp, ← hden' c]
    -- the cost loop did nothing; what remains is the implicit exchange
    rcases exchange2_cases he with ⟨_, rfl⟩ | ⟨b, x, y, _, rfl, _, hen, hxz, _, hew⟩
    · exact exactV_isZero_den env _ sx hz c
    · have hperm : [x, y].Perm b := by
        have := henum b
        rcases hen with hen | hen <;> rw [hen] at this
        · exact this
        · exact (List.Perm.swap y x []).trans this
      have hne : x.comm ≠ y.comm := fun h =>
        (List.nodup_cons.1 (Balance.nodup_comms_perm hperm.symm s2)).1 (List.mem_singleton.2 h)
      have hbd : ∀ c, (Value.bal b).den c = x.den c + y.den c := by
        intro c
        simp only [Value.den, Balance.den_perm hperm.symm c, Balance.den_cons, Balance.den_nil, Rat.add_zero]
      exact exchangeWith_exact env x y _ ps1 ps2 bal2' hne
        (sx y (hperm.mem_iff.1 (List.mem_cons_of_mem _ List.mem_cons_self))) hxz hew hcost hbd hden0
        (fun c => value_isZero_den env bal2' l2 l1 hz c) c
  · rw [hp]; exact residual_filled_zero henum hi hn l2 hden' hfa c

/-- Exactly one null must-balance posting, at index `pre.length`.  `ps'` are the
    postings after the cost loop (amounts with a cost annotated, lot-priced costs
    moved to the basis cost); the null posting is still `n`, at the same index. -/
theorem finalizeF_fills_null (env : PrecEnv) (bucket : Option String) (enum : Balance → Balance)
    (henum : ∀ b, (enum b).Perm b) (date : String) (pre post : List FPost) (n : FPost)
    (hpre : ∀ p ∈ pre, p.mustBalance = true → (costOrAmt p).isSome = true)
    (hpost : ∀ p ∈ post, p.mustBalance = true → (costOrAmt p).isSome = true)
    (hn : nullMB n) (hcc : ∀ p ∈ pre ++ n :: post, p.costCalculated = false) (x' : FXact)
    (h : finalizeF env bucket enum date (pre ++ n :: post) = .ok x') :
    ∃ (bal0 : Value) (ps' : List FPost) (bal' : Value) (amts : List Amount),
      lotLoop env date (pre ++ n :: post) bal0 = .ok (ps', bal') ∧
      ps'[pre.length]? = some n ∧
      x'.posts = fillPosts ps' pre.length n amts ∧
      (∀ c, Balance.den amts c = residual ps' c) ∧
      (Balance.comms amts).Nodup ∧ amts.Pairwise (fun a b => commLe a.comm b.comm = true) ∧
      (∀ c, residual x'.posts c = 0) := by
  obtain ⟨bal0, np0, ps1, np1, ps2, bal2, ps2', bal2', hs, hab, he, hl, s1, s2, _, _, l2, hden, hfin⟩ :=
    finalizeF_ok_stages env bucket enum date _ hcc x' h
  obtain ⟨b, hs'⟩ := scan_one_null pre post n 0 .void hpre hpost hn.1 hn.costOrAmt rfl
  rw [Nat.zero_add] at hs'
  rw [hs'] at hs; cases hs
  rw [Option.map_some, applyBucket_of_null hs'] at hab
  cases hab
  rw [exchange2_some] at he
  cases he
  rcases hfin with ⟨hnone, _⟩ | ⟨i, n', amts, hi, hidx, _, hfa, hp⟩
  · cases hnone
  · cases hi
    have hidx' := (lotLoop_inv env date _ bal0 ps2' bal2' hl s1 s2).2.2.2.1 _ n
      (getElem?_length_append pre post n) hn
    rw [hidx'] at hidx; cases hidx
    obtain ⟨d1, d2, d3⟩ := fillAmounts_spec enum henum bal2' amts hfa l2
    exact ⟨bal0, ps2', bal2', amts, hl, hidx', hp, fun c => by rw [d1 c, hden c], d2, d3,
      fun c => by rw [hp]; exact residual_filled_zero henum hidx' hn l2 hden hfa c⟩

/-- A single must-balance posting with an amount and a bucket account in force;
    `p'` is the posting after the cost loop (no gain/loss). -/
theorem finalizeF_bucket (env : PrecEnv) (b : String) (enum : Balance → Balance) (date : String)
    (p p' : FPost) (a : Amount) (hm : p.mustBalance = true) (hco : costOrAmt p = some a)
    (ham : p.amount.isSome = true) (hck : costsOk [p] = true)
    (hstep : lotStep env date p = .ok (p', none)) :
    finalizeF env (some b) enum date [p] =
      .ok ⟨[p', bucketPost b p.state (some ({ a with keep := false } : Amount).neg) true]⟩ := by
  have hs : scan [p] 0 .void none = .ok (.amt { a with keep := false }, none) := by
    rw [scan_cons_amt hm hco rfl]; rfl
  have hab : applyBucket (some b) [p] (.amt { a with keep := false })
      (Option.map (·.1) (none : Option (Nat × String))) = ([p, bucketPost b p.state none false], some 1) := rfl
  have hck2 : costsOk [p, bucketPost b p.state none false] = true := by
    rw [costsOk, List.all_cons] at hck ⊢
    rw [(Bool.and_eq_true_iff.1 hck).1]; rfl
  have hl : lotLoop env date [p, bucketPost b p.state none false] (.amt { a with keep := false }) =
      .ok ([p', bucketPost b p.state none false], .amt { a with keep := false }) := by
    rw [lotLoop_cons hstep rfl, lotLoop_cons (lotStep_nocost env date _ rfl) rfl]; rfl
  have hf : fillNull enum [p', bucketPost b p.state none false] (.amt { a with keep := false }) (some 1) =
      .ok (fillPosts [p', bucketPost b p.state none false] 1 (bucketPost b p.state none false)
        [{ a with keep := false }], .void) := by
    rw [fillNull_some (n := bucketPost b p.state none false) rfl]; rfl
  have ham' : p'.amount.isNone = false := by
    have := (lotStep_spec env date p p' none hstep).2.2.2.1
    rw [ham] at this
    cases hp' : p'.amount with
    | none => rw [hp'] at this; cases this
    | some _ => rfl
  rw [finalizeF_of_stages hs hab (exchange2_some env enum _ _ 1) hck2 hl hf]
  simp [isNull, fillPosts, finish, ham', bucketPost]

/-- a posting with a cost (and no lot price) followed by an elided one: the
    amount is annotated with the per-unit cost and the date, the elided posting
    gets the exact negation of the total cost -/
theorem finalizeF_pair (env : PrecEnv) (enum : Balance → Balance) (date : String) (p n : FPost)
    (a ct pu : Amount)
    (hpm : p.mustBalance = true) (hpa : p.amount = some a) (hpc : p.cost = some ct)
    (hpl : p.lotPrice = none) (hpu : perUnitCost env a ct = .ok pu)
    (hne : a.comm ≠ ct.comm) (hn : nullMB n) :
    finalizeF env none enum date [p, n] =
      .ok ⟨[annotatedPost p a pu date,
            { n with amount := some ({ ct with keep := false } : Amount).neg, calculated := true }]⟩ := by
  have hs : scan [p, n] 0 .void none = .ok (.amt { ct with keep := false }, some (1, n.account)) := by
    rw [scan_cons_amt hpm (costOrAmt_of_cost_some p ct hpc) rfl, scan_cons_null hn.1 hn.costOrAmt]; rfl
  have hck : costsOk [p, n] = true := by
    simp only [costsOk, List.all_cons, List.all_nil, hpa, hpc, hn.2.1, hn.2.2, decide_eq_true hne,
      Bool.and_true]
  have hstep : lotStep env date p = .ok (annotatedPost p a pu date, none) := by
    rw [lotStep_annotate hpc hpa hpl, hpu]
  have hl : lotLoop env date [p, n] (.amt { ct with keep := false }) =
      .ok ([annotatedPost p a pu date, n], .amt { ct with keep := false }) := by
    rw [lotLoop_cons hstep rfl, lotLoop_cons (lotStep_nocost env date n hn.2.1) rfl]; rfl
  have hf : fillNull enum [annotatedPost p a pu date, n] (.amt { ct with keep := false }) (some 1) =
      .ok (fillPosts [annotatedPost p a pu date, n] 1 n [{ ct with keep := false }], .void) := by
    rw [fillNull_some (n := n) rfl]; rfl
  rw [finalizeF_of_stages hs rfl (exchange2_some env enum _ _ 1) hck hl hf]
  simp [isNull, fillPosts, finish, annotatedPost]

theorem ofPosting_cc (env : PrecEnv) (ps : List LPosting) :
    ∀ p ∈ ps.map (FPost.ofPosting env), p.costCalculated = false :=
  List.forall_mem_map.2 fun _ _ => rfl

theorem ofPosting_mustBalance (env : PrecEnv) (q : LPosting) (h : q.post.kind ≠ .virtual) :
    (FPost.ofPosting env q).mustBalance = true :=
  decide_eq_true h

theorem ofPosting_cost_of_none (env : PrecEnv) (q : LPosting) (h : q.post.cost = none) :
    (FPost.ofPosting env q).cost = none := by
  simp only [FPost.ofPosting, h]
  cases q.post.amount <;> rfl

theorem ofPosting_cost (env : PrecEnv) (q : LPosting) {a : Amount} {k : Cost}
    (ha : q.post.amount = some a) (hc : q.post.cost = some k) :
    (FPost.ofPosting env q).cost = some (parseCost env a k) := by
  simp only [FPost.ofPosting, ha, hc]

theorem ofPosting_null (env : PrecEnv) (q : LPosting) (h : q.post.amount = none) :
    (FPost.ofPosting env q).amount = none ∧ (FPost.ofPosting env q).cost = none := by
  simp only [FPost.ofPosting, h, Option.map_none, and_self]

theorem ofPosting_lotPrice_of_none (env : PrecEnv) (q : LPosting) (h : q.lot = none) :
    (FPost.ofPosting env q).lotPrice = none := by
  simp only [FPost.ofPosting, h]
  cases q.post.amount <;> rfl

theorem ofPosting_amount_plain (env : PrecEnv) (q : LPosting) (h : q.lot = none) :
    (FPost.ofPosting env q).amount = q.post.amount := by
  simp only [FPost.ofPosting, h, lotComm]
  cases q.post.amount <;> rfl

theorem parseCost_comm (env : PrecEnv) (a : Amount) (k : Cost) : (parseCost env a k).comm = k.amt.comm := by
  unfold parseCost
  split
  · rfl
  · split <;> rfl

theorem parseCost_q (env : PrecEnv) (a : Amount) (k : Cost) :
    (parseCost env a k).q =
      if k.perUnit then k.amt.q * a.q else if a.q < 0 then - k.amt.q else k.amt.q := by
  unfold parseCost
  split
  · simp only [Amount.mul_q]
  · split <;> rfl

theorem lotBase_of_plain (c : Comm) (h : hasAnn c = false) : lotBase c = c := by
  unfold hasAnn at h
  unfold lotBase
  simpa using h

theorem residual_flatMap (l : List FXact) (c : Comm) :
    residual (l.flatMap (·.posts)) c = sumR (l.map (fun fx => residual fx.posts c)) := by
  induction l with
  | nil => rfl
  | cons x xs ih => simp only [List.flatMap_cons, residual_append, ih, List.map_cons, sumR]

theorem sumR_zero (l : List Rat) (h : ∀ x ∈ l, x = 0) : sumR l = 0 := by
  induction l with
  | nil => rfl
  | cons x xs ih =>
    rw [sumR, h x List.mem_cons_self, ih (fun y hy => h y (List.mem_cons_of_mem _ hy)), Rat.add_zero]

theorem step_xact_xacts (enum : Balance → Balance) (st : JState) (x : LXact) :
    (step enum st (.xact x)).xacts =
      match finalize (observe st.env x) st.bucket enum x with
      | .ok fx => st.xacts ++ [fx]
      | .error _ => st.xacts := by
  simp only [step]
  cases finalize (observe st.env x) st.bucket enum x with
  | ok _ => rfl
  | error e => cases e <;> rfl

theorem step_xact_bucket (enum : Balance → Balance) (st : JState) (x : LXact) :
    (step enum st (.xact x)).bucket = st.bucket := by
  simp only [step]
  cases finalize (observe st.env x) st.bucket enum x with
  | ok _ => rfl
  | error e => cases e <;> rfl

/-- every accepted transaction of a loaded journal went through a successful `finalize` -/
theorem foldl_step_forall (enum : Balance → Balance) (P : FXact → Prop) (items : List JItem)
    (hP : ∀ env bucket x fx, JItem.xact x ∈ items →
      finalize (observe env x) bucket enum x = .ok fx → P fx) :
    ∀ st : JState, (∀ fx ∈ st.xacts, P fx) →
      ∀ fx ∈ (items.foldl (step enum) st).xacts, P fx := by
  induction items with
  | nil => intro st h; exact h
  | cons it its ih =>
    intro st h
    apply ih (fun env bucket x fx hx => hP env bucket x fx (List.mem_cons_of_mem _ hx))
    cases it with
    | bucket _ a => exact h
    | xact x =>
      rw [step_xact_xacts]
      cases hf : finalize (observe st.env x) st.bucket enum x with
      | error e => exact h
      | ok fx' =>
        intro fx hfx
        rcases List.mem_append.1 hfx with h1 | h1
        · exact h fx h1
        · cases List.mem_singleton.1 h1
          exact hP st.env st.bucket x _ List.mem_cons_self hf

/-- amount.cc 1190-1195: once a transaction has been read, the display precision of
    every commodity covers every posting amount of it. -/
theorem observe_covers (env : PrecEnv) (x : LXact) (p : LPosting) (a : Amount) (hp : p ∈ x.posts)
    (ha : p.post.amount = some a) : a.prec ≤ observe env x a.comm := by
  refine foldl_ge_of_mem _ (fun m q => ?_) hp (fun m => ?_) _
  · split
    · split
      · exact Nat.le_max_left _ _
      · exact Nat.le_refl _
    · exact Nat.le_refl _
  · simp only [ha, if_true]
    exact Nat.le_max_right _ _

/-- the bucket in force after a directive list is its last declaration (whatever
    the spelling), or the one in force before when it declares none -/
theorem foldl_step_bucket (enum : Balance → Balance) (items : List JItem) : ∀ st : JState,
    (items.foldl (step enum) st).bucket =
      (match lastBucket items with | some b => some b | none => st.bucket) := by
  induction items with
  | nil => intro st; rfl
  | cons it its ih =>
    intro st
    rw [List.foldl_cons, ih]
    cases it with
    | bucket how a => simp only [lastBucket, step]; cases lastBucket its <;> rfl
    | xact x => simp only [lastBucket, step_xact_bucket]

theorem load_bucket (enum : Balance → Balance) (l : List JItem) : (load enum l).bucket = lastBucket l := by
  unfold load
  rw [foldl_step_bucket]
  cases lastBucket l <;> rfl

theorem lastBucket_append (l₁ l₂ : List JItem) :
    lastBucket (l₁ ++ l₂) = (match lastBucket l₂ with | some c => some c | none => lastBucket l₁) := by
  induction l₁ with
  | nil => simp only [List.nil_append, lastBucket]; cases lastBucket l₂ <;> rfl
  | cons it its ih =>
    cases it with
    | bucket how c => simp only [List.cons_append, lastBucket, ih]; cases lastBucket l₂ <;> rfl
    | xact y => simp only [List.cons_append, lastBucket, ih]

theorem residual_eq_residualOn (ps : List FPost) (c : Comm) :
    residual ps c = residualOn (fun x => decide (x = c)) ps := by
  induction ps with
  | nil => rfl
  | cons p ps ih =>
    simp only [residual, residualOn, ih, FPost.bal]
    cases p.mustBalance <;> cases costOrAmt p <;> simp

theorem costOrAmt_stripPost (s : Comm → Comm) (p : FPost) :
    costOrAmt (stripPost s p) = (costOrAmt p).map (fun a => { a with comm := s a.comm }) := by
  unfold costOrAmt stripPost
  cases p.cost <;> rfl

theorem residualOn_strip (s : Comm → Comm) (pred : Comm → Bool) (ps : List FPost) :
    residualOn pred (ps.map (stripPost s)) = residualOn (fun x => pred (s x)) ps := by
  induction ps with
  | nil => rfl
  | cons p ps ih =>
    simp only [List.map_cons, residualOn, ih, costOrAmt_stripPost]
    cases costOrAmt p <;> rfl

end FinX
end Ledger
