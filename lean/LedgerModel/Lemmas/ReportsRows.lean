/-
The account universe (`accounts`); the rows of the balance report (`balRowsOf`: equation,
inversion, sums over the rows) and `grandTotal_den`; `--flat` and `--depth N` in tree mode:
which accounts `shown` displays, and the depth cut as a partition (`cutTerm`, `cut_shown_term`,
`gsum_cut`); collapse_posts (`collapseGo_sum`); strip_annotations on `denOn`.
-/
import LedgerModel.Lemmas.ReportsTree

namespace Ledger
namespace Reports

theorem mem_prefixes (p a : Path) : a ∈ prefixes p ↔ ∃ n, n < p.length ∧ p.take (n + 1) = a := by
  simp [prefixes, List.mem_map, List.mem_range]

theorem mem_accounts (ps : List RPost) (a : Path) :
    a ∈ accounts ps ↔ ∃ p ∈ ps, ∃ n, n < p.path.length ∧ p.path.take (n + 1) = a := by
  unfold accounts
  rw [mem_dedup, List.mem_flatMap]
  constructor
  · rintro ⟨p, hp, h⟩; exact ⟨p, hp, (mem_prefixes _ _).mp h⟩
  · rintro ⟨p, hp, h⟩; exact ⟨p, hp, (mem_prefixes _ _).mpr h⟩

theorem nodup_accounts (ps : List RPost) : (accounts ps).Nodup := nodup_dedup _

theorem take_mem_accounts {ps : List RPost} {p : RPost} (hp : p ∈ ps) (n : Nat) (hn : 1 ≤ n) :
    p.path.take n ∈ accounts ps := by
  rw [mem_accounts]
  have hpos := path_length_pos p
  by_cases h : n ≤ p.path.length
  · exact ⟨p, hp, n - 1, Nat.sub_one_lt_of_le hn h, by rw [Nat.sub_add_cancel hn]⟩
  · exact ⟨p, hp, p.path.length - 1, Nat.sub_one_lt (Nat.ne_of_gt hpos),
      by rw [Nat.sub_add_cancel hpos, List.take_length, List.take_of_length_le (Nat.le_of_not_le h)]⟩

theorem path_mem_accounts {ps : List RPost} {p : RPost} (hp : p ∈ ps) : p.path ∈ accounts ps := by
  have := take_mem_accounts hp p.path.length (path_length_pos p)
  rwa [List.take_length] at this

theorem balRowsOf_cons (f : RPost → Value) (keep : RPost → Bool) (ps : List RPost) (a : Path) (as : List Path) :
    balRowsOf f keep ps (a :: as) =
      (acctAmount f keep ps a).bind (fun am => (acctTotalRec f keep ps (maxLen ps) a).bind (fun tot =>
        (balRowsOf f keep ps as).bind (fun rest => .ok ({ acct := a, amount := am, total := tot } :: rest)))) := by
  rw [balRowsOf]
  cases acctAmount f keep ps a with
  | error e => rfl
  | ok am =>
    show (match acctTotalRec f keep ps (maxLen ps) a with | .ok tot => _ | .error e => _) =
      (acctTotalRec f keep ps (maxLen ps) a).bind _
    cases acctTotalRec f keep ps (maxLen ps) a with
    | error e => rfl
    | ok tot =>
      show (match balRowsOf f keep ps as with | .ok rest => _ | .error e => _) = (balRowsOf f keep ps as).bind _
      cases balRowsOf f keep ps as <;> rfl

theorem balRowsOf_cons_ok {f : RPost → Value} {keep : RPost → Bool} {ps : List RPost} {a : Path} {as : List Path}
    {rows : List BalRow} (h : balRowsOf f keep ps (a :: as) = .ok rows) :
    ∃ am tot rest, acctAmount f keep ps a = .ok am ∧ acctTotalRec f keep ps (maxLen ps) a = .ok tot ∧
      balRowsOf f keep ps as = .ok rest ∧ rows = { acct := a, amount := am, total := tot } :: rest := by
  rw [balRowsOf_cons] at h
  obtain ⟨am, ham, h⟩ := Except.bind_eq_ok h
  obtain ⟨tot, htot, h⟩ := Except.bind_eq_ok h
  obtain ⟨rest, hrest, h⟩ := Except.bind_eq_ok h
  cases h
  exact ⟨am, tot, rest, ham, htot, hrest, rfl⟩

/-- membership form of `balRowsOf`: every row carries the account's own amount and recursive total. -/
theorem balRowsOf_mem (f : RPost → Value) (keep : RPost → Bool) (ps : List RPost) (as : List Path) (rows : List BalRow)
    (h : balRowsOf f keep ps as = .ok rows) (r : BalRow) (hr : r ∈ rows) :
    r.acct ∈ as ∧ acctAmount f keep ps r.acct = .ok r.amount ∧ acctTotalRec f keep ps (maxLen ps) r.acct = .ok r.total := by
  induction as generalizing rows with
  | nil => cases h; cases hr
  | cons a as ih =>
    obtain ⟨am, tot, rest, ham, htot, hrest, rfl⟩ := balRowsOf_cons_ok h
    cases hr with
    | head => exact ⟨List.mem_cons_self, ham, htot⟩
    | tail _ hr' =>
      have := ih rest hrest hr'
      exact ⟨List.mem_cons_of_mem _ this.1, this.2⟩

theorem balRowsOf_sum (f : RPost → Value) (keep : RPost → Bool) (ps : List RPost)
    (G : BalRow → Rat) (G' : Path → Rat)
    (hG : ∀ a am tot, acctAmount f keep ps a = .ok am → acctTotalRec f keep ps (maxLen ps) a = .ok tot →
      G { acct := a, amount := am, total := tot } = G' a)
    (as : List Path) (rows : List BalRow) (h : balRowsOf f keep ps as = .ok rows) :
    rsum (rows.map G) = rsum (as.map G') ∧ rows.map (·.acct) = as := by
  induction as generalizing rows with
  | nil => cases h; exact ⟨rfl, rfl⟩
  | cons a as ih =>
    obtain ⟨am, tot, rest, ham, htot, hrest, rfl⟩ := balRowsOf_cons_ok h
    have := ih rest hrest
    simp only [List.map_cons, rsum_cons, this.1, this.2, hG a am tot ham htot, and_self]

/-- a sum over the displayed accounts (sorted, filtered) as a guarded sum over the account universe. -/
theorem rsum_shown (ps : List RPost) (sh : Path → Bool) (G' : Path → Rat) :
    rsum (((sortedAccounts ps).filter sh).map G') = rsum ((accounts ps).map (fun a => if sh a then G' a else 0)) := by
  rw [← rsum_filter]
  apply rsum_perm
  apply List.Perm.map
  apply List.Perm.filter
  exact List.mergeSort_perm _ _

theorem grandTotal_den (f : RPost → Value) (keep : RPost → Bool) (c : Comm) (ps : List RPost) (g : Value)
    (h : grandTotal f keep ps = .ok g) : g.den c = gsum f keep c ps (fun _ => true) := by
  rw [acctTotalRec_den f keep c ps (maxLen ps) [] g (Nat.le_add_left _ _) h]
  exact gsum_congr f keep c ps _ _ (fun p _ => under_nil p.path)

/-- Σ over all accounts of their own postings = Σ of all kept postings. -/
theorem gsum_by_account (f : RPost → Value) (keep : RPost → Bool) (c : Comm) (ps : List RPost) :
    rsum ((accounts ps).map (fun a => gsum f keep c ps (fun q => decide (q = a)))) =
      gsum f keep c ps (fun _ => true) := by
  have := gsum_partition f keep c ps (fun q => some q) (accounts ps) (nodup_accounts ps)
    (by intro p hp k hk; cases hk; exact path_mem_accounts hp)
  simp only [Option.isSome_some] at this
  rw [← this]
  apply rsum_map_congr
  intro a _
  apply gsum_congr
  intro p _
  simp

def flatOpts : BalOpts := { flat := true, depth := none }

theorem shown_flat (keep : RPost → Bool) (ps : List RPost) (fuel : Nat) (a : Path) :
    shown flatOpts keep ps fuel a = visited keep ps a := by
  simp [shown, considered, showCond, dispPred, flatOpts]

def depthOpts (N : Nat) : BalOpts := { flat := false, depth := some N }

theorem natSum_zero {α : Type} (l : List α) (g : α → Nat) (h : ∀ x ∈ l, g x = 0) : natSum (l.map g) = 0 := by
  induction l with
  | nil => rfl
  | cons x xs ih =>
    simp only [List.map_cons, natSum, h x List.mem_cons_self, ih (fun y hy => h y (List.mem_cons_of_mem _ hy))]

theorem showCond_deep (N : Nat) (keep : RPost → Bool) (ps : List RPost) (a : Path) (h : N < a.length) :
    showCond (depthOpts N) keep ps 0 a = false := by
  have : ¬ a.length ≤ N := Nat.not_le_of_lt h
  simp [showCond, dispPred, depthOpts, this]

/-- below the depth limit nothing is displayed and nothing is reported upwards. -/
theorem markRet_deep (N : Nat) (keep : RPost → Bool) (ps : List RPost) :
    ∀ (n : Nat) (a : Path), N < a.length → markRet (depthOpts N) keep ps n a = 0 := by
  intro n
  induction n with
  | zero => intro a _; rfl
  | succ n ih =>
    intro a h
    have ht : natSum ((children ps a).map (markRet (depthOpts N) keep ps n)) = 0 :=
      natSum_zero _ _ (fun ch hch => ih ch (by rw [children_length hch]; exact Nat.lt_succ_of_lt h))
    simp only [markRet, ht, showCond_deep N keep ps a h, Bool.and_false]
    rfl

theorem markRet_children_zero (N : Nat) (keep : RPost → Bool) (ps : List RPost) (fuel : Nat) (a : Path) (h : N ≤ a.length) :
    natSum ((children ps a).map (markRet (depthOpts N) keep ps fuel)) = 0 :=
  natSum_zero _ _ (fun ch hch => markRet_deep N keep ps fuel ch (by rw [children_length hch]; exact Nat.lt_succ_of_le h))

theorem shown_deep (N : Nat) (keep : RPost → Bool) (ps : List RPost) (fuel : Nat) (a : Path) (h : N < a.length) :
    shown (depthOpts N) keep ps fuel a = false := by
  simp only [shown, markRet_children_zero N keep ps fuel a (Nat.le_of_lt h), showCond_deep N keep ps a h, Bool.and_false]

theorem shown_at (N : Nat) (keep : RPost → Bool) (ps : List RPost) (fuel : Nat) (a : Path) (h : a.length = N) :
    shown (depthOpts N) keep ps fuel a = subVisited keep ps a := by
  simp only [shown, markRet_children_zero N keep ps fuel a (Nat.le_of_eq h.symm)]
  simp [considered, showCond, dispPred, depthOpts, h]

theorem visited_subVisited {keep : RPost → Bool} {ps : List RPost} {a : Path} (h : visited keep ps a = true) :
    subVisited keep ps a = true := by
  unfold visited at h
  unfold subVisited
  rw [List.any_eq_true] at h ⊢
  obtain ⟨p, hp, hk⟩ := h
  refine ⟨p, hp, ?_⟩
  simp only [Bool.and_eq_true, decide_eq_true_eq] at hk
  simp [hk.1, hk.2, under_self]

theorem shown_above (N : Nat) (keep : RPost → Bool) (ps : List RPost) (fuel : Nat) (a : Path) (h : a.length < N)
    (hv : visited keep ps a = true) : shown (depthOpts N) keep ps fuel a = true := by
  have hle : a.length ≤ N := Nat.le_of_lt h
  simp [shown, considered, showCond, dispPred, depthOpts, hv, visited_subVisited hv, hle]

def cutTerm (f : RPost → Value) (keep : RPost → Bool) (c : Comm) (ps : List RPost) (N : Nat) (a : Path) : Rat :=
  if a.length < N then gsum f keep c ps (fun q => decide (q = a)) else gsum f keep c ps (under a)

/-- Above the cut an account contributes its own amount, which is 0 unless it is visited, and a
    visited account is shown; at the cut it is shown exactly when its subtree is visited and contributes
    the subtree sum; below the cut nothing is shown and no posting has it as key (the key of a posting
    is the depth-N prefix of its path). -/
theorem cut_shown_term (f : RPost → Value) (keep : RPost → Bool) (c : Comm) (ps : List RPost) (N fuel : Nat) (a : Path) :
    (if shown (depthOpts N) keep ps fuel a then cutTerm f keep c ps N a else 0) =
      gsum f keep c ps (fun q => decide (some (q.take N) = some a)) := by
  unfold cutTerm
  rcases Nat.lt_trichotomy a.length N with ha | ha | ha
  · have hkey : ∀ p ∈ ps, decide (some (p.path.take N) = some a) = decide (p.path = a) := by
      intro p _
      refine decide_eq_decide.mpr (Option.some_inj.trans ⟨fun h => ?_, fun h => ?_⟩)
      · have hl : p.path.length ≤ N := Nat.le_of_not_lt fun hlt => by
          have : (p.path.take N).length < N := h ▸ ha
          rw [List.length_take_of_le (Nat.le_of_lt hlt)] at this
          exact Nat.lt_irrefl N this
        rwa [List.take_of_length_le hl] at h
      · rw [h, List.take_of_length_le (Nat.le_of_lt ha)]
    rw [gsum_congr f keep c ps (fun q => decide (some (q.take N) = some a)) (fun q => decide (q = a)) hkey,
      if_pos ha]
    cases hs : shown (depthOpts N) keep ps fuel a
    · have hv : visited keep ps a = false := by
        cases hv : visited keep ps a
        · rfl
        · rw [shown_above N keep ps fuel a ha hv] at hs; cases hs
      rw [if_neg Bool.false_ne_true]
      exact (gsum_of_any_false f keep c ps (fun q => decide (q = a)) hv).symm
    · rw [if_pos rfl]
  · subst ha
    have hkey : ∀ p ∈ ps, decide (some (p.path.take a.length) = some a) = under a p.path :=
      fun p _ => decide_eq_decide.mpr Option.some_inj
    rw [gsum_congr f keep c ps (fun q => decide (some (q.take a.length) = some a)) (under a) hkey,
      if_neg (Nat.lt_irrefl _), shown_at _ keep ps fuel a rfl]
    cases hs : subVisited keep ps a
    · rw [if_neg Bool.false_ne_true]
      exact (gsum_of_any_false f keep c ps (under a) hs).symm
    · rw [if_pos rfl]
  · rw [shown_deep N keep ps fuel a ha, if_neg Bool.false_ne_true]
    refine (gsum_false f keep c ps _ fun p _ _ => decide_eq_false fun h => ?_).symm
    have hl := List.length_take_le N p.path
    rw [Option.some.inj h] at hl
    exact Nat.not_le_of_lt ha hl

/-- `1 ≤ N`: the key `q.take N` must be an account, and the master account `[]` is not one. -/
theorem gsum_cut (f : RPost → Value) (keep : RPost → Bool) (c : Comm) (ps : List RPost) (N : Nat) (hN : 1 ≤ N) :
    rsum ((accounts ps).map (fun a => gsum f keep c ps (fun q => decide (some (q.take N) = some a)))) =
      gsum f keep c ps (fun _ => true) := by
  have := gsum_partition f keep c ps (fun q => some (q.take N)) (accounts ps) (nodup_accounts ps)
    (by intro p hp k hk; cases hk; exact take_mem_accounts hp N hN)
  rw [this]
  apply gsum_congr
  intro p _
  rfl

theorem collapseGo_sum (f : RPost → Value) (n : Nat) (c : Comm) (g : List RPost) (keys : List Path)
    (rows : List (Path × Value)) (h : collapseXact.go f n g keys = .ok rows) :
    rsum (rows.map (fun r => r.2.den c)) =
      rsum (keys.map (fun k => gsum f (fun _ => true) c g (fun q => decide (truncPath n q = k)))) ∧
    rows.map (·.1) = keys := by
  induction keys generalizing rows with
  | nil => cases h; exact ⟨rfl, rfl⟩
  | cons k ks ih =>
    rw [collapseXact.go] at h
    cases hv : sumV ((g.filter (fun p => decide (truncPath n p.path = k))).map f) with
    | error e => rw [hv] at h; cases h
    | ok v =>
    rw [hv] at h
    cases hrest : collapseXact.go f n g ks with
    | error e => rw [hrest] at h; cases h
    | ok rest =>
    rw [hrest] at h
    cases h
    have hden := sumV_filter_den f (fun _ => true) c g (fun q => decide (truncPath n q = k)) v (by
      simpa only [Bool.true_and] using hv)
    have := ih rest hrest
    simp only [List.map_cons, rsum_cons, hden, this.1, this.2, and_self]

theorem denOnA_strip (P : Comm → Bool) (s : Comm → Comm) (a : Amount) :
    denOnA P (stripAmt s a) = denOnA (fun c => P (s c)) a := rfl

theorem denOnB_map_strip (P : Comm → Bool) (s : Comm → Comm) (b : Balance) :
    denOnB P (b.map (stripAmt s)) = denOnB (fun c => P (s c)) b := by
  induction b with
  | nil => rfl
  | cons x xs ih => simp only [List.map_cons, denOnB_cons, ih, denOnA_strip]

theorem denOnB_strip (P : Comm → Bool) (s : Comm → Comm) (b : Balance) :
    denOnB P (stripBal s b) = denOnB (fun c => P (s c)) b := by
  have := denOnB_add P [] (b.map (stripAmt s))
  unfold Balance.add at this
  unfold stripBal
  rw [this, denOnB_map_strip]
  simp only [denOnB_nil, Rat.zero_add]

/-- stripping sends the quantity held in commodity `x` to commodity `s x`, and does nothing else. -/
theorem denOnV_strip (P : Comm → Bool) (s : Comm → Comm) (hs : s "" = "") (v : Value) :
    denOnV P (stripV s v) = denOnV (fun c => P (s c)) v := by
  cases v with
  | void => rfl
  | bool b => rfl
  | int n => simp only [stripV, denOnV, hs]
  | amt a => simp only [stripV, denOnV, denOnA_strip]
  | bal b => simp only [stripV, denOnV, denOnB_strip]

end Reports
end Ledger
