/-
Lemmas for C12.  First the notions the C12 statements are written in (`Located.msg`, `summary`,
`File.clean`, `readPrefix`, `laterRootsClean`, `reportedCount`).  Then: the loader computes exactly
the summary of the file's items in reading order, one record per invalid item and one warning per
warned item, for every body, include chain and accumulator (`stepItem_eq`, `load_eq`,
`loadFile_eq`); several `-f` files (`loadRoots_eq`, `readPrefix_faulty`, `reportedCount_pos`); what
`run` returns (`run_status`, `run_stdout`, `run_stderr`, `run_status_ne_zero_iff`); the status
expressions that cannot wrap (`statusOf_safe`, `statusOf_small`).
-/
import LedgerModel.Model.Errors

namespace Ledger.Errors

/-- The record ledger writes for an invalid item. -/
def Located.msg (l : Located) : Msg := ⟨l.chain, ⟨l.file, l.item.reportLine⟩⟩

def Located.wloc (l : Located) : Loc := warnLoc l.file l.chain l.item.reportLine

/-- What a list of items (in reading order) contributes. -/
def summary (cfg : Cfg) (ls : List Located) : Out :=
  ⟨(ls.filter (Located.invalid cfg)).length,
   (ls.filter (Located.invalid cfg)).map Located.msg,
   (ls.filter (Located.warned cfg)).map Located.wloc⟩

def File.clean (cfg : Cfg) (f : File) : Bool := (invalidItems cfg f).isEmpty

/-- The files that are read at all: up to and including the first one with an
    invalid item (session.cc 190-214 with textual.cc 2096-2098); all of them if the
    reader does not stop (`Gen.stopAfterFaultyFile = false`). -/
def readPrefix (cfg : Cfg) : List File → List File
  | [] => []
  | f :: fs => if (f.clean cfg || !Gen.stopAfterFaultyFile) = true then f :: readPrefix cfg fs else [f]

/-- Every root after the first faulty one is clean (or the reader does not stop). -/
def laterRootsClean (cfg : Cfg) : List File → Bool
  | [] => true
  | f :: fs =>
    if (f.clean cfg || !Gen.stopAfterFaultyFile) = true then laterRootsClean cfg fs
    else fs.all (File.clean cfg)

/-- Number of records ledger writes: the invalid items of the files that are read. -/
def reportedCount (cfg : Cfg) (roots : List File) : Nat :=
  ((readPrefix cfg roots).flatMap (invalidItems cfg)).length

/-- Obligations on the working tree (re-extracted into Gen/ExitStatus.lean). -/
theorem per_catch : Gen.errorsPerCatch = 1 := rfl

theorem flag_set : Gen.errorFlagSetInCatch = true := rfl

@[simp] theorem absorb_empty (o : Out) : o.absorb Out.empty = o := by
  cases o; simp [Out.absorb, Out.empty]

@[simp] theorem empty_absorb (o : Out) : Out.empty.absorb o = o := by
  cases o; simp [Out.absorb, Out.empty]

theorem absorb_assoc (a b c : Out) : (a.absorb b).absorb c = a.absorb (b.absorb c) := by
  simp [Out.absorb, Nat.add_assoc, List.append_assoc]

@[simp] theorem summary_nil (cfg : Cfg) : summary cfg [] = Out.empty := rfl

theorem summary_append (cfg : Cfg) (a b : List Located) :
    summary cfg (a ++ b) = (summary cfg a).absorb (summary cfg b) := by
  simp [summary, Out.absorb, List.filter_append, List.map_append, List.length_append]

theorem swallow_true (file : String) (chain : List Loc) (ls : List Nat) (o : Out) :
    swallow true file chain ls o = o := by
  induction ls generalizing o with
  | nil => rfl
  | cons l ls ih => simp [swallow, ih]

theorem stepItem_eq (cfg : Cfg) (file : String) (chain : List Loc) (i : Item) (o : Out) :
    stepItem cfg file chain i o = o.absorb (summary cfg [⟨file, chain, i⟩]) := by
  cases o with
  | mk e m w =>
    -- an error item: the catch block counts one (`per_catch`) and sets the flag (`flag_set`), so the
    -- rest of the item is swallowed without a record (`swallow_true`)
    cases h : i.kind.sev cfg <;>
      simp [stepItem, summary, Located.invalid, Located.warned, h, Out.absorb, Out.addWarning,
        Out.addError, flag_set, swallow_true, per_catch, Located.msg, Located.wloc]

/-- The loader is the summary of the items in reading order. -/
theorem load_eq (cfg : Cfg) (b : Body) :
    ∀ (file : String) (chain : List Loc) (o : Out),
      load cfg file chain b o = o.absorb (summary cfg (b.items file chain)) := by
  induction b with
  | done => intro file chain o; simp [load, Body.items]
  | item i rest ih =>
    intro file chain o
    rw [load, ih, stepItem_eq, absorb_assoc, ← summary_append]
    rfl
  | incl line p child rest ihc ihr =>
    intro file chain o
    rw [load, ihr, ihc, empty_absorb, absorb_assoc, ← summary_append]
    rfl

theorem loadFile_eq (cfg : Cfg) (f : File) : loadFile cfg f = summary cfg f.items := by
  simp [loadFile, load_eq, File.items]

theorem loadFile_errors (cfg : Cfg) (f : File) :
    (loadFile cfg f).errors = (invalidItems cfg f).length := by
  rw [loadFile_eq]; rfl

theorem loadFile_msgs (cfg : Cfg) (f : File) :
    (loadFile cfg f).msgs = (invalidItems cfg f).map Located.msg := by
  rw [loadFile_eq]; rfl

theorem loadFile_warnings (cfg : Cfg) (f : File) :
    (loadFile cfg f).warnings = (f.items.filter (Located.warned cfg)).map Located.wloc := by
  rw [loadFile_eq]; rfl

theorem reportLine_mem (i : Item) : i.first ≤ i.reportLine ∧ i.reportLine ≤ i.last := by
  have hlast : i.first ≤ i.last ∧ i.last ≤ i.last := ⟨Nat.le_trans i.h₁ i.h₂, Nat.le_refl _⟩
  have hfirst : i.first ≤ i.first ∧ i.first ≤ i.last := ⟨Nat.le_refl _, Nat.le_trans i.h₁ i.h₂⟩
  have hbad : i.first ≤ i.bad ∧ i.bad ≤ i.last := ⟨i.h₁, i.h₂⟩
  unfold Item.reportLine
  split <;> assumption

theorem clean_iff_errors (cfg : Cfg) (f : File) : f.clean cfg = true ↔ (loadFile cfg f).errors = 0 := by
  rw [loadFile_errors, File.clean, List.isEmpty_iff, List.length_eq_zero_iff]

theorem clean_eq_false_iff (cfg : Cfg) (f : File) : f.clean cfg = false ↔ invalidItems cfg f ≠ [] := by
  rw [File.clean, ← Bool.not_eq_true, List.isEmpty_iff]

/-- Several `-f` files are the summary of the items of the files that are read, in order. -/
theorem loadRoots_eq (cfg : Cfg) (roots : List File) :
    ∀ o : Out, loadRoots cfg roots o =
      o.absorb (summary cfg ((readPrefix cfg roots).flatMap File.items)) := by
  induction roots with
  | nil => intro o; exact (absorb_empty o).symm
  | cons f fs ih =>
    intro o
    -- the loader goes on to `fs` exactly when `readPrefix` does
    have hiff : (f.clean cfg || !Gen.stopAfterFaultyFile) = true ↔
        ¬ (0 < (loadFile cfg f).errors ∧ Gen.stopAfterFaultyFile = true) := by
      rw [Bool.or_eq_true, clean_iff_errors, Bool.not_eq_true', ← Bool.not_eq_true, Nat.pos_iff_ne_zero,
        Decidable.not_and_iff_not_or_not, Decidable.not_not]
    simp only [loadRoots, readPrefix]
    by_cases hc : (f.clean cfg || !Gen.stopAfterFaultyFile) = true
    · rw [if_pos hc, if_neg (hiff.mp hc), List.flatMap_cons, ih, absorb_assoc, loadFile_eq, ← summary_append]
    · rw [if_neg hc, if_pos (Decidable.not_not.mp (mt hiff.mpr hc)), loadFile_eq, List.flatMap_singleton]

/-- Some root has an invalid item iff some root that is read has one. -/
theorem readPrefix_faulty (cfg : Cfg) (roots : List File) :
    (∃ f ∈ readPrefix cfg roots, invalidItems cfg f ≠ []) ↔ (∃ f ∈ roots, invalidItems cfg f ≠ []) := by
  induction roots with
  | nil => rfl
  | cons f fs ih =>
    rw [readPrefix]
    by_cases hc : (f.clean cfg || !Gen.stopAfterFaultyFile) = true
    · rw [if_pos hc]
      simp only [List.mem_cons, or_and_right, exists_or, exists_eq_left, ih]
    · rw [if_neg hc]
      -- reading stops at `f`, which is therefore faulty
      have hf : invalidItems cfg f ≠ [] := (clean_eq_false_iff cfg f).mp
        (Bool.eq_false_iff.mpr fun h => hc (by rw [h, Bool.true_or]))
      exact ⟨fun _ => ⟨f, List.mem_cons_self, hf⟩, fun _ => ⟨f, List.mem_singleton.mpr rfl, hf⟩⟩

theorem invalid_flatMap_readPrefix (cfg : Cfg) (roots : List File) (h : laterRootsClean cfg roots = true) :
    (readPrefix cfg roots).flatMap (invalidItems cfg) = roots.flatMap (invalidItems cfg) := by
  induction roots with
  | nil => rfl
  | cons f fs ih =>
    rw [readPrefix, List.flatMap_cons]
    by_cases hc : (f.clean cfg || !Gen.stopAfterFaultyFile) = true
    · rw [laterRootsClean, if_pos hc] at h
      rw [if_pos hc, List.flatMap_cons, ih h]
    · rw [laterRootsClean, if_neg hc, List.all_eq_true] at h
      have : fs.flatMap (invalidItems cfg) = [] :=
        List.flatMap_eq_nil_iff.mpr fun g hg => List.isEmpty_iff.mp (h g hg)
      rw [if_neg hc, this, List.flatMap_singleton, List.append_nil]

theorem filter_flatMap_items (cfg : Cfg) (fs : List File) :
    (fs.flatMap File.items).filter (Located.invalid cfg) = fs.flatMap (invalidItems cfg) := by
  induction fs with
  | nil => rfl
  | cons f fs ih => simp [List.flatMap_cons, List.filter_append, ih, invalidItems]

theorem loadRoots_errors (cfg : Cfg) (roots : List File) :
    (loadRoots cfg roots Out.empty).errors = reportedCount cfg roots := by
  rw [loadRoots_eq, empty_absorb, reportedCount, ← filter_flatMap_items]; rfl

theorem loadRoots_msgs (cfg : Cfg) (roots : List File) :
    (loadRoots cfg roots Out.empty).msgs =
      ((readPrefix cfg roots).flatMap (invalidItems cfg)).map Located.msg := by
  rw [loadRoots_eq, empty_absorb, ← filter_flatMap_items]; rfl

theorem reportedCount_pos (cfg : Cfg) (roots : List File) :
    0 < reportedCount cfg roots ↔ ∃ f ∈ roots, invalidItems cfg f ≠ [] := by
  rw [reportedCount, List.length_pos_iff, ← readPrefix_faulty, Ne, List.flatMap_eq_nil_iff]
  exact Classical.not_forall.trans (exists_congr fun f => Classical.not_imp.trans Iff.rfl)

theorem readPrefix_single (cfg : Cfg) (f : File) : readPrefix cfg [f] = [f] := by
  simp [readPrefix]

theorem run_status (cfg : Cfg) (roots : List File) (report : String) :
    (run cfg roots report).status =
      if 0 < reportedCount cfg roots then exitStatus (reportedCount cfg roots) else 0 := by
  simp only [run, loadRoots_errors]; split <;> rfl

/-- Some item is invalid iff the status is non-zero, for a status expression that does not turn
    the number of records at hand into zero. -/
theorem run_status_ne_zero_iff (cfg : Cfg) (roots : List File) (report : String)
    (hne : 0 < reportedCount cfg roots → exitStatus (reportedCount cfg roots) ≠ 0) :
    (∃ f ∈ roots, invalidItems cfg f ≠ []) ↔ (run cfg roots report).status ≠ 0 := by
  rw [run_status, ← reportedCount_pos]
  by_cases hp : 0 < reportedCount cfg roots
  · rw [if_pos hp]; exact ⟨fun _ => hne hp, fun _ => hp⟩
  · rw [if_neg hp]; exact ⟨fun h => absurd h hp, fun h => absurd rfl h⟩

theorem run_stdout (cfg : Cfg) (roots : List File) (report : String) :
    (run cfg roots report).stdout = if 0 < reportedCount cfg roots then "" else report := by
  simp only [run, loadRoots_errors]; split <;> rfl

theorem run_stderr (cfg : Cfg) (roots : List File) (report : String) :
    (run cfg roots report).stderr =
      ((readPrefix cfg roots).flatMap (invalidItems cfg)).map Located.msg := by
  simp only [run, loadRoots_msgs]; split <;> rfl

theorem statusOf_safe (s : Gen.StatusShape) (hs : shapeSafe s = true) (n : Nat) (hn : 0 < n) :
    osTruncate (statusOf s n) ≠ 0 := by
  cases s with
  | raw => cases hs
  | clamp k =>
    -- `min n k` lies in `1 … 255`, so truncation leaves it alone
    rw [shapeSafe, decide_eq_true_eq] at hs
    rw [statusOf, osTruncate,
      Nat.mod_eq_of_lt (Nat.lt_succ_of_le (Nat.le_trans (Nat.min_le_right n k) hs.2))]
    exact Nat.ne_of_gt (Nat.le_min.mpr ⟨hn, hs.1⟩)
  | sign => rw [statusOf, if_neg (Nat.ne_of_gt hn)]; decide +kernel

theorem statusOf_small (s : Gen.StatusShape) (hs : s = .raw ∨ shapeSafe s = true) (n : Nat)
    (hn : 0 < n) (hlt : n < 256) : osTruncate (statusOf s n) ≠ 0 := by
  rcases hs with rfl | hs
  · rw [statusOf, osTruncate, Nat.mod_eq_of_lt hlt]; exact Nat.ne_of_gt hn
  · exact statusOf_safe s hs n hn

/-- `n` unbalanced three-line transactions, one after the other. -/
def faultyBody : Nat → Body
  | 0 => .done
  | n + 1 => .item ⟨.unbalanced, 4 * n + 1, 4 * n + 3, 4 * n + 2, by omega, by omega⟩ (faultyBody n)

theorem faultyBody_invalid (cfg : Cfg) (file : String) (n : Nat) :
    (((faultyBody n).items file []).filter (Located.invalid cfg)).length = n := by
  induction n with
  | zero => rfl
  | succ n ih => simp [faultyBody, Body.items, Located.invalid, Kind.sev, ih]

end Ledger.Errors

