/-
The stages of `finalizeF` one by one.  First the definitions the statements use
(`nullMB`, `NoNull`, `bucketPost`, `exchPost`, `implicitExchange`, `glDen`,
`annotatedPost`, `basisCost`) and what a posting contributes to the residual;
then, in the order of `finalizeF`: `scan`, `applyBucket`, the implicit exchange
(`exchPosts`, `exchange2`), the cost loop (`lotStep`, `lotLoop`), and the null
filling with the final checks.  Each recursive definition gets its equations on
a cons; the invariant the stages share is that `balance.den c − residual posts c`
does not move.
-/
import LedgerModel.Lemmas.FinalizeSort

namespace Ledger
namespace FinX

/-- a must-balance posting without amount (and hence without cost) -/
def nullMB (n : FPost) : Prop := n.mustBalance = true ∧ n.cost = none ∧ n.amount = none

/-- every must-balance posting has a cost or an amount -/
abbrev NoNull (ps : List FPost) : Prop := ∀ p ∈ ps, p.mustBalance = true → (costOrAmt p).isSome = true

/-- the posting xact.cc 214-218 creates on the bucket account -/
def bucketPost (b : String) (st : ItemState) (amt : Option Amount) (cl : Bool) : FPost :=
  { account := b, kind := .real, state := st, amount := amt, cost := none,
    calculated := cl, costCalculated := false, generated := false, inferred := true,
    lotPrice := none }

/-- xact.cc 275-279 on one posting: a must-balance posting in the primary commodity
    gets the computed cost, every other posting is left alone. -/
def exchPost (env : PrecEnv) (comm : Comm) (perUnit : Amount) (p : FPost) : FPost :=
  match p.amount with
  | some amt =>
    if p.mustBalance ∧ amt.comm = comm then
      { p with cost := some (Amount.mul env perUnit amt), costCalculated := true }
    else p
  | none => p

/-- The implicit two-commodity exchange of xact.cc 220-283 applies: no null
    posting, a residual with exactly two entries that both display non-zero, no
    written cost. -/
def implicitExchange (env : PrecEnv) (ps : List FPost) : Bool :=
  match scan ps 0 .void none with
  | .ok (.bal b, none) =>
    b.length = 2 ∧ (topScan ps none).1 = false ∧ (topScan ps none).2.isSome = true ∧
      b.all (fun a => !a.isZero env) = true
  | _ => false

/-- the gain/loss handed to the balance, as a per-commodity quantity -/
def glDen : Option Amount → Comm → Rat
  | some g, c => g.den c
  | none, _ => 0

/-- xact.cc 334-343: the posting with its amount annotated by the computed price and date -/
def annotatedPost (p : FPost) (a pu : Amount) (date : String) : FPost :=
  { p with amount := some { a with comm := annotate a.comm pu date }, lotPrice := some pu }

/-- the basis cost `(*price * amount).unrounded()` of xact.cc 305 -/
abbrev basisCost (env : PrecEnv) (price amt : Amount) : Amount :=
  { Amount.mul env price amt with keep := true }

theorem residual_append (l₁ l₂ : List FPost) (c : Comm) :
    residual (l₁ ++ l₂) c = residual l₁ c + residual l₂ c := by
  induction l₁ with
  | nil => exact (Rat.zero_add _).symm
  | cons x xs ih => simp only [List.cons_append, residual, ih, Rat.add_assoc]

theorem bal_of_not_mustBalance (p : FPost) (c : Comm) (h : p.mustBalance = false) : p.bal c = 0 := by
  simp [FPost.bal, h]

theorem bal_of_some (p : FPost) (a : Amount) (c : Comm) (hm : p.mustBalance = true)
    (h : costOrAmt p = some a) : p.bal c = a.den c := by
  simp [FPost.bal, hm, h, Amount.den]

theorem bal_of_none (p : FPost) (c : Comm) (h : costOrAmt p = none) : p.bal c = 0 := by
  unfold FPost.bal; rw [h]; split <;> rfl

theorem bal_congr {p p' : FPost} (hm : p'.mustBalance = p.mustBalance) (hco : costOrAmt p' = costOrAmt p)
    (c : Comm) : p'.bal c = p.bal c := by
  unfold FPost.bal; rw [hm, hco]

theorem costOrAmt_of_cost_none (p : FPost) (h : p.cost = none) : costOrAmt p = p.amount := by
  simp [costOrAmt, h]

theorem costOrAmt_of_cost_some (p : FPost) (k : Amount) (h : p.cost = some k) : costOrAmt p = some k := by
  simp [costOrAmt, h]

theorem nullMB_of_costOrAmt {p : FPost} (hm : p.mustBalance = true) (h : costOrAmt p = none) :
    nullMB p := by
  unfold costOrAmt at h
  cases hc : p.cost with
  | some c => rw [hc] at h; cases h
  | none => rw [hc] at h; exact ⟨hm, hc, h⟩

theorem nullMB.costOrAmt {n : FPost} (h : nullMB n) : costOrAmt n = none := by
  rw [costOrAmt_of_cost_none n h.2.1, h.2.2]

theorem exists_first_null (ps : List FPost) :
    NoNull ps ∨ ∃ pre n post, ps = pre ++ n :: post ∧ NoNull pre ∧ nullMB n := by
  induction ps with
  | nil => exact Or.inl (fun p hp => nomatch hp)
  | cons q qs ih =>
    by_cases hq : q.mustBalance = true ∧ costOrAmt q = none
    · exact Or.inr ⟨[], q, qs, rfl, (fun p hp => nomatch hp), nullMB_of_costOrAmt hq.1 hq.2⟩
    · have hq' : q.mustBalance = true → (costOrAmt q).isSome = true := by
        intro hm
        cases hco : costOrAmt q with
        | none => exact absurd ⟨hm, hco⟩ hq
        | some a => rfl
      rcases ih with h | ⟨pre, n, post, e, hpre, hn⟩
      · exact Or.inl (fun p hp => by
          rcases List.mem_cons.1 hp with rfl | hp'
          · exact hq'
          · exact h p hp')
      · refine Or.inr ⟨q :: pre, n, post, by rw [e]; rfl, fun p hp => ?_, hn⟩
        rcases List.mem_cons.1 hp with rfl | hp'
        · exact hq'
        · exact hpre p hp'

theorem scan_cons_skip {p : FPost} (h : p.mustBalance = false) (ps : List FPost) (i : Nat)
    (bal : Value) (np : Option (Nat × String)) :
    scan (p :: ps) i bal np = scan ps (i + 1) bal np := by
  simp only [scan, h, if_true]

theorem scan_cons_amt {p : FPost} {a : Amount} {bal b' : Value} (hm : p.mustBalance = true)
    (hco : costOrAmt p = some a) (hadd : Value.add bal (.amt { a with keep := false }) = .ok b')
    (ps : List FPost) (i : Nat) (np : Option (Nat × String)) :
    scan (p :: ps) i bal np = scan ps (i + 1) b' np := by
  simp only [scan, hm, hco, hadd, Bool.true_eq_false, if_false]

theorem scan_cons_amt_error {p : FPost} {a : Amount} {bal : Value} {e : Err} (hm : p.mustBalance = true)
    (hco : costOrAmt p = some a) (hadd : Value.add bal (.amt { a with keep := false }) = .error e)
    (ps : List FPost) (i : Nat) (np : Option (Nat × String)) :
    scan (p :: ps) i bal np = .error (.value e) := by
  simp only [scan, hm, hco, hadd, Bool.true_eq_false, if_false]

theorem scan_cons_null {p : FPost} (hm : p.mustBalance = true) (hco : costOrAmt p = none)
    (ps : List FPost) (i : Nat) (bal : Value) :
    scan (p :: ps) i bal none = scan ps (i + 1) bal (some (i, p.account)) := by
  simp only [scan, hm, hco, Bool.true_eq_false, if_false]

theorem scan_cons_second_null {p : FPost} (hm : p.mustBalance = true) (hco : costOrAmt p = none)
    (ps : List FPost) (i : Nat) (bal : Value) (x : Nat × String) :
    scan (p :: ps) i bal (some x) = .error .twoNulls ∨ scan (p :: ps) i bal (some x) = .error .misspelled := by
  simp only [scan, hm, hco, Bool.true_eq_false, if_false]
  split
  · exact Or.inr rfl
  · exact Or.inl rfl

theorem scan_cons_ok {p : FPost} {ps : List FPost} {i : Nat} {bal : Value} {np : Option (Nat × String)}
    {r : Value × Option (Nat × String)} (h : scan (p :: ps) i bal np = .ok r) :
    (p.mustBalance = false ∧ scan ps (i + 1) bal np = .ok r) ∨
    (∃ a b', p.mustBalance = true ∧ costOrAmt p = some a ∧
      Value.add bal (.amt { a with keep := false }) = .ok b' ∧ scan ps (i + 1) b' np = .ok r) ∨
    (nullMB p ∧ np = none ∧ scan ps (i + 1) bal (some (i, p.account)) = .ok r) := by
  cases hm : p.mustBalance with
  | false => rw [scan_cons_skip hm] at h; exact Or.inl ⟨rfl, h⟩
  | true =>
    cases hco : costOrAmt p with
    | some a =>
      cases hadd : Value.add bal (.amt { a with keep := false }) with
      | error e => rw [scan_cons_amt_error hm hco hadd] at h; cases h
      | ok b' => rw [scan_cons_amt hm hco hadd] at h; exact Or.inr (Or.inl ⟨a, b', rfl, rfl, hadd, h⟩)
    | none =>
      cases np with
      | some x => rcases scan_cons_second_null hm hco ps i bal x with e | e <;> rw [e] at h <;> cases h
      | none =>
        rw [scan_cons_null hm hco] at h
        exact Or.inr (Or.inr ⟨nullMB_of_costOrAmt hm hco, rfl, h⟩)

/-- xact.cc 167-200: after the first loop `balance` denotes the per-commodity sum
    of cost-or-amount over the must-balance postings. -/
theorem scan_inv (ps : List FPost) : ∀ (i : Nat) (bal : Value) (np : Option (Nat × String))
    (bal' : Value) (np' : Option (Nat × String)),
    scan ps i bal np = .ok (bal', np') → isNum bal = true → wfV bal →
    isNum bal' = true ∧ wfV bal' ∧ ∀ c, bal'.den c = bal.den c + residual ps c := by
  induction ps with
  | nil =>
    intro i bal np bal' np' h hn hw
    cases h
    exact ⟨hn, hw, fun c => (Rat.add_zero _).symm⟩
  | cons p ps ih =>
    intro i bal np bal' np' h hn hw
    rcases scan_cons_ok h with ⟨hm, h⟩ | ⟨a, b', hm, hco, hadd, h⟩ | ⟨hnull, _, h⟩
    · obtain ⟨h1, h2, h3⟩ := ih _ _ _ _ _ h hn hw
      refine ⟨h1, h2, fun c => ?_⟩
      rw [h3 c]; simp only [residual, bal_of_not_mustBalance p c hm, Rat.zero_add]
    · obtain ⟨r, hr, hrn, hrw⟩ := add_amt_spec bal { a with keep := false } hn
      rw [hadd] at hr; cases hr
      obtain ⟨h1, h2, h3⟩ := ih _ _ _ _ _ h hrn (hrw hw)
      refine ⟨h1, h2, fun c => ?_⟩
      rw [h3 c, add_amt_den _ _ _ hadd c]
      simp only [residual, bal_of_some p a c hm hco]
      exact Rat.add_assoc _ _ _
    · obtain ⟨h1, h2, h3⟩ := ih _ _ _ _ _ h hn hw
      refine ⟨h1, h2, fun c => ?_⟩
      rw [h3 c]; simp only [residual, bal_of_none p c hnull.costOrAmt, Rat.zero_add]

theorem scan_void_den {ps : List FPost} {bal : Value} {np : Option (Nat × String)}
    (h : scan ps 0 .void none = .ok (bal, np)) :
    isNum bal = true ∧ wfV bal ∧ ∀ c, bal.den c = residual ps c := by
  obtain ⟨h1, h2, h3⟩ := scan_inv ps 0 .void none bal np h rfl trivial
  exact ⟨h1, h2, fun c => by rw [h3 c]; exact Rat.zero_add _⟩

theorem scan_cons_nonnull {q : FPost} (hq : q.mustBalance = true → (costOrAmt q).isSome = true)
    {bal : Value} (hn : isNum bal = true) :
    ∃ b', isNum b' = true ∧ ∀ ps i np, scan (q :: ps) i bal np = scan ps (i + 1) b' np := by
  cases hm : q.mustBalance with
  | false => exact ⟨bal, hn, fun ps i np => scan_cons_skip hm ps i bal np⟩
  | true =>
    cases hco : costOrAmt q with
    | none => have := hq hm; rw [hco] at this; cases this
    | some a =>
      obtain ⟨r, hr, hrn, _⟩ := add_amt_spec bal { a with keep := false } hn
      exact ⟨r, hrn, fun ps i np => scan_cons_amt hm hco hr ps i np⟩

theorem scan_nonnull_prefix (pre : List FPost) : ∀ (bal : Value), NoNull pre → isNum bal = true →
    ∃ b', isNum b' = true ∧
      ∀ post i np, scan (pre ++ post) i bal np = scan post (i + pre.length) b' np := by
  induction pre with
  | nil => intro bal _ hn; exact ⟨bal, hn, fun post i np => rfl⟩
  | cons q qs ih =>
    intro bal hpre hn
    obtain ⟨b1, hn1, e1⟩ := scan_cons_nonnull (hpre q List.mem_cons_self) hn
    obtain ⟨b2, hn2, e2⟩ := ih b1 (fun p hp => hpre p (List.mem_cons_of_mem _ hp)) hn1
    refine ⟨b2, hn2, fun post i np => ?_⟩
    rw [List.cons_append, e1, e2, List.length_cons, Nat.add_assoc, Nat.add_comm 1]

theorem scan_nonnull (ps : List FPost) (i : Nat) (bal : Value) (np : Option (Nat × String))
    (hall : NoNull ps) (hn : isNum bal = true) : ∃ bal', scan ps i bal np = .ok (bal', np) := by
  obtain ⟨b', _, e⟩ := scan_nonnull_prefix ps bal hall hn
  have := e [] i np
  rw [List.append_nil] at this
  exact ⟨b', this⟩

theorem scan_one_null (pre post : List FPost) (n : FPost) (i : Nat) (bal : Value)
    (hpre : NoNull pre) (hpost : NoNull post) (hm : n.mustBalance = true) (hn : costOrAmt n = none)
    (hnum : isNum bal = true) :
    ∃ bal', scan (pre ++ n :: post) i bal none = .ok (bal', some (i + pre.length, n.account)) := by
  obtain ⟨b', hn', e⟩ := scan_nonnull_prefix pre bal hpre hnum
  rw [e, scan_cons_null hm hn]
  exact scan_nonnull post _ _ _ hpost hn'

theorem scan_some_null (l : List FPost) (k : Nat) (b : Value) (x : Nat × String)
    (hex : ∃ p ∈ l, p.mustBalance = true ∧ costOrAmt p = none) (hnum : isNum b = true) :
    scan l k b (some x) = .error .twoNulls ∨ scan l k b (some x) = .error .misspelled := by
  rcases exists_first_null l with h | ⟨pre, n, post, rfl, hpre, hn⟩
  · obtain ⟨p, hp, hm, hco⟩ := hex
    have := h p hp hm; rw [hco] at this; cases this
  · obtain ⟨b', _, e⟩ := scan_nonnull_prefix pre b hpre hnum
    rw [e]
    exact scan_cons_second_null hn.1 hn.costOrAmt post _ b' x

theorem scan_two_nulls (pre rest : List FPost) (n₁ : FPost) : ∀ (i : Nat) (bal : Value),
    n₁.mustBalance = true → costOrAmt n₁ = none →
    (∃ p ∈ rest, p.mustBalance = true ∧ costOrAmt p = none) → isNum bal = true →
    scan (pre ++ n₁ :: rest) i bal none = .error .twoNulls ∨
    scan (pre ++ n₁ :: rest) i bal none = .error .misspelled := by
  intro i bal hm hn hex hnum
  rcases exists_first_null pre with hpre | ⟨pre', m, post', rfl, hpre', hm'⟩
  · obtain ⟨b', hn', e⟩ := scan_nonnull_prefix pre bal hpre hnum
    rw [e, scan_cons_null hm hn]
    exact scan_some_null rest _ b' _ hex hn'
  · obtain ⟨b', hn', e⟩ := scan_nonnull_prefix pre' bal hpre' hnum
    rw [List.append_assoc, e, List.cons_append, scan_cons_null hm'.1 hm'.costOrAmt]
    exact scan_some_null _ _ b' _ ⟨n₁, List.mem_append_right _ List.mem_cons_self, hm, hn⟩ hn'

/-- A successful scan from no remembered null posting: either there is none, or
    there is exactly one and it is the one remembered. -/
theorem scan_ok_cases {ps : List FPost} {i : Nat} {bal bal' : Value} {np' : Option (Nat × String)}
    (h : scan ps i bal none = .ok (bal', np')) (hnum : isNum bal = true) :
    (np' = none ∧ NoNull ps) ∨
    ∃ pre n post, ps = pre ++ n :: post ∧ NoNull pre ∧ NoNull post ∧ nullMB n ∧
      np' = some (i + pre.length, n.account) := by
  rcases exists_first_null ps with hall | ⟨pre, n, post, rfl, hpre, hn⟩
  · obtain ⟨b, hb⟩ := scan_nonnull ps i bal none hall hnum
    rw [hb] at h; cases h
    exact Or.inl ⟨rfl, hall⟩
  · rcases exists_first_null post with hpost | ⟨pre', m, post', rfl, _, hm⟩
    · obtain ⟨b, hb⟩ := scan_one_null pre post n i bal hpre hpost hn.1 hn.costOrAmt hnum
      rw [hb] at h; cases h
      exact Or.inr ⟨pre, n, post, rfl, hpre, hpost, hn, rfl⟩
    · rcases scan_two_nulls pre (pre' ++ m :: post') n i bal hn.1 hn.costOrAmt
        ⟨m, List.mem_append_right _ List.mem_cons_self, hm.1, hm.costOrAmt⟩ hnum with e | e <;>
        rw [e] at h <;> cases h

theorem scan_exact (env : PrecEnv) (ps : List FPost) : ∀ (i : Nat) (bal : Value)
    (np : Option (Nat × String)) (bal' : Value) (np' : Option (Nat × String)),
    scan ps i bal np = .ok (bal', np') → exactV env bal →
    (∀ p ∈ ps, p.cost = none) → (∀ p ∈ ps, ∀ a, p.amount = some a → Exact env a) →
    exactV env bal' := by
  induction ps with
  | nil => intro i bal np bal' np' h hv _ _; cases h; exact hv
  | cons p ps ih =>
    intro i bal np bal' np' h hv hc he
    have hc' : ∀ q ∈ ps, q.cost = none := fun q hq => hc q (List.mem_cons_of_mem _ hq)
    have he' : ∀ q ∈ ps, ∀ a, q.amount = some a → Exact env a :=
      fun q hq => he q (List.mem_cons_of_mem _ hq)
    rcases scan_cons_ok h with ⟨_, h⟩ | ⟨a, b', _, hco, hadd, h⟩ | ⟨_, _, h⟩
    · exact ih _ _ _ _ _ h hv hc' he'
    · rw [costOrAmt_of_cost_none p (hc p List.mem_cons_self)] at hco
      have hea := he p List.mem_cons_self a hco
      have hea' : Exact env { a with keep := false } := ⟨hea.1, rfl, hea.2.2.1, hea.2.2.2⟩
      exact ih _ _ _ _ _ h (exactV_add_amt env _ _ _ hadd hv hea') hc' he'
    · exact ih _ _ _ _ _ h hv hc' he'

theorem applyBucket_some (b : String) (ps : List FPost) (bal : Value) (np : Option Nat) :
    applyBucket (some b) ps bal np =
      if ps.length = 1 ∧ isNull bal = false then
        (ps ++ [bucketPost b ((ps.head?.map (·.state)).getD 0) none false], some ps.length)
      else (ps, np) := rfl

theorem applyBucket_spec (bucket : Option String) (ps0 : List FPost) (bal0 : Value) (np0 : Option Nat)
    (hcc : ∀ p ∈ ps0, p.costCalculated = false)
    (hnp : ∀ i, np0 = some i → ∃ n, ps0[i]? = some n ∧ nullMB n) :
    (∀ c, residual (applyBucket bucket ps0 bal0 np0).1 c = residual ps0 c) ∧
    (∀ p ∈ (applyBucket bucket ps0 bal0 np0).1, p.costCalculated = false) ∧
    (∀ i, (applyBucket bucket ps0 bal0 np0).2 = some i →
      ∃ n, (applyBucket bucket ps0 bal0 np0).1[i]? = some n ∧ nullMB n) := by
  cases bucket with
  | none => exact ⟨fun _ => rfl, hcc, hnp⟩
  | some b =>
    rw [applyBucket_some]
    by_cases hc : ps0.length = 1 ∧ isNull bal0 = false
    · rw [if_pos hc]
      refine ⟨fun c => ?_, ?_, ?_⟩
      · simp only [residual_append, residual]
        rw [bal_of_none (bucketPost b _ none false) c rfl, Rat.add_zero, Rat.add_zero]
      · intro p hp
        rcases List.mem_append.1 hp with h1 | h1
        · exact hcc p h1
        · cases List.mem_singleton.1 h1; rfl
      · intro i hi
        cases hi
        exact ⟨_, getElem?_length_append ps0 [] _, rfl, rfl, rfl⟩
    · rw [if_neg hc]; exact ⟨fun _ => rfl, hcc, hnp⟩

theorem applyBucket_none (bucket : Option String) (ps : List FPost) (bal : Value) (np : Option Nat)
    (h : (applyBucket bucket ps bal np).2 = none) : (applyBucket bucket ps bal np).1 = ps := by
  cases bucket with
  | none => rfl
  | some b =>
    rw [applyBucket_some] at h ⊢
    split
    · rename_i hc; rw [if_pos hc] at h; cases h
    · rfl

theorem exchPost_hit {env : PrecEnv} {comm : Comm} {pu : Amount} {p : FPost} {amt : Amount}
    (ha : p.amount = some amt) (hc : p.mustBalance = true ∧ amt.comm = comm) :
    exchPost env comm pu p = { p with cost := some (Amount.mul env pu amt), costCalculated := true } := by
  simp only [exchPost, ha]
  exact if_pos hc

theorem exchPost_miss {env : PrecEnv} {comm : Comm} {pu : Amount} {p : FPost}
    (h : ∀ amt, p.amount = some amt → ¬ (p.mustBalance = true ∧ amt.comm = comm)) :
    exchPost env comm pu p = p := by
  unfold exchPost
  split
  · rename_i amt ha; exact if_neg (h amt ha)
  · rfl

theorem exchPost_fields (env : PrecEnv) (comm : Comm) (pu : Amount) (p : FPost) :
    (exchPost env comm pu p).amount = p.amount ∧ (exchPost env comm pu p).lotPrice = p.lotPrice := by
  unfold exchPost
  split
  · split
    · exact ⟨rfl, rfl⟩
    · exact ⟨rfl, rfl⟩
  · exact ⟨rfl, rfl⟩

theorem exchPosts_cons_ok {env : PrecEnv} {comm : Comm} {pu : Amount} {p : FPost} {ps ps' : List FPost}
    {bal bal' : Value} (h : exchPosts env comm pu (p :: ps) bal = .ok (ps', bal')) :
    ∃ amt b r, p.amount = some amt ∧ exchPosts env comm pu ps b = .ok (r, bal') ∧
      ps' = exchPost env comm pu p :: r ∧
      ((p.mustBalance = true ∧ amt.comm = comm ∧ ∃ b1, Value.sub bal (.amt amt) = .ok b1 ∧
          Value.add b1 (.amt (Amount.mul env pu amt)) = .ok b) ∨
       (¬ (p.mustBalance = true ∧ amt.comm = comm) ∧ b = bal)) := by
  unfold exchPosts at h
  split at h
  · cases h
  · rename_i amt ha
    split at h
    · rename_i hcond
      split at h
      · cases h
      · rename_i b1 hsub
        simp only at h
        split at h
        · cases h
        · rename_i b2 hadd
          split at h
          · cases h
          · rename_i r1 b3 hrec
            cases h
            exact ⟨amt, b2, r1, ha, hrec, by rw [exchPost_hit ha hcond],
              Or.inl ⟨hcond.1, hcond.2, b1, hsub, hadd⟩⟩
    · rename_i hcond
      split at h
      · cases h
      · rename_i r1 b3 hrec
        cases h
        exact ⟨amt, bal, r1, ha, hrec, by rw [exchPost_miss (fun a' ha' => by rw [ha] at ha'; cases ha'; exact hcond)],
          Or.inr ⟨hcond, rfl⟩⟩

theorem exchPosts_posts (env : PrecEnv) (comm : Comm) (pu : Amount) (ps : List FPost) :
    ∀ (bal : Value) (ps' : List FPost) (bal' : Value), exchPosts env comm pu ps bal = .ok (ps', bal') →
    ps' = ps.map (exchPost env comm pu) ∧ ∀ p ∈ ps, p.amount.isSome = true := by
  induction ps with
  | nil => intro bal ps' bal' h; cases h; exact ⟨rfl, fun p hp => nomatch hp⟩
  | cons p ps ih =>
    intro bal ps' bal' h
    obtain ⟨amt, b, r, ha, hrec, rfl, _⟩ := exchPosts_cons_ok h
    obtain ⟨rfl, i2⟩ := ih _ _ _ hrec
    refine ⟨rfl, fun q hq => ?_⟩
    rcases List.mem_cons.1 hq with rfl | hq'
    · rw [ha]; rfl
    · exact i2 q hq'

theorem exchPosts_num (env : PrecEnv) (comm : Comm) (pu : Amount) (ps : List FPost) :
    ∀ (bal : Value) (ps' : List FPost) (bal' : Value), exchPosts env comm pu ps bal = .ok (ps', bal') →
    isNum bal = true → wfV bal → isNum bal' = true ∧ wfV bal' := by
  induction ps with
  | nil => intro bal ps' bal' h hn hw; cases h; exact ⟨hn, hw⟩
  | cons p ps ih =>
    intro bal ps' bal' h hn hw
    obtain ⟨amt, b, r, _, hrec, _, ⟨_, _, b1, hsub, hadd⟩ | ⟨_, rfl⟩⟩ := exchPosts_cons_ok h
    · obtain ⟨n1, w1⟩ := sub_amt_spec _ _ _ hsub hw
      obtain ⟨r', hr, n2, w2⟩ := add_amt_spec b1 (Amount.mul env pu amt) n1
      rw [hadd] at hr; cases hr
      exact ih _ _ _ hrec n2 (w2 w1)
    · exact ih _ _ _ hrec hn hw

/-- one step of a loop over the postings: the balance and the posting's
    contribution move by the same amount `g` -/
theorem diff_step {b' r' b1 r b x y g : Rat} (h1 : b' - r' = b1 - r) (h2 : b1 = b + g)
    (h3 : y = x + g) : b' - (y + r') = b - (x + r) := by
  grind

theorem diff_step_sub_add {b' r' b b1 bal r a k : Rat} (h1 : b' - r' = b - r) (h2 : b = b1 + k)
    (h3 : b1 = bal - a) : b' - (k + r') = bal - (a + r) := by
  grind

/-- xact.cc 269-280: the loop that prices the primary commodity keeps
    `balance − Σ cost-or-amount` unchanged. -/
theorem exchPosts_diff (env : PrecEnv) (comm : Comm) (pu : Amount) (ps : List FPost) :
    ∀ (bal : Value) (ps' : List FPost) (bal' : Value), exchPosts env comm pu ps bal = .ok (ps', bal') →
    (∀ p ∈ ps, p.cost = none) →
    ∀ c, bal'.den c - residual ps' c = bal.den c - residual ps c := by
  induction ps with
  | nil => intro bal ps' bal' h _ c; cases h; rfl
  | cons p ps ih =>
    intro bal ps' bal' h hc c
    have hpc : p.cost = none := hc p List.mem_cons_self
    obtain ⟨amt, b, r, ha, hrec, rfl, ⟨hm, hac, b1, hsub, hadd⟩ | ⟨hmiss, rfl⟩⟩ := exchPosts_cons_ok h
    · have e1 := ih _ _ _ hrec (fun q hq => hc q (List.mem_cons_of_mem _ hq)) c
      have e2 := add_amt_den _ _ _ hadd c
      have e3 := sub_amt_den _ _ _ hsub c
      have e4 : p.bal c = amt.den c :=
        bal_of_some p amt c hm (by rw [costOrAmt_of_cost_none p hpc, ha])
      have e5 : (exchPost env comm pu p).bal c = (Amount.mul env pu amt).den c := by
        rw [exchPost_hit ha ⟨hm, hac⟩]
        exact bal_of_some _ _ c hm rfl
      simp only [residual, e4, e5]
      exact diff_step_sub_add e1 e2 e3
    · have e1 := ih _ _ _ hrec (fun q hq => hc q (List.mem_cons_of_mem _ hq)) c
      rw [exchPost_miss (fun a' ha' => by rw [ha] at ha'; cases ha'; exact hmiss)]
      exact diff_step e1 (Rat.add_zero _).symm (Rat.add_zero _).symm

/-- pricing a quantity `a` of the primary commodity (`P`: we look at the primary
    commodity, `Q`: at the cost's) at `q` per unit, as a multiple of `a` -/
theorem price_shift (a q : Rat) (P Q : Prop) [Decidable P] [Decidable Q] :
    (if Q then q * a else 0) =
      (if P then a else 0) + ((if P then -1 else 0) + (if Q then q else 0)) * a := by
  have hP : (if P then a else 0) + (if P then -1 else 0) * a = 0 := by
    split
    · rw [Rat.neg_mul, Rat.one_mul, Rat.add_neg_cancel]
    · rw [Rat.zero_mul, Rat.add_zero]
  have hQ : (if Q then q else 0) * a = if Q then q * a else 0 := by
    split
    · rfl
    · exact Rat.zero_mul _
  rw [Rat.add_mul, ← Rat.add_assoc, hP, Rat.zero_add, hQ]

/-- the effect of `exchPost` on a posting's contribution, as a multiple of its
    contribution in the primary commodity -/
theorem exchPost_bal (env : PrecEnv) (comm : Comm) (pu : Amount) (hpu : pu.hasComm = true) (p : FPost)
    (hpc : p.cost = none) (c : Comm) :
    (exchPost env comm pu p).bal c =
      p.bal c + ((if comm = c then -1 else 0) + (if pu.comm = c then pu.q else 0)) * p.bal comm := by
  by_cases hit : ∃ amt, p.amount = some amt ∧ p.mustBalance = true ∧ amt.comm = comm
  · obtain ⟨amt, ha, hm, hac⟩ := hit
    have hco : costOrAmt p = some amt := by rw [costOrAmt_of_cost_none p hpc, ha]
    rw [exchPost_hit ha ⟨hm, hac⟩,
      bal_of_some { p with cost := some (Amount.mul env pu amt), costCalculated := true } _ c hm rfl,
      bal_of_some p amt c hm hco,
      bal_of_some p amt comm hm hco]
    simp only [Amount.den, Amount.mul_comm_of_hasComm env pu amt hpu, Amount.mul_q, hac, if_true]
    exact price_shift amt.q pu.q (comm = c) (pu.comm = c)
  · have h0 : p.bal comm = 0 := by
      by_cases hm : p.mustBalance = true
      · cases ha : p.amount with
        | none => exact bal_of_none p comm (by rw [costOrAmt_of_cost_none p hpc, ha])
        | some amt =>
          rw [bal_of_some p amt comm hm (by rw [costOrAmt_of_cost_none p hpc, ha])]
          exact if_neg (fun e => hit ⟨amt, ha, hm, e⟩)
      · exact bal_of_not_mustBalance p comm (by simpa using hm)
    rw [exchPost_miss (fun amt ha hc => hit ⟨amt, ha, hc.1, hc.2⟩), h0, Rat.mul_zero, Rat.add_zero]

theorem residual_map_exchPost (env : PrecEnv) (comm : Comm) (pu : Amount) (hpu : pu.hasComm = true)
    (ps : List FPost) (hc : ∀ p ∈ ps, p.cost = none) (c : Comm) :
    residual (ps.map (exchPost env comm pu)) c =
      residual ps c + ((if comm = c then -1 else 0) + (if pu.comm = c then pu.q else 0)) * residual ps comm := by
  induction ps with
  | nil => simp only [List.map_nil, residual, Rat.mul_zero, Rat.add_zero]
  | cons p ps ih =>
    simp only [List.map_cons, residual, ih (fun q hq => hc q (List.mem_cons_of_mem _ hq)),
      exchPost_bal env comm pu hpu p (hc p List.mem_cons_self) c]
    rw [Rat.mul_add, Rat.add_assoc, Rat.add_assoc, Rat.add_left_comm (_ * _)]

theorem price_shift_total {b' b r R q : Rat} {P Q : Prop} [Decidable P] [Decidable Q]
    (e : b' - (r + ((if P then -1 else 0) + (if Q then q else 0)) * R) = b - r) :
    b' = b - (if P then R else 0) + (if Q then q * R else 0) := by
  rw [price_shift R q P Q]
  generalize ((if P then -1 else 0) + (if Q then q else 0)) * R = k at e ⊢
  generalize (if P then R else 0) = u
  rw [← Rat.add_assoc, Rat.sub_add_cancel, ← Rat.sub_add_cancel (a := b) (b := r), ← e, Rat.add_assoc,
    Rat.sub_add_cancel]

/-- explicit effect of the pricing loop (xact.cc 269-280) on the balance when no
    posting carries a cost yet -/
theorem exchPosts_den (env : PrecEnv) (comm : Comm) (pu : Amount) (hpu : pu.hasComm = true)
    (ps : List FPost) : ∀ (bal : Value) (ps' : List FPost) (bal' : Value),
    exchPosts env comm pu ps bal = .ok (ps', bal') → (∀ p ∈ ps, p.cost = none) →
    ∀ c, bal'.den c = bal.den c - (if comm = c then residual ps comm else 0)
                        + (if pu.comm = c then pu.q * residual ps comm else 0) := by
  intro bal ps' bal' h hc c
  have e1 := exchPosts_diff env comm pu ps bal ps' bal' h hc c
  rw [(exchPosts_posts env comm pu ps bal ps' bal' h).1, residual_map_exchPost env comm pu hpu ps hc c] at e1
  exact price_shift_total e1

/-- xact.cc 230-245: a written cost is seen by the scan for the primary posting. -/
theorem topScan_true_of_cost (ps : List FPost) : ∀ (top : Option FPost),
    (∃ p ∈ ps, p.cost.isSome = true ∧ p.costCalculated = false) → (topScan ps top).1 = true := by
  induction ps with
  | nil => intro _ ⟨p, hp, _⟩; cases hp
  | cons q qs ih =>
    intro top ⟨p, hp, hpc⟩
    unfold topScan
    simp only
    by_cases hq : q.cost.isSome = true ∧ q.costCalculated = false
    · rw [if_pos hq]
    · rw [if_neg hq]
      rcases List.mem_cons.1 hp with rfl | hp'
      · exact absurd hpc hq
      · exact ih _ ⟨p, hp', hpc⟩

theorem exchangeWith_ok {env : PrecEnv} {x y : Amount} {ps ps' : List FPost} {bal bal' : Value}
    (h : exchangeWith env x y ps bal = .ok (ps', bal')) :
    ∃ r, Amount.div env y x = .ok r ∧
      exchPosts env x.comm { r.abs with keep := true } ps bal = .ok (ps', bal') := by
  unfold exchangeWith at h
  split at h
  · cases h
  · rename_i r hr; exact ⟨r, hr, h⟩

theorem exchangeWith_inv (env : PrecEnv) (x y : Amount) (ps : List FPost) (bal : Value)
    (ps' : List FPost) (bal' : Value)
    (h : exchangeWith env x y ps bal = .ok (ps', bal')) (hnc : ∀ p ∈ ps, p.cost = none)
    (hn : isNum bal = true) (hw : wfV bal) :
    isNum bal' = true ∧ wfV bal' ∧
    (∀ c, bal'.den c - residual ps' c = bal.den c - residual ps c) ∧
    (∀ p ∈ ps', p.amount.isSome = true) := by
  obtain ⟨r, _, h⟩ := exchangeWith_ok h
  obtain ⟨n1, w1⟩ := exchPosts_num _ _ _ ps _ _ _ h hn hw
  obtain ⟨rfl, hs⟩ := exchPosts_posts _ _ _ ps _ _ _ h
  refine ⟨n1, w1, exchPosts_diff _ _ _ ps _ _ _ h hnc, fun p hp => ?_⟩
  obtain ⟨q, hq, rfl⟩ := List.mem_map.1 hp
  rw [(exchPost_fields _ _ _ q).1]; exact hs q hq

theorem exchange2_some (env : PrecEnv) (enum : Balance → Balance) (ps : List FPost) (bal : Value)
    (i : Nat) : exchange2 env enum ps bal (some i) = .ok (ps, bal) := rfl

/-- xact.cc 220-283: nothing happens unless there is no null posting, the residual
    has exactly two entries `x`, `y` that both display non-zero and no cost was
    seen; then the postings in `x`'s commodity are priced in `y`'s. -/
theorem exchange2_eq {env : PrecEnv} {enum : Balance → Balance} {ps : List FPost} {bal : Value}
    {np : Option Nat} {r : Except FinErr (List FPost × Value)} (h : exchange2 env enum ps bal np = r) :
    r = .ok (ps, bal) ∨
    ∃ b x y top, np = none ∧ bal = .bal b ∧ b.length = 2 ∧ topScan ps none = (false, some top) ∧
      (enum b = [x, y] ∨ enum b = [y, x]) ∧ x.isZero env = false ∧ y.isZero env = false ∧
      r = exchangeWith env x y ps bal := by
  unfold exchange2 at h
  split at h
  · rename_i b
    by_cases hl : b.length = 2
    · rw [if_pos hl] at h
      split at h
      · rename_i top hts
        split at h
        · rename_i x0 y0 hen
          by_cases hnz : x0.isZero env = false ∧ y0.isZero env = false
          · rw [if_pos hnz] at h
            split at h
            · exact Or.inr ⟨b, y0, x0, top, rfl, rfl, hl, hts, Or.inr hen, hnz.2, hnz.1, h.symm⟩
            · exact Or.inr ⟨b, x0, y0, top, rfl, rfl, hl, hts, Or.inl hen, hnz.1, hnz.2, h.symm⟩
          · rw [if_neg hnz] at h; exact Or.inl h.symm
        · exact Or.inl h.symm
      · exact Or.inl h.symm
    · rw [if_neg hl] at h; exact Or.inl h.symm
  · exact Or.inl h.symm

theorem exchange2_cases {env : PrecEnv} {enum : Balance → Balance} {ps ps' : List FPost}
    {bal bal' : Value} {np : Option Nat} (h : exchange2 env enum ps bal np = .ok (ps', bal')) :
    (ps' = ps ∧ bal' = bal) ∨
    ∃ b x y, np = none ∧ bal = .bal b ∧ (topScan ps none).1 = false ∧
      (enum b = [x, y] ∨ enum b = [y, x]) ∧ x.isZero env = false ∧ y.isZero env = false ∧
      exchangeWith env x y ps bal = .ok (ps', bal') := by
  rcases exchange2_eq h with e | ⟨b, x, y, top, hnp, hb, _, hts, hen, hx, hy, e⟩
  · cases e; exact Or.inl ⟨rfl, rfl⟩
  · exact Or.inr ⟨b, x, y, hnp, hb, by rw [hts], hen, hx, hy, e.symm⟩

theorem exchange2_inv (env : PrecEnv) (enum : Balance → Balance) (ps : List FPost) (bal : Value)
    (np : Option Nat) (ps' : List FPost) (bal' : Value)
    (h : exchange2 env enum ps bal np = .ok (ps', bal'))
    (hcc : ∀ p ∈ ps, p.costCalculated = false)
    (hn : isNum bal = true) (hw : wfV bal) :
    isNum bal' = true ∧ wfV bal' ∧
    (∀ c, bal'.den c - residual ps' c = bal.den c - residual ps c) ∧
    ((∀ p ∈ ps, p.lotPrice = none) → ∀ p ∈ ps', p.lotPrice = none) := by
  rcases exchange2_cases h with ⟨rfl, rfl⟩ | ⟨b, x, y, _, _, hts, _, _, _, hew⟩
  · exact ⟨hn, hw, fun _ => rfl, fun x => x⟩
  · have hnc : ∀ p ∈ ps, p.cost = none := by
      intro p hp
      cases hpc : p.cost with
      | none => rfl
      | some c =>
        have := topScan_true_of_cost ps none ⟨p, hp, by rw [hpc]; rfl, hcc p hp⟩
        rw [hts] at this; cases this
    obtain ⟨i1, i2, i3, _⟩ := exchangeWith_inv env x y ps bal ps' bal' hew hnc hn hw
    refine ⟨i1, i2, i3, fun hl p hp => ?_⟩
    obtain ⟨r, _, hx⟩ := exchangeWith_ok hew
    rw [(exchPosts_posts _ _ _ ps _ _ _ hx).1] at hp
    obtain ⟨q, hq, rfl⟩ := List.mem_map.1 hp
    rw [(exchPost_fields _ _ _ q).2]; exact hl q hq

theorem implicitExchange_false_of_cost (env : PrecEnv) (ps : List FPost)
    (h : ∃ p ∈ ps, p.cost.isSome = true ∧ p.costCalculated = false) :
    implicitExchange env ps = false := by
  unfold implicitExchange
  split
  · simp [topScan_true_of_cost ps none h]
  · rfl

theorem exchange2_id_of_not_implicit (env : PrecEnv) (enum : Balance → Balance)
    (henum : ∀ b, (enum b).Perm b) (ps : List FPost) (bal : Value)
    (hs : scan ps 0 .void none = .ok (bal, none)) (h : implicitExchange env ps = false) :
    exchange2 env enum ps bal none = .ok (ps, bal) := by
  rcases exchange2_eq (rfl : exchange2 env enum ps bal none = _) with e | ⟨b, x, y, top, _, rfl, hl, hts, hen, hx, hy, _⟩
  · exact e
  · have hmem : ∀ a ∈ b, a = x ∨ a = y := by
      intro a ha
      have hm := (henum b).mem_iff.2 ha
      rcases hen with hen | hen <;> rw [hen] at hm <;>
        simp only [List.mem_cons, List.not_mem_nil, or_false] at hm
      · exact hm
      · exact hm.symm
    have hall : b.all (fun a => !a.isZero env) = true := by
      rw [List.all_eq_true]
      intro a ha
      rcases hmem a ha with rfl | rfl
      · rw [hx]; rfl
      · rw [hy]; rfl
    simp [implicitExchange, hs, hl, hts, hall] at h

/-- pricing `x` in `y`'s commodity at `p` per unit moves a balance `x + y` to
    `y + p·x`, all of it in `y`'s commodity -/
theorem exch_den_arith {b' xq yq pq : Rat} {xc yc c : Comm}
    (e : b' = (if xc = c then xq else 0) + (if yc = c then yq else 0) - (if xc = c then xq else 0)
      + (if yc = c then pq * xq else 0)) :
    b' = if yc = c then yq + pq * xq else 0 := by
  rw [e, Rat.add_comm (if xc = c then xq else 0), Rat.add_sub_cancel]
  by_cases h : yc = c
  · rw [if_pos h, if_pos h, if_pos h]
  · rw [if_neg h, if_neg h, if_neg h]; exact Rat.add_zero 0

/-- The implicit two-commodity exchange on exact amounts: if the result passes
    the display-zero test, the residual is exactly zero (`y + |y/x|·x` is `0` or
    `2y`, and `2y` is a non-zero multiple of the display unit). -/
theorem exchangeWith_exact (env : PrecEnv) (x y : Amount) (bal : Value) (ps ps' : List FPost)
    (bal' : Value) (hxy : x.comm ≠ y.comm) (hy : Exact env y)
    (hxz : x.isZero env = false)
    (h : exchangeWith env x y ps bal = .ok (ps', bal')) (hnc : ∀ p ∈ ps, p.cost = none)
    (hden : ∀ c, bal.den c = x.den c + y.den c) (hres : ∀ c, bal.den c = residual ps c)
    (hdz : ∀ c, displaysZero env c (bal'.den c) = true) : ∀ c, bal'.den c = 0 := by
  obtain ⟨r, hdiv, h⟩ := exchangeWith_ok h
  have hrc : r.comm = y.comm := div_comm_of_hasComm hdiv hy.1
  have hpuc : ({ r.abs with keep := true } : Amount).comm = y.comm := by
    simp only [abs_comm, hrc]
  have hpuh : ({ r.abs with keep := true } : Amount).hasComm = true := by
    have := hy.1
    simp only [Amount.hasComm] at this ⊢
    rw [hpuc]; exact this
  have hR : residual ps x.comm = x.q := by
    rw [← hres x.comm, hden x.comm]
    simp only [Amount.den, if_neg (Ne.symm hxy), ↓reduceIte, Rat.add_zero]
  intro c
  have e := exchPosts_den env x.comm _ hpuh ps bal ps' bal' h hnc c
  rw [hpuc, hR, hden c] at e
  have e' := exch_den_arith e
  by_cases h2 : y.comm = c
  · rw [if_pos h2] at e'
    have e'' : bal'.den c = y.q + r.abs.q * x.q := e'
    rcases abs_q_mul r x.q y.q (Amount.isZero_false_ne hxz) (Amount.div_q hdiv) with h3 | h3
    · -- same sign: the residual would be 2y, a non-zero multiple of the display unit
      rw [h3] at e''
      obtain ⟨yh, _, _, m, ym⟩ := hy
      have hval : bal'.den c = mkRat (m + m) (10 ^ env c) := by
        rw [e'', ym, h2]
        exact mkRat_add_same m m (10 ^ env c) (pow10_ne _)
      by_cases hm : m + m = 0
      · rw [hval, hm]; exact Rat.zero_mkRat _
      · have hcne : c ≠ "" := h2 ▸ of_decide_eq_true yh
        have := displaysZero_grid_false env c hcne (m + m) hm
        rw [← hval, hdz c] at this; cases this
    · rw [e'', h3]; exact Rat.add_neg_cancel _
  · rw [e', if_neg h2]

theorem lotStep_nocost (env : PrecEnv) (date : String) (p : FPost) (h : p.cost = none) :
    lotStep env date p = .ok (p, none) := by
  unfold lotStep
  rw [h]

theorem lotStep_noamt (env : PrecEnv) (date : String) (p : FPost) (h : p.amount = none) :
    lotStep env date p = .ok (p, none) := by
  unfold lotStep
  rw [h]
  cases p.cost <;> rfl

/-- no lot price: the amount is annotated with the computed per-unit cost and the date -/
theorem lotStep_annotate {env : PrecEnv} {date : String} {p : FPost} {cost amt : Amount}
    (hc : p.cost = some cost) (ha : p.amount = some amt) (hl : p.lotPrice = none) :
    lotStep env date p =
      match perUnitCost env amt cost with
      | .error e => .error e
      | .ok pu => .ok (annotatedPost p amt pu date, none) := by
  simp only [lotStep, hc, ha, hl, annotatedPost]
  rfl

/-- a lot price: the cost moves to the basis cost when the two differ visibly -/
theorem lotStep_priced {env : PrecEnv} {date : String} {p : FPost} {cost amt price : Amount}
    (hc : p.cost = some cost) (ha : p.amount = some amt) (hl : p.lotPrice = some price) :
    lotStep env date p =
      if (basisCost env price amt).comm = cost.comm then
        match Amount.sub (basisCost env price amt) cost with
        | .error e => .error (.value e)
        | .ok gl =>
          if gl.isZero env = false then
            match Amount.add cost { gl with keep := false } with
            | .error e => .error (.value e)
            | .ok c' => .ok ({ p with cost := some c' },
                             if p.mustBalance then some { gl with keep := false } else none)
          else .ok (p, none)
      else .ok (p, none) := by
  unfold lotStep
  rw [hc, ha, hl]
  rfl

/-- the three outcomes of the step on a posting with a lot price: an error of the
    value arithmetic; the posting as it is, when basis cost and cost are in different
    commodities or do not differ visibly; the cost moved by the rounded gain/loss -/
theorem lotStep_priced_cases {env : PrecEnv} {date : String} {p : FPost} {cost amt price : Amount}
    (hc : p.cost = some cost) (ha : p.amount = some amt) (hl : p.lotPrice = some price) :
    (∃ v, lotStep env date p = .error (.value v)) ∨
    (lotStep env date p = .ok (p, none) ∧
      ((basisCost env price amt).comm = cost.comm →
        ∃ g, Amount.sub (basisCost env price amt) cost = .ok g ∧ g.isZero env = true)) ∨
    ∃ g c', (basisCost env price amt).comm = cost.comm ∧
      Amount.sub (basisCost env price amt) cost = .ok g ∧ g.isZero env = false ∧
      Amount.add cost { g with keep := false } = .ok c' ∧
      lotStep env date p = .ok ({ p with cost := some c' },
        if p.mustBalance then some { g with keep := false } else none) := by
  have e := lotStep_priced (env := env) (date := date) hc ha hl
  by_cases hbc : (basisCost env price amt).comm = cost.comm
  · rw [if_pos hbc] at e
    cases hsub : Amount.sub (basisCost env price amt) cost with
    | error v => rw [hsub] at e; exact Or.inl ⟨v, e⟩
    | ok g =>
      simp only [hsub] at e
      cases hz : g.isZero env with
      | true => rw [hz] at e; exact Or.inr (Or.inl ⟨e, fun _ => ⟨g, rfl, hz⟩⟩)
      | false =>
        rw [hz, if_pos rfl] at e
        cases hadd : Amount.add cost { g with keep := false } with
        | error v => rw [hadd] at e; exact Or.inl ⟨v, e⟩
        | ok c' => rw [hadd] at e; exact Or.inr (Or.inr ⟨g, c', hbc, rfl, hz, hadd, e⟩)
  · rw [if_neg hbc] at e
    exact Or.inr (Or.inl ⟨e, fun h => absurd h hbc⟩)

/-- what one step of the cost loop does to a posting: flags, account and kind
    stay; its contribution to the residual moves by exactly the gain/loss that is
    handed to the balance -/
theorem lotStep_spec (env : PrecEnv) (date : String) (p p' : FPost) (gl : Option Amount)
    (h : lotStep env date p = .ok (p', gl)) :
    p'.mustBalance = p.mustBalance ∧ p'.account = p.account ∧ p'.kind = p.kind ∧
    p'.amount.isSome = p.amount.isSome ∧ p'.costCalculated = p.costCalculated ∧
    (∀ c, p'.bal c = p.bal c + glDen gl c) ∧
    (p.lotPrice = none → gl = none) := by
  have same : (Except.ok (p, none) : Except FinErr (FPost × Option Amount)) = .ok (p', gl) →
      p'.mustBalance = p.mustBalance ∧ p'.account = p.account ∧ p'.kind = p.kind ∧
      p'.amount.isSome = p.amount.isSome ∧ p'.costCalculated = p.costCalculated ∧
      (∀ c, p'.bal c = p.bal c + glDen gl c) ∧ (p.lotPrice = none → gl = none) := by
    intro e
    cases e
    exact ⟨rfl, rfl, rfl, rfl, rfl, fun c => (Rat.add_zero _).symm, fun _ => rfl⟩
  rcases Option.eq_none_or_eq_some p.cost with hc | ⟨cost, hc⟩
  · rw [lotStep_nocost _ _ _ hc] at h; exact same h
  rcases Option.eq_none_or_eq_some p.amount with ha | ⟨amt, ha⟩
  · rw [lotStep_noamt _ _ _ ha] at h; exact same h
  rcases Option.eq_none_or_eq_some p.lotPrice with hl | ⟨price, hl⟩
  · rw [lotStep_annotate hc ha hl] at h
    cases hpu : perUnitCost env amt cost with
    | error e => rw [hpu] at h; cases h
    | ok pu =>
      rw [hpu] at h; cases h
      refine ⟨rfl, rfl, rfl, by show true = _; rw [ha]; rfl, rfl, fun c => ?_, fun _ => rfl⟩
      -- the annotated posting still has its cost, which is what it contributes
      rw [bal_congr (p := p) (p' := annotatedPost p amt pu date) rfl
        ((costOrAmt_of_cost_some (annotatedPost p amt pu date) cost hc).trans
          (costOrAmt_of_cost_some p cost hc).symm)]
      exact (Rat.add_zero _).symm
  · rcases lotStep_priced_cases (env := env) (date := date) hc ha hl with
      ⟨v, e⟩ | ⟨e, _⟩ | ⟨g, c', hbc, hsub, _, hadd, e⟩
    · cases e.symm.trans h
    · exact same (e.symm.trans h)
    · cases e.symm.trans h
      refine ⟨rfl, rfl, rfl, rfl, rfl, fun c => ?_, fun e => by rw [hl] at e; cases e⟩
      cases hm : p.mustBalance with
      | false =>
        rw [bal_of_not_mustBalance p c hm, bal_of_not_mustBalance { p with cost := some c' } c hm]
        exact (Rat.add_zero _).symm
      | true =>
        rw [bal_of_some p cost c hm (costOrAmt_of_cost_some p cost hc),
          bal_of_some { p with cost := some c' } c' c hm rfl]
        exact Amount.add_den hadd ((amount_sub_ok hsub).2.2.trans hbc).symm c

theorem perUnitCost_error (env : PrecEnv) (amt cost : Amount) (e : FinErr)
    (h : perUnitCost env amt cost = .error e) : ∃ v, e = .value v := by
  unfold perUnitCost at h
  split at h
  · cases h
  · split at h
    · cases h
    · cases h; exact ⟨_, rfl⟩

/-- `exchange()` never fails on its own: the division is guarded by `amount.is_zero()` -/
theorem perUnitCost_ok (env : PrecEnv) (amt cost : Amount) : ∃ pu, perUnitCost env amt cost = .ok pu := by
  unfold perUnitCost
  by_cases hz : amt.isZero env = true
  · rw [if_pos hz]; exact ⟨_, rfl⟩
  · rw [if_neg hz]
    unfold Amount.div
    rw [if_neg hz]
    exact ⟨_, rfl⟩

/-- the cost loop can only fail with an error of the value arithmetic -/
theorem lotStep_error (env : PrecEnv) (date : String) (p : FPost) (e : FinErr)
    (h : lotStep env date p = .error e) : ∃ v, e = .value v := by
  rcases Option.eq_none_or_eq_some p.cost with hc | ⟨cost, hc⟩
  · rw [lotStep_nocost _ _ _ hc] at h; cases h
  rcases Option.eq_none_or_eq_some p.amount with ha | ⟨amt, ha⟩
  · rw [lotStep_noamt _ _ _ ha] at h; cases h
  rcases Option.eq_none_or_eq_some p.lotPrice with hl | ⟨price, hl⟩
  · rw [lotStep_annotate hc ha hl] at h
    cases hpu : perUnitCost env amt cost with
    | error e' => rw [hpu] at h; cases h; exact perUnitCost_error env amt cost _ hpu
    | ok pu => rw [hpu] at h; cases h
  · rcases lotStep_priced_cases (env := env) (date := date) hc ha hl with
      ⟨v, e'⟩ | ⟨e', _⟩ | ⟨_, _, _, _, _, _, e'⟩
    · cases e'.symm.trans h; exact ⟨v, rfl⟩
    · cases e'.symm.trans h
    · cases e'.symm.trans h

theorem lotStep_nogain (env : PrecEnv) (date : String) (p : FPost)
    (h : p.lotPrice = none ∨ p.cost = none) : ∃ p', lotStep env date p = .ok (p', none) := by
  rcases h with h | h
  · cases hc : p.cost with
    | none => exact ⟨p, lotStep_nocost env date p hc⟩
    | some cost =>
      cases ha : p.amount with
      | none => exact ⟨p, lotStep_noamt env date p ha⟩
      | some amt =>
        obtain ⟨pu, hpu⟩ := perUnitCost_ok env amt cost
        rw [lotStep_annotate hc ha h, hpu]
        exact ⟨_, rfl⟩
  · exact ⟨p, lotStep_nocost env date p h⟩

theorem addGain_spec (bal bal' : Value) (gl : Option Amount) (h : addGain bal gl = .ok bal')
    (hn : isNum bal = true) (hw : wfV bal) :
    isNum bal' = true ∧ wfV bal' ∧ ∀ c, bal'.den c = bal.den c + glDen gl c := by
  cases gl with
  | none => cases h; exact ⟨hn, hw, fun c => (Rat.add_zero _).symm⟩
  | some g =>
    obtain ⟨r, hr, n, w⟩ := add_amt_spec bal g hn
    simp only [addGain, hr] at h
    cases h
    exact ⟨n, w hw, add_amt_den _ _ _ hr⟩

theorem lotLoop_cons {env : PrecEnv} {date : String} {p p1 : FPost} {gl : Option Amount} {bal b1 : Value}
    (hs : lotStep env date p = .ok (p1, gl)) (hg : addGain bal gl = .ok b1) (ps : List FPost) :
    lotLoop env date (p :: ps) bal =
      match lotLoop env date ps b1 with
      | .error e => .error e
      | .ok (r, b) => .ok (p1 :: r, b) := by
  simp only [lotLoop, hs, hg]
  rfl

theorem lotLoop_cons_ok {env : PrecEnv} {date : String} {p : FPost} {ps ps' : List FPost}
    {bal bal' : Value} (h : lotLoop env date (p :: ps) bal = .ok (ps', bal')) :
    ∃ p1 gl b1 rs, lotStep env date p = .ok (p1, gl) ∧ addGain bal gl = .ok b1 ∧
      lotLoop env date ps b1 = .ok (rs, bal') ∧ ps' = p1 :: rs := by
  unfold lotLoop at h
  split at h
  · cases h
  · rename_i p1 gl hs
    split at h
    · cases h
    · rename_i b1 hg
      split at h
      · cases h
      · rename_i rs b2 hr
        cases h
        exact ⟨p1, gl, b1, rs, hs, hg, hr, rfl⟩

/-- xact.cc 288-352 as a whole keeps `balance − Σ cost-or-amount` unchanged. -/
theorem lotLoop_inv (env : PrecEnv) (date : String) (ps : List FPost) :
    ∀ (bal : Value) (ps' : List FPost) (bal' : Value),
    lotLoop env date ps bal = .ok (ps', bal') → isNum bal = true → wfV bal →
    isNum bal' = true ∧ wfV bal' ∧
    (∀ c, bal'.den c - residual ps' c = bal.den c - residual ps c) ∧
    (∀ (i : Nat) (n : FPost), ps[i]? = some n → nullMB n → ps'[i]? = some n) ∧
    ((∀ p ∈ ps, p.lotPrice = none) → bal' = bal ∧ ∀ c, residual ps' c = residual ps c) := by
  induction ps with
  | nil =>
    intro bal ps' bal' h hn hw
    cases h
    exact ⟨hn, hw, fun _ => rfl, fun i n h1 _ => by simp at h1, fun _ => ⟨rfl, fun _ => rfl⟩⟩
  | cons p ps ih =>
    intro bal ps' bal' h hn hw
    obtain ⟨p1, gl, b1, rs, hs, hg, hr, rfl⟩ := lotLoop_cons_ok h
    obtain ⟨_, _, _, _, _, s6, s7⟩ := lotStep_spec env date p p1 gl hs
    obtain ⟨g1, g2, g3⟩ := addGain_spec bal b1 gl hg hn hw
    obtain ⟨i1, i2, i3, i4, i5⟩ := ih _ _ _ hr g1 g2
    refine ⟨i1, i2, fun c => ?_, ?_, ?_⟩
    · exact diff_step (i3 c) (g3 c) (s6 c)
    · intro i n hi hnull
      cases i with
      | zero =>
        cases hi
        rw [lotStep_nocost env date p hnull.2.1] at hs
        cases hs
        rfl
      | succ k => exact i4 k n hi hnull
    · intro hnp
      have hgl : gl = none := s7 (hnp p List.mem_cons_self)
      subst hgl
      cases hg
      obtain ⟨j1, j2⟩ := i5 (fun q hq => hnp q (List.mem_cons_of_mem _ hq))
      refine ⟨j1, fun c => ?_⟩
      have := s6 c
      simp only [residual, j2 c, this]
      exact congrArg (· + residual ps c) (Rat.add_zero _)

theorem lotLoop_nogain (env : PrecEnv) (date : String) (ps : List FPost) :
    ∀ (bal : Value), (∀ p ∈ ps, p.lotPrice = none ∨ p.cost = none) →
    ∃ ps', lotLoop env date ps bal = .ok (ps', bal) ∧ ∀ c, residual ps' c = residual ps c := by
  induction ps with
  | nil => intro bal _; exact ⟨[], rfl, fun _ => rfl⟩
  | cons p ps ih =>
    intro bal hp
    obtain ⟨p1, hs⟩ := lotStep_nogain env date p (hp p List.mem_cons_self)
    obtain ⟨_, _, _, _, _, s6, _⟩ := lotStep_spec env date p p1 none hs
    obtain ⟨rs, h1, h2⟩ := ih bal (fun q hq => hp q (List.mem_cons_of_mem _ hq))
    rw [lotLoop_cons hs rfl, h1]
    refine ⟨p1 :: rs, rfl, fun c => ?_⟩
    simp only [residual, h2 c, s6 c]
    exact congrArg (· + residual ps c) (Rat.add_zero _)

/-- xact.cc 363-370: the amounts handed to `add_balancing_post` are the entries
    of the residual, each commodity once, in `compare_by_commodity` order. -/
theorem fillAmounts_spec (enum : Balance → Balance) (henum : ∀ b, (enum b).Perm b) (bal : Value)
    (amts : List Amount) (h : fillAmounts enum bal = .ok amts) (hw : wfV bal) :
    (∀ c, Balance.den amts c = bal.den c) ∧ (Balance.comms amts).Nodup ∧
    amts.Pairwise (fun x y => commLe x.comm y.comm = true) := by
  cases bal with
  | void => cases h; exact ⟨fun _ => rfl, List.nodup_nil, List.Pairwise.nil⟩
  | bool b =>
    cases b
    · cases h; exact ⟨fun _ => rfl, List.nodup_nil, List.Pairwise.nil⟩
    · cases h
  | int n =>
    cases h
    refine ⟨fun c => ?_, List.pairwise_singleton _ _, List.pairwise_singleton _ _⟩
    simp only [Balance.den_cons, Balance.den_nil, Value.den, Amount.den_ofInt, Rat.add_zero]
  | amt a =>
    cases h
    refine ⟨fun c => ?_, List.pairwise_singleton _ _, List.pairwise_singleton _ _⟩
    simp only [Balance.den_cons, Balance.den_nil, Value.den, Rat.add_zero]
  | bal b =>
    cases h
    have hp := sortedAmounts_perm enum henum b
    exact ⟨fun c => Balance.den_perm hp c, Balance.nodup_comms_perm hp.symm hw, sortedAmounts_sorted enum b⟩

theorem fillAmounts_order_free (e₁ e₂ : Balance → Balance) (h₁ : ∀ b, (e₁ b).Perm b)
    (h₂ : ∀ b, (e₂ b).Perm b) (bal : Value) (hw : wfV bal) :
    fillAmounts e₁ bal = fillAmounts e₂ bal := by
  cases bal with
  | bal b => simp only [fillAmounts]; rw [sortedAmounts_order_free e₁ e₂ h₁ h₂ b hw]
  | _ => rfl

theorem bal_fill (n : FPost) (hm : n.mustBalance = true) (hnc : n.cost = none) (a : Amount) (g : Bool)
    (c : Comm) :
    ({ n with amount := some a.neg, calculated := true, generated := g } : FPost).bal c = - a.den c := by
  rw [bal_of_some { n with amount := some a.neg, calculated := true, generated := g } a.neg c hm
    (costOrAmt_of_cost_none { n with amount := some a.neg, calculated := true, generated := g } hnc),
    Amount.den_neg]

theorem residual_generated (n : FPost) (hm : n.mustBalance = true) (hnc : n.cost = none)
    (rest : List Amount) (c : Comm) :
    residual (rest.map (fun r => ({ n with amount := some r.neg, calculated := true, generated := true } : FPost))) c
      = - Balance.den rest c := by
  induction rest with
  | nil => exact Rat.neg_zero.symm
  | cons r rs ih =>
    simp only [List.map_cons, residual, ih, Balance.den_cons, bal_fill n hm hnc r true c, Rat.neg_add]

theorem residual_set (ps : List FPost) : ∀ (i : Nat) (n p' : FPost) (c : Comm), ps[i]? = some n →
    residual (ps.set i p') c = residual ps c - n.bal c + p'.bal c := by
  induction ps with
  | nil => intro i n p' c h; cases h
  | cons x xs ih =>
    intro i n p' c h
    cases i with
    | zero =>
      cases h
      rw [List.set_cons_zero, residual, residual, Rat.add_comm (x.bal c), Rat.add_sub_cancel, Rat.add_comm]
    | succ k =>
      simp only [List.set_cons_succ, residual, ih k n p' c h, Rat.sub_eq_add_neg, Rat.add_assoc]

/-- add_balancing_post: after filling, the residual has gone down by exactly the
    amounts that were offset. -/
theorem residual_fillPosts (ps : List FPost) (i : Nat) (n : FPost) (amts : List Amount) (c : Comm)
    (hi : ps[i]? = some n) (hn : nullMB n) :
    residual (fillPosts ps i n amts) c = residual ps c - Balance.den amts c := by
  cases amts with
  | nil => simp only [fillPosts, Balance.den_nil, Rat.sub_eq_add_neg, Rat.neg_zero, Rat.add_zero]
  | cons a rest =>
    simp only [fillPosts, residual_append, residual_set ps i n _ c hi, residual_generated n hn.1 hn.2.1,
      Balance.den_cons, bal_of_none n c hn.costOrAmt]
    rw [bal_fill n hn.1 hn.2.1 a n.generated c]
    grind

theorem fillNull_some {ps : List FPost} {i : Nat} {n : FPost} (hi : ps[i]? = some n)
    (enum : Balance → Balance) (bal : Value) :
    fillNull enum ps bal (some i) =
      match fillAmounts enum bal with
      | .error e => .error e
      | .ok amts => .ok (fillPosts ps i n amts, .void) := by
  simp only [fillNull, hi]
  rfl

/-- xact.cc 377: the test `!balance.is_null() && !balance.is_zero()` is passed
    exactly when the balance is zero in the sense of `valueIsZero` (VOID is). -/
theorem zeroTest_passed_iff (env : PrecEnv) (v : Value) :
    ¬ (isNull v = false ∧ valueIsZero env v = false) ↔ valueIsZero env v = true := by
  cases v <;> simp [isNull, valueIsZero]

theorem finish_posts (ps : List FPost) (x' : FXact) (h : finish ps = .ok x') : x'.posts = ps := by
  unfold finish at h
  split at h
  · cases h
  · split at h
    · cases h
    · cases h; rfl

end FinX
end Ledger
