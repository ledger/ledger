/-
Lemmas for C15.compile_sound_partial.

First `calcStep_noRec`: a calc that succeeded without `rec` and without a scope (what `foldCalc`
runs) succeeds alike with any `rec` in any scope (with `noRec`, `binRest_mono`,
`callLambda_noRec`).

Then constant folding (op.cc 214-218): `Fold a b` relates a tree to the one it was folded from;
`RValRel` / `RRel` / `FrameRel` / `ScopeRel` lift it to results, frames and scopes.
`calcStep_fold`, `calcF_fold`: calc on related trees in related scopes gives related results.
`compile_fold` (with `finish_fold`, `thread2_fold`): compiling with and without folding yields
such a pair whenever folding raises no error.  C15.compile_sound_partial puts the two together.
-/
import LedgerModel.Lemmas.ExprBasic

namespace Ledger

def noRec : Scope → Expr → Res RVal := fun _ _ => .error errFuel

theorem bindArgs_noRec_nil (ps : List String) (as : List Expr) (fr : Frame)
    (h : bindArgs (noRec []) ps as = .ok fr) : as = [] := by
  induction ps generalizing as fr with
  | nil => cases as <;> simp_all [bindArgs]
  | cons p ps ih =>
    cases as with
    | nil => rfl
    | cons a as => simp [bindArgs, noRec] at h

/-- `and` / `or` / an arithmetic node succeed the same way when the right operand, where it is needed, does -/
theorem binRest_mono {env : PrecEnv} {op : BinOp} {x r : RVal} {k1 k2 : Unit → Res RVal}
    (hk : ∀ y, k1 () = .ok y → k2 () = .ok y) (h : binRest env op x k1 = .ok r) : binRest env op x k2 = .ok r := by
  rcases binRest_cases op with rfl | rfl | ho
  · rw [binRest_and] at h ⊢
    by_cases ht : x.truth env = true
    · rw [if_pos ht] at h ⊢; exact hk r h
    · rw [if_neg ht] at h ⊢; exact h
  · rw [binRest_or] at h ⊢
    by_cases ht : x.truth env = true
    · rw [if_pos ht] at h ⊢; exact h
    · rw [if_neg ht] at h ⊢; exact hk r h
  · rw [ho] at h ⊢
    obtain ⟨y, hy, h⟩ := Except.bind_eq_ok h
    rw [hk y hy]; exact h

/-- a call needs `rec` for its arguments or its body -/
theorem callLambda_noRec (fv : RVal) (a : Expr) (r : RVal) : callLambda noRec [] fv a ≠ .ok r := by
  intro h
  cases fv with
  | v x => cases h
  | fn lam =>
    by_cases hl : ∃ p b, lam = .lambda p b
    · obtain ⟨p, b, rfl⟩ := hl
      rw [callLambda_lambda] at h
      cases hp : paramNames p with
      | none => rw [hp] at h; cases h
      | some ps =>
        rw [hp] at h
        obtain ⟨fr, _, h⟩ := Except.bind_eq_ok h
        cases b <;> cases h
    · rw [callLambda_nonlambda (fun p x hx => hl ⟨p, x, hx⟩)] at h
      cases h

/-- An evaluation that succeeded without looking anything up and without `rec`
    gives the same result with any `rec`, in any scope. -/
theorem calcStep_noRec (env : PrecEnv) (rec : Scope → Expr → Res RVal) (σ : Scope) (e : Expr) :
    ∀ r, calcStep env noRec [] e = .ok r → calcStep env rec σ e = .ok r := by
  induction e with
  | nil => intro r h; cases h
  | plug => intro r h; cases h
  | val v => intro r h; exact h
  | define l r _ _ => intro r h; exact h
  | lambda p b _ _ => intro r h; exact h
  | ident n d _ =>
    intro r h
    rw [calcStep_ident] at h
    cases hd : identDef [] n d <;> rw [hd] at h <;> cases h
  | scope b ih => exact ih
  | un op e ih =>
    intro r h
    rw [calcStep_un] at h ⊢
    obtain ⟨x, hx, h⟩ := Except.bind_eq_ok h
    rw [ih x hx]
    exact h
  | bin op l r ihl ihr =>
    intro res h
    rw [calcStep_bin] at h ⊢
    obtain ⟨x, hx, h⟩ := Except.bind_eq_ok h
    rw [ihl x hx]
    exact binRest_mono (k2 := fun _ => calcStep env rec σ r) ihr h
  | query c a b ihc iha ihb =>
    intro res h
    rw [calcStep_query] at h ⊢
    obtain ⟨x, hx, h⟩ := Except.bind_eq_ok h
    rw [ihc x hx, Except.bind_ok]
    by_cases ht : x.truth env = true
    · rw [if_pos ht] at h ⊢; exact iha res h
    · rw [if_neg ht] at h ⊢; exact ihb res h
  | seq l r ihl ihr =>
    intro res h
    rw [calcStep_seq] at h ⊢
    obtain ⟨x, hx, h⟩ := Except.bind_eq_ok h
    rw [ihl x hx]
    exact ihr res h
  | cons l r ihl _ =>
    intro res h
    by_cases hr : r = .nil
    · subst hr; exact ihl res h
    · rw [calcStep_cons_nonnil hr] at h; cases h
  | call f a ihf _ =>
    intro res h
    rw [calcStep_call] at h
    obtain ⟨fv, _, h⟩ := Except.bind_eq_ok h
    exact absurd h (callLambda_noRec fv a res)

/-- `Fold a b`: `a` is `b` with some operator nodes over literals replaced by the
    literal they evaluate to, anywhere (also inside compiled definitions). -/
inductive Fold (env : PrecEnv) : Expr → Expr → Prop
  | nil : Fold env .nil .nil
  | plug : Fold env .plug .plug
  | val (v : Value) : Fold env (.val v) (.val v)
  | define (l r : Expr) : Fold env (.define l r) (.define l r)
  | ident (n : String) {d d' : Expr} : Fold env d d' → Fold env (.ident n d) (.ident n d')
  | scope {b b' : Expr} : Fold env b b' → Fold env (.scope b) (.scope b')
  | un (op : UnOp) {e e' : Expr} : Fold env e e' → Fold env (.un op e) (.un op e')
  | bin (op : BinOp) {l l' r r' : Expr} : Fold env l l' → Fold env r r' → Fold env (.bin op l r) (.bin op l' r')
  | query {c c' a a' b b' : Expr} : Fold env c c' → Fold env a a' → Fold env b b' → Fold env (.query c a b) (.query c' a' b')
  | seq {l l' r r' : Expr} : Fold env l l' → Fold env r r' → Fold env (.seq l r) (.seq l' r')
  | cons {l l' r r' : Expr} : Fold env l l' → Fold env r r' → Fold env (.cons l r) (.cons l' r')
  | call {f f' a a' : Expr} : Fold env f f' → Fold env a a' → Fold env (.call f a) (.call f' a')
  | lambda (p : Expr) {b b' : Expr} : Fold env b b' → Fold env (.lambda p b) (.lambda p b')
  | scopeVal {v : Value} {b' : Expr} : Fold env (.val v) b' → Fold env (.val v) (.scope b')
  | foldUn {op : UnOp} {a x : Value} {e' : Expr} : Fold env (.val a) e' → applyUn env op (.v a) = .ok (.v x) →
      Fold env (.val x) (.un op e')
  | foldBin {op : BinOp} {a b x : Value} {l' r' : Expr} : Fold env (.val a) l' → Fold env (.val b) r' →
      binRest env op (.v a) (fun _ => .ok (.v b)) = .ok (.v x) → Fold env (.val x) (.bin op l' r')
  | foldSeq {a b : Value} {l' r' : Expr} : Fold env (.val a) l' → Fold env (.val b) r' → Fold env (.val b) (.seq l' r')
  | foldCons {a : Value} {l' : Expr} : Fold env (.val a) l' → Fold env (.val a) (.cons l' .nil)

theorem Fold.refl (env : PrecEnv) : ∀ e, Fold env e e := by
  intro e
  induction e <;> constructor <;> assumption

inductive All2 {α β : Type} (R : α → β → Prop) : List α → List β → Prop
  | nil : All2 R [] []
  | cons {a : α} {b : β} {as : List α} {bs : List β} : R a b → All2 R as bs → All2 R (a :: as) (b :: bs)

def ResRel {α β : Type} (R : α → β → Prop) : Res α → Res β → Prop
  | .ok a, .ok b => R a b
  | .error e1, .error e2 => e1 = e2
  | _, _ => False

def RValRel (env : PrecEnv) : RVal → RVal → Prop
  | .v x, .v y => x = y
  | .fn a, .fn b => Fold env a b
  | _, _ => False

def RRel (env : PrecEnv) : Res RVal → Res RVal → Prop := ResRel (RValRel env)

def FrameRel (env : PrecEnv) (a b : Frame) : Prop := All2 (fun x y => x.1 = y.1 ∧ Fold env x.2 y.2) a b
def ScopeRel (env : PrecEnv) (a b : Scope) : Prop := All2 (FrameRel env) a b

theorem FrameRel.refl (env : PrecEnv) : ∀ G : Frame, FrameRel env G G := by
  intro G
  induction G with
  | nil => exact .nil
  | cons x xs ih => exact .cons ⟨rfl, Fold.refl env _⟩ ih

theorem frame_lookup_rel {env : PrecEnv} {a b : Frame} (h : FrameRel env a b) (n : String) :
    (a.lookup n = none ∧ b.lookup n = none) ∨ ∃ d1 d2, a.lookup n = some d1 ∧ b.lookup n = some d2 ∧ Fold env d1 d2 := by
  induction h with
  | nil => left; simp [List.lookup]
  | @cons x y xs ys hxy _ ih =>
    obtain ⟨hn, hd⟩ := hxy
    obtain ⟨x1, x2⟩ := x
    obtain ⟨y1, y2⟩ := y
    simp only at hn hd
    subst hn
    simp only [List.lookup]
    cases hq : (n == x1) with
    | true => right; exact ⟨x2, y2, rfl, rfl, hd⟩
    | false => exact ih

theorem scope_lookup_rel {env : PrecEnv} {a b : Scope} (h : ScopeRel env a b) (n : String) :
    (a.lookup n = none ∧ b.lookup n = none) ∨ ∃ d1 d2, a.lookup n = some d1 ∧ b.lookup n = some d2 ∧ Fold env d1 d2 := by
  induction h with
  | nil => left; simp [Scope.lookup]
  | @cons x y xs ys hxy _ ih =>
    simp only [Scope.lookup]
    rcases frame_lookup_rel hxy n with ⟨h1, h2⟩ | ⟨d1, d2, h1, h2, hd⟩
    · rw [h1, h2]; exact ih
    · rw [h1, h2]; right; exact ⟨d1, d2, rfl, rfl, hd⟩

theorem Fold.nil_iff {env : PrecEnv} {a b : Expr} (h : Fold env a b) : a = .nil ↔ b = .nil := by
  cases h <;> simp

/-- folding never touches an identifier's definition slot being empty -/
theorem Fold.unres_eq {env : PrecEnv} {a b : Expr} (h : Fold env a b) : (a.isNil || a.isPlug) = (b.isNil || b.isPlug) := by
  cases h <;> rfl

theorem Fold.lambda_inv {env : PrecEnv} {a b : Expr} (h : Fold env a b) :
    (∃ p x y, a = .lambda p x ∧ b = .lambda p y ∧ Fold env x y) ∨ ((∀ p x, a ≠ .lambda p x) ∧ (∀ p y, b ≠ .lambda p y)) := by
  cases h with
  | lambda p hb => left; exact ⟨_, _, _, rfl, rfl, hb⟩
  | _ => right; constructor <;> intros <;> simp

theorem Fold.scope_inv {env : PrecEnv} {x y : Expr} (h : Fold env x y) :
    (∃ b b', x = .scope b ∧ y = .scope b' ∧ Fold env b b') ∨ (∃ v b', x = .val v ∧ y = .scope b' ∧ Fold env (.val v) b') ∨
    ((∀ b, x ≠ .scope b) ∧ (∀ b, y ≠ .scope b)) := by
  cases h with
  | scope hb => left; exact ⟨_, _, rfl, rfl, hb⟩
  | scopeVal hv => right; left; exact ⟨_, _, rfl, rfl, hv⟩
  | _ => right; right; constructor <;> intros <;> simp

theorem splitCons_fold {env : PrecEnv} {a b : Expr} (h : Fold env a b) :
    All2 (Fold env) (splitCons a) (splitCons b) := by
  induction h with
  | nil => exact .nil
  | cons hl _ _ ihr => exact .cons hl ihr
  | foldCons ha _ => exact .cons ha .nil
  | _ => exact .cons (by constructor <;> assumption) .nil   -- any other node is the one argument itself

theorem ResRel.cases {α β : Type} {R : α → β → Prop} {a : Res α} {b : Res β} (h : ResRel R a b) :
    (∃ x y, a = .ok x ∧ b = .ok y ∧ R x y) ∨ (∃ e, a = .error e ∧ b = .error e) := by
  cases a with
  | ok x =>
    cases b with
    | ok y => exact .inl ⟨x, y, rfl, rfl, h⟩
    | error _ => exact h.elim
  | error e =>
    cases b with
    | ok _ => exact h.elim
    | error e' => cases (show e = e' from h); exact .inr ⟨e, rfl, rfl⟩

theorem ResRel.ok {α β : Type} {R : α → β → Prop} {x : α} {y : β} (h : R x y) : ResRel R (.ok x) (.ok y) := h

theorem ResRel.err {α β : Type} {R : α → β → Prop} (e : Err) : ResRel R (.error e : Res α) (.error e : Res β) := rfl

/-- related runs continued by related continuations: the shape of every operator node of calc -/
theorem ResRel.bind {α β γ δ : Type} {R : α → β → Prop} {S : γ → δ → Prop} {a : Res α} {b : Res β} {f : α → Res γ}
    {g : β → Res δ} (h : ResRel R a b) (hf : ∀ x y, R x y → ResRel S (f x) (g y)) : ResRel S (a.bind f) (b.bind g) := by
  rcases h.cases with ⟨x, y, rfl, rfl, hxy⟩ | ⟨e, rfl, rfl⟩
  · exact hf x y hxy
  · exact ResRel.err e

theorem RValRel.cases {env : PrecEnv} {a b : RVal} (h : RValRel env a b) :
    (∃ x, a = .v x ∧ b = .v x) ∨ (∃ l l', a = .fn l ∧ b = .fn l' ∧ Fold env l l') := by
  cases a with
  | v x =>
    cases b with
    | v y => cases (show x = y from h); exact .inl ⟨x, rfl, rfl⟩
    | fn _ => exact h.elim
  | fn l =>
    cases b with
    | v _ => exact h.elim
    | fn l' => exact .inr ⟨l, l', rfl, rfl, h⟩

theorem RRel.okv {env : PrecEnv} (x : Value) : RRel env (.ok (.v x)) (.ok (.v x)) := ResRel.ok (R := RValRel env) rfl

theorem RValRel.truth {env : PrecEnv} {a b : RVal} (h : RValRel env a b) : a.truth env = b.truth env := by
  rcases h.cases with ⟨x, rfl, rfl⟩ | ⟨l, l', rfl, rfl, _⟩ <;> rfl

theorem RValRel.toExpr {env : PrecEnv} {a b : RVal} (h : RValRel env a b) : Fold env a.toExpr b.toExpr := by
  rcases h.cases with ⟨x, rfl, rfl⟩ | ⟨l, l', rfl, rfl, hl⟩
  · exact .val x
  · exact hl

theorem RRel.eq_of_ok_v {env : PrecEnv} {a : Value} {r : Res RVal} (h : RRel env (.ok (.v a)) r) : r = .ok (.v a) := by
  rcases ResRel.cases h with ⟨x, y, hx, rfl, hxy⟩ | ⟨e, he, _⟩
  · cases hx
    rcases hxy.cases with ⟨z, hz, rfl⟩ | ⟨l, l', hl, _⟩
    · cases hz; rfl
    · cases hl
  · cases he

theorem RRel_map {env : PrecEnv} {α : Type} {g : α → Value} (r : Res α) :
    RRel env (r.map fun a => .v (g a)) (r.map fun a => .v (g a)) := by
  cases r
  · exact ResRel.err _
  · exact RRel.okv _

/-- only values reach the arithmetic; an expression operand is an error on both sides -/
theorem applyBin_rel {env : PrecEnv} (op : BinOp) {x1 x2 y1 y2 : RVal} (hx : RValRel env x1 x2) (hy : RValRel env y1 y2) :
    RRel env (applyBin env op x1 y1) (applyBin env op x2 y2) := by
  rcases hx.cases with ⟨x, rfl, rfl⟩ | ⟨l, l', rfl, rfl, _⟩
  · rcases hy.cases with ⟨y, rfl, rfl⟩ | ⟨m, m', rfl, rfl, _⟩
    · cases op with
      | and => exact ResRel.err _
      | or => exact ResRel.err _
      | _ => exact RRel_map _
    · exact ResRel.err _
  · exact ResRel.err _

theorem applyUn_rel {env : PrecEnv} (op : UnOp) {x1 x2 : RVal} (hx : RValRel env x1 x2) :
    RRel env (applyUn env op x1) (applyUn env op x2) := by
  cases op
  · simp only [applyUn, hx.truth]; exact RRel.okv _
  · rcases hx.cases with ⟨x, rfl, rfl⟩ | ⟨l, l', rfl, rfl, _⟩
    · exact RRel_map _
    · exact ResRel.err _

theorem binRest_rel {env : PrecEnv} (op : BinOp) {x1 x2 : RVal} (hx : RValRel env x1 x2) {k1 k2 : Unit → Res RVal}
    (hk : RRel env (k1 ()) (k2 ())) : RRel env (binRest env op x1 k1) (binRest env op x2 k2) := by
  rcases binRest_cases op with rfl | rfl | ho
  · rw [binRest_and, binRest_and, hx.truth]; split; exact hk; exact RRel.okv _
  · rw [binRest_or, binRest_or, hx.truth]; split; exact ResRel.ok hx; exact hk
  · rw [ho, ho]; exact ResRel.bind hk (fun _ _ hy => applyBin_rel op hx hy)

theorem bindArgs_rel {env : PrecEnv} {ev1 ev2 : Expr → Res RVal} (hev : ∀ a b, Fold env a b → RRel env (ev1 a) (ev2 b)) :
    ∀ (ps : List String) (as bs : List Expr), All2 (Fold env) as bs →
      ResRel (FrameRel env) (bindArgs ev1 ps as) (bindArgs ev2 ps bs) := by
  intro ps
  induction ps with
  | nil =>
    intro as bs h
    cases h with
    | nil => simp only [bindArgs]; exact ResRel.ok .nil
    | cons _ _ => simp only [bindArgs]; exact ResRel.err _
  | cons p ps ih =>
    intro as bs h
    cases h with
    | nil =>
      simp only [bindArgs]
      rcases (ih [] [] .nil).cases with ⟨f1, f2, h1, h2, hf⟩ | ⟨e, h1, h2⟩
      · simp only [h1, h2, Except.map]; exact ResRel.ok (.cons ⟨rfl, .val _⟩ hf)
      · simp only [h1, h2, Except.map]; exact ResRel.err _
    | @cons a b as bs hab hrest =>
      simp only [bindArgs]
      rcases (hev a b hab).cases with ⟨x, y, h1, h2, hxy⟩ | ⟨e, h1, h2⟩
      · simp only [h1, h2]
        rcases (ih as bs hrest).cases with ⟨f1, f2, h3, h4, hf⟩ | ⟨e, h3, h4⟩
        · simp only [h3, h4, Except.map]; exact ResRel.ok (.cons ⟨rfl, hxy.toExpr⟩ hf)
        · simp only [h3, h4, Except.map]; exact ResRel.err _
      · simp only [h1, h2]; exact ResRel.err _

/-- calc on two trees related by folding, in scopes related by folding, gives related results.
    `hval`: `rec` on a literal does not look at the scope.  It is needed where a lambda body
    `SCOPE(b)` was folded to a literal: the SCOPE node is gone, so the folded body runs in the
    argument frame alone while the unfolded one still sees the caller's scope behind it. -/
theorem calcStep_fold (env : PrecEnv) (rec1 rec2 : Scope → Expr → Res RVal)
    (hrec : ∀ a b σ1 σ2, Fold env a b → ScopeRel env σ1 σ2 → RRel env (rec1 σ1 a) (rec2 σ2 b))
    (hval : ∀ σ σ' v, rec1 σ (.val v) = rec1 σ' (.val v)) :
    ∀ a b, Fold env a b → ∀ σ1 σ2, ScopeRel env σ1 σ2 → RRel env (calcStep env rec1 σ1 a) (calcStep env rec2 σ2 b) := by
  intro a b h
  induction h with
  | nil => intro σ1 σ2 _; exact ResRel.err _
  | plug => intro σ1 σ2 _; exact ResRel.err _
  | val v => intro σ1 σ2 _; exact RRel.okv _
  | define l r => intro σ1 σ2 _; exact RRel.okv _
  | lambda p hb _ => intro σ1 σ2 _; exact ResRel.ok (Fold.lambda p hb)
  | @ident n d d' hd _ =>
    intro σ1 σ2 hσ
    rw [calcStep_ident, calcStep_ident]
    cases hu : (d.isNil || d.isPlug) with
    | true =>
      rw [identDef_unres hu, identDef_unres (hd.unres_eq.symm.trans hu)]
      rcases scope_lookup_rel hσ n with ⟨e1, e2⟩ | ⟨d1, d2, e1, e2, hf⟩
      · rw [e1, e2]; exact ResRel.err _
      · rw [e1, e2]; exact hrec _ _ _ _ hf hσ
    | false =>
      rw [identDef_res hu, identDef_res (hd.unres_eq.symm.trans hu)]
      exact hrec _ _ _ _ hd hσ
  | scope _ ih => exact ih
  | @un op e e' _ ih =>
    intro σ1 σ2 hσ
    rw [calcStep_un, calcStep_un]
    exact ResRel.bind (ih σ1 σ2 hσ) (fun _ _ hxy => applyUn_rel op hxy)
  | @bin op l l' r r' _ _ ihl ihr =>
    intro σ1 σ2 hσ
    rw [calcStep_bin, calcStep_bin]
    exact ResRel.bind (ihl σ1 σ2 hσ) (fun _ _ hxy => binRest_rel op hxy (ihr σ1 σ2 hσ))
  | @query c c' a a' b b' _ _ _ ihc iha ihb =>
    intro σ1 σ2 hσ
    rw [calcStep_query, calcStep_query]
    refine ResRel.bind (ihc σ1 σ2 hσ) (fun x y hxy => ?_)
    rw [show x.truth env = y.truth env from hxy.truth]
    split
    · exact iha σ1 σ2 hσ
    · exact ihb σ1 σ2 hσ
  | @seq l l' r r' _ _ ihl ihr =>
    intro σ1 σ2 hσ
    rw [calcStep_seq, calcStep_seq]
    exact ResRel.bind (ihl σ1 σ2 hσ) (fun _ _ _ => ihr σ1 σ2 hσ)
  | @cons l l' r r' _ hr ihl _ =>
    intro σ1 σ2 hσ
    by_cases h1 : r = .nil
    · obtain rfl := hr.nil_iff.1 h1
      subst h1
      exact ihl σ1 σ2 hσ
    · rw [calcStep_cons_nonnil h1, calcStep_cons_nonnil (fun h => h1 (hr.nil_iff.2 h))]
      exact ResRel.err _
  | @call f f' a a' _ ha ihf _ =>
    intro σ1 σ2 hσ
    rw [calcStep_call, calcStep_call]
    refine ResRel.bind (ihf σ1 σ2 hσ) (fun fv1 fv2 hfv => ?_)
    rcases hfv.cases with ⟨x, rfl, rfl⟩ | ⟨l1, l2, rfl, rfl, hl⟩
    · exact ResRel.err _
    · rcases hl.lambda_inv with ⟨p, x, y, rfl, rfl, hxy⟩ | ⟨hn1, hn2⟩
      · rw [callLambda_lambda, callLambda_lambda]
        cases paramNames p with
        | none => exact ResRel.err _
        | some ps =>
          refine ResRel.bind (bindArgs_rel (ev1 := rec1 σ1) (ev2 := rec2 σ2) (fun a b hab => hrec a b σ1 σ2 hab hσ) ps _ _
            (splitCons_fold ha)) (fun fr1 fr2 hfr => ?_)
          rcases hxy.scope_inv with ⟨b, b', rfl, rfl, hbb⟩ | ⟨v, b', rfl, rfl, hvb⟩ | ⟨hx, hy⟩
          · exact hrec _ _ _ _ hbb (.cons hfr hσ)
          · -- the folded body has lost its SCOPE node
            show RRel env (rec1 [fr1] (.val v)) _
            rw [hval [fr1] (fr1 :: σ1) v]
            exact hrec _ _ _ _ hvb (.cons hfr hσ)
          · rw [callBody_nonscope hx, callBody_nonscope hy]
            exact hrec _ _ _ _ hxy (.cons hfr .nil)
      · rw [callLambda_nonlambda hn1, callLambda_nonlambda hn2]
        exact ResRel.err _
  | scopeVal _ ih => exact ih
  | @foldUn op a x e' _ hx ih =>
    intro σ1 σ2 hσ
    rw [calcStep_un, RRel.eq_of_ok_v (ih σ1 σ2 hσ), Except.bind_ok, hx]
    exact RRel.okv _
  | @foldBin op a b x l' r' _ _ hx ihl ihr =>
    intro σ1 σ2 hσ
    rw [calcStep_bin, RRel.eq_of_ok_v (ihl σ1 σ2 hσ), Except.bind_ok, RRel.eq_of_ok_v (ihr σ1 σ2 hσ), hx]
    exact RRel.okv _
  | @foldSeq a b l' r' _ _ ihl ihr =>
    intro σ1 σ2 hσ
    rw [calcStep_seq, RRel.eq_of_ok_v (ihl σ1 σ2 hσ), Except.bind_ok, RRel.eq_of_ok_v (ihr σ1 σ2 hσ)]
    exact RRel.okv _
  | @foldCons a l' _ ih =>
    intro σ1 σ2 hσ
    rw [calcStep_cons_nil, RRel.eq_of_ok_v (ih σ1 σ2 hσ)]
    exact RRel.okv _

theorem calcF_fold (env : PrecEnv) (f : Nat) : ∀ a b σ1 σ2, Fold env a b → ScopeRel env σ1 σ2 →
    RRel env (calcF env f σ1 a) (calcF env f σ2 b) := by
  induction f with
  | zero => intro a b σ1 σ2 _ _; simp only [calcF]; exact ResRel.err _
  | succ f ih =>
    intro a b σ1 σ2 h hσ
    simp only [calcF]
    exact calcStep_fold env _ _ ih (calcF_val env f) a b h σ1 σ2 hσ

/-- The tail of compile on a rebuilt node, with folding (`new1`, result `n1`) and without (`new2`):
    the unfolded run returns a node related to `n1` with the same `changed` flag; `hf` supplies the
    relation in the one case where folding replaced the node by a literal. -/
theorem finish_fold {env : PrecEnv} {new1 new2 n1 : Expr} {ch av c : Bool} (av' : Bool)
    (h : finish env true new1 ch av = .ok (n1, c)) (hc : Fold env new1 new2)
    (hf : av = true → ∀ w, foldCalc env new1 = .ok w → Fold env w new2) :
    ∃ n2, finish env false new2 ch av' = .ok (n2, c) ∧ Fold env n1 n2 := by
  rcases finish_ok h with ⟨rfl, rfl⟩ | ⟨rfl, _, hav, rfl, hw⟩
  · exact ⟨new2, by cases c <;> rfl, hc⟩
  · exact ⟨new2, rfl, hf hav _ hw⟩

/-- a node with two operands, compiled with and without folding; `hf` says that the
    literal the node folds to is related to the node built from the unfolded operands -/
theorem thread2_fold {env : PrecEnv} {mk : Expr → Expr → Expr} {av : Expr → Expr → Bool}
    (hmk : ∀ {l1 l2 r1 r2}, Fold env l1 l2 → Fold env r1 r2 → Fold env (mk l1 r1) (mk l2 r2))
    (hf : ∀ {l1 l2 r1 r2}, Fold env l1 l2 → Fold env r1 r2 → av l1 r1 = true →
      ∀ w, foldCalc env (mk l1 r1) = .ok w → Fold env w (mk l2 r2))
    {c1 c1' c2 c2' : Frame → Res (Expr × Bool × Frame)}
    (h1 : ∀ G1 G2 x c G1', FrameRel env G1 G2 → c1 G1 = .ok (x, c, G1') →
      ∃ y G2', c1' G2 = .ok (y, c, G2') ∧ Fold env x y ∧ FrameRel env G1' G2')
    (h2 : ∀ G1 G2 x c G1', FrameRel env G1 G2 → c2 G1 = .ok (x, c, G1') →
      ∃ y G2', c2' G2 = .ok (y, c, G2') ∧ Fold env x y ∧ FrameRel env G1' G2')
    {G1 G2 G1' : Frame} {e1 : Expr} {c : Bool} (hG : FrameRel env G1 G2)
    (h : thread2 env true G1 mk av c1 c2 = .ok (e1, c, G1')) :
    ∃ e2 G2', thread2 env false G2 mk av c1' c2' = .ok (e2, c, G2') ∧ Fold env e1 e2 ∧ FrameRel env G1' G2' := by
  obtain ⟨l1, cl, Gl, r1, cr, hl, hr, hfin⟩ := thread2_ok.1 h
  obtain ⟨l2, Gl2, hl2, hfl, hGl⟩ := h1 G1 G2 l1 cl Gl hG hl
  obtain ⟨r2, Gr2, hr2, hfr, hGr⟩ := h2 Gl Gl2 r1 cr G1' hGl hr
  obtain ⟨n2, hfin2, hn⟩ := finish_fold (av l2 r2) hfin (hmk hfl hfr) (hf hfl hfr)
  exact ⟨n2, Gr2, thread2_ok.2 ⟨l2, cl, Gl2, r2, cr, hl2, hr2, hfin2⟩, hn, hGr⟩

/-- If compiling `e` with folding succeeds, compiling it without folding succeeds with the same
    `changed` flag, and the two results, and the definitions made on the way, are related by `Fold`. -/
theorem compile_fold (env : PrecEnv) : ∀ (e : Expr) (G1 G2 : Frame) (π : List (List String)) (e1 : Expr) (c : Bool) (G1' : Frame),
    FrameRel env G1 G2 → compile env true G1 π e = .ok (e1, c, G1') →
    ∃ e2 G2', compile env false G2 π e = .ok (e2, c, G2') ∧ Fold env e1 e2 ∧ FrameRel env G1' G2' := by
  intro e
  induction e with
  | nil => intro G1 G2 π e1 c G1' hG h; cases h; exact ⟨_, _, rfl, .nil, hG⟩
  | plug => intro G1 G2 π e1 c G1' hG h; cases h; exact ⟨_, _, rfl, .plug, hG⟩
  | val v => intro G1 G2 π e1 c G1' hG h; cases h; exact ⟨_, _, rfl, .val v, hG⟩
  | ident n d _ =>
    intro G1 G2 π e1 c G1' hG h
    rw [compile_ident] at h ⊢
    by_cases hp : (π.any fun ps => ps.contains n) = true
    · rw [if_pos hp] at h ⊢
      cases h
      exact ⟨_, _, rfl, .ident n .plug, hG⟩
    · rw [if_neg hp] at h ⊢
      rcases frame_lookup_rel hG n with ⟨l1, l2⟩ | ⟨d1, d2, l1, l2, hd⟩
      · rw [l1] at h
        rw [l2]
        cases h
        exact ⟨_, _, rfl, Fold.refl env _, hG⟩
      · rw [l1] at h
        rw [l2]
        cases h
        exact ⟨_, _, rfl, .ident n hd, hG⟩
  | scope b ih =>
    intro G1 G2 π e1 c G1' hG h
    obtain ⟨b1, hb, rfl⟩ := compile_scope_ok.1 h
    obtain ⟨b2, Gb2, hb2, hfold, hGb⟩ := ih G1 G2 π b1 c G1' hG hb
    refine ⟨_, _, compile_scope_ok.2 ⟨b2, hb2, rfl⟩, ?_, hGb⟩
    simp only [Bool.and_false, Bool.false_and, Bool.false_eq_true, if_false]
    split
    · rename_i hv
      simp only [Bool.and_eq_true] at hv
      obtain ⟨v, rfl⟩ := isVal_eq hv.2.2
      exact .scopeVal hfold
    · exact .scope hfold
  | define l r _ ihr =>
    intro G1 G2 π e1 c G1' hG h
    cases ht : defTarget l with
    | none => rw [compile_define_none ht] at h; cases h
    | some t =>
      obtain ⟨n, o⟩ := t
      cases o with
      | none =>
        obtain ⟨r1, cr, Gr, hr, rfl, rfl, rfl⟩ := (compile_define_name_ok ht).1 h
        obtain ⟨r2, Gr2, hr2, hfold, hGr⟩ := ihr G1 G2 π r1 cr Gr hG hr
        exact ⟨_, _, (compile_define_name_ok ht).2 ⟨r2, cr, Gr2, hr2, rfl, rfl, rfl⟩, .val _, .cons ⟨rfl, hfold⟩ hGr⟩
      | some pp =>
        obtain ⟨params, ps⟩ := pp
        obtain ⟨r1, cr, Gr, hr, rfl, rfl, rfl⟩ := (compile_define_fn_ok ht).1 h
        obtain ⟨r2, Gr2, hr2, hfold, hGr⟩ := ihr G1 G2 (ps :: π) r1 cr Gr hG hr
        exact ⟨_, _, (compile_define_fn_ok ht).2 ⟨r2, cr, Gr2, hr2, rfl, rfl, rfl⟩, .val _,
          .cons ⟨rfl, .lambda params hfold⟩ hGr⟩
  | lambda p b _ ihb =>
    intro G1 G2 π e1 c G1' hG h
    cases hp : paramNames p with
    | none => rw [compile_lambda_none hp] at h; cases h
    | some ps =>
      obtain ⟨b1, hb, rfl⟩ := (compile_lambda_ok hp).1 h
      obtain ⟨b2, Gb2, hb2, hfold, hGb⟩ := ihb G1 G2 (ps :: π) b1 c G1' hG hb
      exact ⟨_, _, (compile_lambda_ok hp).2 ⟨b2, hb2, rfl⟩, .lambda p hfold, hGb⟩
  | un op e ih =>
    intro G1 G2 π e1 c G1' hG h
    obtain ⟨x1, ch, he, hfin⟩ := compile_un_ok.1 h
    obtain ⟨x2, Ge2, he2, hfold, hGe⟩ := ih G1 G2 π x1 ch G1' hG he
    obtain ⟨n2, hfin2, hn⟩ := finish_fold x2.isVal hfin (.un op hfold) (by
      intro hv w hw
      obtain ⟨a, rfl⟩ := isVal_eq hv
      obtain ⟨x, rfl, hx⟩ := foldCalc_ok hw
      exact .foldUn hfold hx)
    exact ⟨_, _, compile_un_ok.2 ⟨x2, ch, he2, hfin2⟩, hn, hGe⟩
  | query cnd a b ihc iha ihb =>
    intro G1 G2 π e1 c G1' hG h
    obtain ⟨c1, cc, Gc, a1, ca, Ga, b1, cb, hc, ha, hb, _, rfl, rfl⟩ := compile_query_ok.1 h
    obtain ⟨c2, Gc2, hc2, hfc, hGc⟩ := ihc G1 G2 π c1 cc Gc hG hc
    obtain ⟨a2, Ga2, ha2, hfa, hGa⟩ := iha Gc Gc2 π a1 ca Ga hGc ha
    obtain ⟨b2, Gb2, hb2, hfb, hGb⟩ := ihb Ga Ga2 π b1 cb G1' hGa hb
    exact ⟨_, _, compile_query_ok.2 ⟨c2, cc, Gc2, a2, ca, Ga2, b2, cb, hc2, ha2, hb2, rfl, rfl, rfl⟩, .query hfc hfa hfb, hGb⟩
  | bin op l r ihl ihr =>
    intro G1 G2 π e1 c G1' hG h
    rw [compile_bin] at h ⊢
    refine thread2_fold (.bin op) ?_ (fun G1 G2 x c G1' => ihl G1 G2 π x c G1') (fun G1 G2 x c G1' => ihr G1 G2 π x c G1') hG h
    intro l1 l2 r1 r2 hfl hfr hv w hw
    simp only [Bool.and_eq_true] at hv
    obtain ⟨a, rfl⟩ := isVal_eq hv.1
    obtain ⟨b, rfl⟩ := isVal_eq hv.2
    obtain ⟨x, rfl, hx⟩ := foldCalc_ok hw
    exact .foldBin hfl hfr hx
  | seq l r ihl ihr =>
    intro G1 G2 π e1 c G1' hG h
    rw [compile_seq] at h ⊢
    refine thread2_fold .seq ?_ (fun G1 G2 x c G1' => ihl G1 G2 π x c G1') (fun G1 G2 x c G1' => ihr G1 G2 π x c G1') hG h
    intro l1 l2 r1 r2 hfl hfr hv w hw
    simp only [Bool.and_eq_true, Bool.or_eq_true] at hv
    obtain ⟨a, rfl⟩ := isVal_eq hv.1
    obtain ⟨x, rfl, hx⟩ := foldCalc_ok hw
    rcases hv.2 with hv2 | hv2
    · obtain ⟨b, rfl⟩ := isVal_eq hv2
      cases hx
      exact .foldSeq hfl hfr
    · obtain rfl := isNil_eq hv2
      cases hx
  | cons l r ihl ihr =>
    intro G1 G2 π e1 c G1' hG h
    rw [compile_cons] at h ⊢
    refine thread2_fold .cons ?_ (fun G1 G2 x c G1' => ihl G1 G2 π x c G1') (fun G1 G2 x c G1' => ihr G1 G2 π x c G1') hG h
    intro l1 l2 r1 r2 hfl hfr hv w hw
    simp only [Bool.and_eq_true, Bool.or_eq_true] at hv
    obtain ⟨a, rfl⟩ := isVal_eq hv.1
    obtain ⟨x, rfl, hx⟩ := foldCalc_ok hw
    rcases hv.2 with hv2 | hv2
    · obtain ⟨b, rfl⟩ := isVal_eq hv2
      cases hx
    · obtain rfl := isNil_eq hv2
      obtain rfl := hfr.nil_iff.1 rfl
      cases hx
      exact .foldCons hfl
  | call f a ihf iha =>
    intro G1 G2 π e1 c G1' hG h
    rw [compile_call] at h ⊢
    refine thread2_fold .call ?_ (fun G1 G2 x c G1' => ihf G1 G2 π x c G1') (fun G1 G2 x c G1' => iha G1 G2 π x c G1') hG h
    intro l1 l2 r1 r2 hfl hfr hv w hw
    simp only [Bool.and_eq_true] at hv
    obtain ⟨a, rfl⟩ := isVal_eq hv.1
    obtain ⟨x, rfl, hx⟩ := foldCalc_ok hw
    cases hx

/-- a calc result with expressions erased: what `eval` can print -/
def RVal.erase : RVal → Option Value
  | .v x => some x
  | .fn _ => none

theorem RRel.erase {env : PrecEnv} {a b : Res RVal} (h : RRel env a b) : a.map RVal.erase = b.map RVal.erase := by
  rcases ResRel.cases h with ⟨x, y, rfl, rfl, hxy⟩ | ⟨e, rfl, rfl⟩
  · cases x <;> cases y <;> simp_all [RValRel, Except.map, RVal.erase]
  · rfl

end Ledger
