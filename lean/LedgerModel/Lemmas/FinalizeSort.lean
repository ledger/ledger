/-
`compare_by_commodity` is a total preorder, antisymmetric on commodity keys, so
sorting the entries of a residual (one entry per commodity) gives the same list
whatever order the hash map enumerates them in.
-/
import LedgerModel.Lemmas.FinalizeValue
import LedgerModel.Lemmas.ListExtra

namespace Ledger
namespace FinX

def IsTotPre {α : Type} (r : α → α → Bool) : Prop :=
  (∀ a b, r a b = true ∨ r b a = true) ∧ (∀ a b c, r a b = true → r b c = true → r a c = true)

theorem lexLe_totpre {α : Type} (r1 r2 : α → α → Bool) (h1 : IsTotPre r1) (h2 : IsTotPre r2) :
    IsTotPre (lexLe r1 r2) := by
  constructor
  · intro a b
    unfold lexLe
    rcases h1.1 a b with hab | hba
    · cases hba' : r1 b a
      · left; simp [hab]
      · rcases h2.1 a b with h | h
        · left; simp [hab, h]
        · right; simp [hab, h]
    · cases hab' : r1 a b
      · right; simp [hba]
      · rcases h2.1 a b with h | h
        · left; simp [h]
        · right; simp [hba, h]
  · intro a b c hab hbc
    unfold lexLe at hab hbc ⊢
    simp only [Bool.and_eq_true, Bool.or_eq_true, Bool.not_eq_true'] at hab hbc ⊢
    refine ⟨h1.2 a b c hab.1 hbc.1, ?_⟩
    cases hca : r1 c a
    · exact Or.inl rfl
    · right
      have hcb : r1 c b = true := h1.2 c a b hca hab.1
      have hba : r1 b a = true := h1.2 b c a hbc.1 hca
      have e1 : r2 a b = true := by
        rcases hab.2 with h | h
        · rw [hba] at h; cases h
        · exact h
      have e2 : r2 b c = true := by
        rcases hbc.2 with h | h
        · rw [hcb] at h; cases h
        · exact h
      exact h2.2 a b c e1 e2

theorem lexLe_both {α : Type} (r1 r2 : α → α → Bool) (a b : α)
    (h : lexLe r1 r2 a b = true) (h' : lexLe r1 r2 b a = true) : r2 a b = true ∧ r2 b a = true := by
  unfold lexLe at h h'
  simp only [Bool.and_eq_true, Bool.or_eq_true, Bool.not_eq_true'] at h h'
  constructor
  · rcases h.2 with e | e
    · rw [h'.1] at e; cases e
    · exact e
  · rcases h'.2 with e | e
    · rw [h.1] at e; cases e
    · exact e

theorem leS_totpre (f : Comm → String) : IsTotPre (leS f) := by
  constructor
  · intro a b
    unfold leS
    rcases String.le_total (f a) (f b) with h | h
    · left; simpa using h
    · right; simpa using h
  · intro a b c h1 h2
    unfold leS at h1 h2 ⊢
    have e1 : f a ≤ f b := by simpa using h1
    have e2 : f b ≤ f c := by simpa using h2
    simpa using String.le_trans e1 e2

theorem leQ_totpre (f : Comm → Rat) : IsTotPre (leQ f) := by
  constructor
  · intro a b
    unfold leQ
    rcases @Rat.le_total (f a) (f b) with h | h
    · left; simpa using h
    · right; simpa using h
  · intro a b c h1 h2
    unfold leQ at h1 h2 ⊢
    have e1 : f a ≤ f b := by simpa using h1
    have e2 : f b ≤ f c := by simpa using h2
    simpa using Rat.le_trans e1 e2

theorem leB_totpre (f : Comm → Bool) : IsTotPre (leB f) := by
  constructor
  · intro a b
    unfold leB
    cases f a <;> cases f b <;> simp
  · intro a b c
    unfold leB
    cases f a <;> cases f b <;> cases f c <;> simp

theorem commLe_totpre : IsTotPre commLe := by
  exact lexLe_totpre _ _ (leS_totpre lotBase) (lexLe_totpre _ _ (leB_totpre lotHasPrice)
    (lexLe_totpre _ _ (leS_totpre lotPComm) (lexLe_totpre _ _ (leQ_totpre lotPVal)
    (lexLe_totpre _ _ (leB_totpre lotHasDate) (lexLe_totpre _ _ (leS_totpre lotDate)
    (lexLe_totpre _ _ (leB_totpre lotHasTag) (lexLe_totpre _ _ (leS_totpre lotTag) (leS_totpre id))))))))

theorem commLe_antisymm (a b : Comm) (h : commLe a b = true) (h' : commLe b a = true) : a = b := by
  unfold commLe at h h'
  have h1 := lexLe_both _ _ a b h h'
  have h2 := lexLe_both _ _ a b h1.1 h1.2
  have h3 := lexLe_both _ _ a b h2.1 h2.2
  have h4 := lexLe_both _ _ a b h3.1 h3.2
  have h5 := lexLe_both _ _ a b h4.1 h4.2
  have h6 := lexLe_both _ _ a b h5.1 h5.2
  have h7 := lexLe_both _ _ a b h6.1 h6.2
  have h8 := lexLe_both _ _ a b h7.1 h7.2
  unfold leS at h8
  have e1 : a ≤ b := by simpa using h8.1
  have e2 : b ≤ a := by simpa using h8.2
  exact String.le_antisymm e1 e2

theorem insByComm_perm (a : Amount) (l : List Amount) : (insByComm a l).Perm (a :: l) :=
  ins_perm (ins := insByComm) (le := fun x y => commLe x.comm y.comm) (fun _ => rfl) (fun _ _ _ => rfl) a l

theorem sortByComm_perm (l : List Amount) : (sortByComm l).Perm l := by
  induction l with
  | nil => exact List.Perm.refl _
  | cons a as ih => exact (insByComm_perm a _).trans (List.Perm.cons a ih)

theorem insByComm_sorted (a : Amount) (l : List Amount)
    (h : l.Pairwise (fun x y => commLe x.comm y.comm = true)) :
    (insByComm a l).Pairwise (fun x y => commLe x.comm y.comm = true) :=
  ins_pairwise (ins := insByComm) (le := fun x y => commLe x.comm y.comm) (fun _ => rfl) (fun _ _ _ => rfl)
    (fun _ _ h => h)
    (fun x y h => (commLe_totpre.1 x.comm y.comm).resolve_left (by rw [h]; exact Bool.false_ne_true))
    (fun x y z => commLe_totpre.2 x.comm y.comm z.comm) a h

theorem sortByComm_sorted (l : List Amount) :
    (sortByComm l).Pairwise (fun x y => commLe x.comm y.comm = true) := by
  induction l with
  | nil => simp [sortByComm]
  | cons a as ih => exact insByComm_sorted a _ ih

/-- The order in which the hash map enumerates the residual's entries does not
    matter: sorting by the `compare_by_commodity` key gives one result for every enumeration. -/
theorem sortByComm_eq_of_perm {l₁ l₂ : List Amount} (hp : l₁.Perm l₂) (hw : (Balance.comms l₁).Nodup) :
    sortByComm l₁ = sortByComm l₂ :=
  have p := sortByComm_perm l₁
  sorted_perm_unique Amount.comm commLe_antisymm (p.trans (hp.trans (sortByComm_perm l₂).symm))
    ((p.pairwise_iff fun h => h.symm).mpr (List.pairwise_map.mp hw)) (sortByComm_sorted l₁)
    (sortByComm_sorted l₂)

theorem sortedAmounts_perm (enum : Balance → Balance) (henum : ∀ b, (enum b).Perm b) (b : Balance) :
    (sortedAmounts enum b).Perm b := by
  unfold sortedAmounts
  split
  · exact List.Perm.refl _
  · exact (sortByComm_perm _).trans (henum b)

theorem sortedAmounts_sorted (enum : Balance → Balance) (b : Balance) :
    (sortedAmounts enum b).Pairwise (fun x y => commLe x.comm y.comm = true) := by
  unfold sortedAmounts
  split
  · simp
  · exact sortByComm_sorted _

theorem sortedAmounts_order_free (e₁ e₂ : Balance → Balance) (h₁ : ∀ b, (e₁ b).Perm b)
    (h₂ : ∀ b, (e₂ b).Perm b) (b : Balance) (hw : b.comms.Nodup) :
    sortedAmounts e₁ b = sortedAmounts e₂ b := by
  unfold sortedAmounts
  split
  · rfl
  · exact sortByComm_eq_of_perm ((h₁ b).trans (h₂ b).symm) (Balance.nodup_comms_perm (h₁ b).symm hw)

end FinX
end Ledger
