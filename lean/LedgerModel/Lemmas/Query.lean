/- Posting filters: `filterPosts` as a `List.filter` over the postings looked at before the first error
   (`filterPosts_eq`, `filterPosts_of_noErr`), `!`, `&`, `|` under `holds` and `NoErr`, complementary
   predicates splitting the postings (`filter_split`), and comparisons of integers and amounts never
   failing (`cmpVal_total`). -/
import LedgerModel.Model.Query
import LedgerModel.Lemmas.Value
import LedgerModel.Lemmas.ListExtra

namespace Ledger
namespace Query

theorem evalPred_not (m : Matcher) (p : Pred) (c : PostCtx) :
    evalPred m (.not p) c = (match evalPred m p c with | .ok b => .ok (!b) | .error e => .error e) := by
  cases h : evalPred m p c <;> simp [evalPred, h]

/-- the first evaluation error over the stream. -/
def firstErr (m : Matcher) (p : Pred) : List PostCtx → Option EvalErr
  | [] => none
  | c :: cs =>
    match evalPred m p c with
    | .error e => some e
    | .ok _ => firstErr m p cs

/-- A run splits into what was looked at before the first evaluation error, filtered, and that error:
    everything else about `filterPosts` is proved on these three pieces. -/
theorem filterPosts_eq (m : Matcher) (p : Pred) (ps : List PostCtx) :
    filterPosts m p ps = ((processed m p ps).filter (holds m p), firstErr m p ps) := by
  induction ps with
  | nil => rfl
  | cons c cs ih =>
    simp only [filterPosts, processed, firstErr]
    cases h : evalPred m p c with
    | error e => rfl
    | ok b =>
      simp only [ih, List.filter_cons, holds, h]
      cases b <;> rfl

theorem processed_not (m : Matcher) (p : Pred) (ps : List PostCtx) :
    processed m (.not p) ps = processed m p ps := by
  induction ps with
  | nil => rfl
  | cons c cs ih =>
    simp only [processed, evalPred_not]
    cases h : evalPred m p c <;> simp [ih]

theorem firstErr_not (m : Matcher) (p : Pred) (ps : List PostCtx) :
    firstErr m (.not p) ps = firstErr m p ps := by
  induction ps with
  | nil => rfl
  | cons c cs ih =>
    simp only [firstErr, evalPred_not]
    cases h : evalPred m p c <;> simp [ih]

theorem processed_sublist (m : Matcher) (p : Pred) (ps : List PostCtx) :
    (processed m p ps).Sublist ps := by
  induction ps with
  | nil => simp [processed]
  | cons c cs ih =>
    simp only [processed]
    cases evalPred m p c with
    | error e => exact List.nil_sublist _
    | ok b => exact ih.cons_cons c

theorem processed_ok (m : Matcher) (p : Pred) (ps : List PostCtx) : NoErr m p (processed m p ps) := by
  induction ps with
  | nil => exact fun _ h => nomatch h
  | cons c cs ih =>
    simp only [processed]
    cases h : evalPred m p c with
    | error e => exact fun _ h => nomatch h
    | ok b =>
      intro x hx
      simp only [List.mem_cons] at hx
      rcases hx with rfl | hx
      · exact ⟨b, h⟩
      · exact ih x hx

theorem processed_of_noErr {m : Matcher} {p : Pred} {ps : List PostCtx} (h : NoErr m p ps) :
    processed m p ps = ps ∧ firstErr m p ps = none := by
  induction ps with
  | nil => simp [processed, firstErr]
  | cons c cs ih =>
    obtain ⟨b, hb⟩ := h c (List.mem_cons_self)
    have := ih (fun x hx => h x (List.mem_cons_of_mem _ hx))
    simp [processed, firstErr, hb, this]

theorem noErr_of_firstErr {m : Matcher} {p : Pred} {ps : List PostCtx} (h : firstErr m p ps = none) :
    NoErr m p ps := by
  induction ps with
  | nil => intro c hc; simp at hc
  | cons c cs ih =>
    simp only [firstErr] at h
    cases hb : evalPred m p c with
    | error e => simp [hb] at h
    | ok b =>
      simp only [hb] at h
      intro x hx
      simp only [List.mem_cons] at hx
      rcases hx with rfl | hx
      · exact ⟨b, hb⟩
      · exact ih h x hx

theorem filterPosts_of_noErr {m : Matcher} {p : Pred} {ps : List PostCtx} (h : NoErr m p ps) :
    filterPosts m p ps = (ps.filter (holds m p), none) := by
  rw [filterPosts_eq, (processed_of_noErr h).1, (processed_of_noErr h).2]

theorem holds_of_ok {m : Matcher} {p : Pred} {c : PostCtx} {b : Bool} (h : evalPred m p c = .ok b) :
    holds m p c = b := by
  rw [holds, h]; cases b <;> rfl

theorem holds_not (m : Matcher) (p : Pred) (c : PostCtx) :
    holds m (.not p) c = decide (evalPred m p c = .ok false) := by
  simp only [holds, evalPred_not]
  cases h : evalPred m p c with
  | error e => simp
  | ok b => cases b <;> simp

theorem holds_not_of_ok {m : Matcher} {p : Pred} {c : PostCtx} {b : Bool} (h : evalPred m p c = .ok b) :
    holds m (.not p) c = !holds m p c := by
  rw [holds_not]; simp only [holds, h]; cases b <;> simp

theorem holds_and (m : Matcher) (p q : Pred) (c : PostCtx) :
    holds m (.and p q) c = (holds m p c && holds m q c) := by
  cases h : evalPred m p c with
  | error e => simp [holds, evalPred, h]
  | ok b => cases b <;> simp [holds, evalPred, h]

/-- Unlike `holds_and` this needs `p` not to fail: if it does, `p | q` fails as a whole and is not held,
    while `q` alone may hold. -/
theorem holds_or_of_ok {m : Matcher} {p q : Pred} {c : PostCtx} {b : Bool}
    (h : evalPred m p c = .ok b) :
    holds m (.or p q) c = (holds m p c || holds m q c) := by
  simp only [holds, evalPred, h]; cases b <;> simp

theorem evalPred_and_ok {m : Matcher} {p q : Pred} {c : PostCtx} (hp : ∃ b, evalPred m p c = .ok b)
    (hq : ∃ b, evalPred m q c = .ok b) : ∃ b, evalPred m (.and p q) c = .ok b := by
  obtain ⟨b, hb⟩ := hp
  obtain ⟨b', hb'⟩ := hq
  cases b <;> simp [evalPred, hb, hb']

theorem evalPred_or_ok {m : Matcher} {p q : Pred} {c : PostCtx} (hp : ∃ b, evalPred m p c = .ok b)
    (hq : ∃ b, evalPred m q c = .ok b) : ∃ b, evalPred m (.or p q) c = .ok b := by
  obtain ⟨b, hb⟩ := hp
  obtain ⟨b', hb'⟩ := hq
  cases b <;> simp [evalPred, hb, hb']

theorem evalPred_not_ok {m : Matcher} {p : Pred} {c : PostCtx} (hp : ∃ b, evalPred m p c = .ok b) :
    ∃ b, evalPred m (.not p) c = .ok b := by
  obtain ⟨b, hb⟩ := hp
  exact ⟨!b, by rw [evalPred_not, hb]⟩

theorem noErr_and {m : Matcher} {p q : Pred} {ps : List PostCtx} (hp : NoErr m p ps) (hq : NoErr m q ps) :
    NoErr m (.and p q) ps := fun c hc => evalPred_and_ok (hp c hc) (hq c hc)

theorem noErr_or {m : Matcher} {p q : Pred} {ps : List PostCtx} (hp : NoErr m p ps) (hq : NoErr m q ps) :
    NoErr m (.or p q) ps := fun c hc => evalPred_or_ok (hp c hc) (hq c hc)

theorem noErr_not {m : Matcher} {p : Pred} {ps : List PostCtx} (hp : NoErr m p ps) :
    NoErr m (.not p) ps := fun c hc => evalPred_not_ok (hp c hc)

/-- Two predicates that do not fail and hold of complementary postings split the postings between their
    two runs (`P` / `not P`, `--begin` / `--end`, `--cleared` / `--uncleared`). -/
theorem filter_split {m : Matcher} {p q : Pred} {ps : List PostCtx} (hp : NoErr m p ps) (hq : NoErr m q ps)
    (h : ∀ c ∈ ps, holds m q c = !holds m p c) :
    ((filterPosts m p ps).1 ++ (filterPosts m q ps).1).Perm ps ∧
    ∀ c, c ∈ (filterPosts m p ps).1 → c ∉ (filterPosts m q ps).1 := by
  rw [filterPosts_of_noErr hp, filterPosts_of_noErr hq]
  exact filter_compl _ _ ps h

/-- an integer or an amount: what `amount` evaluates to, and what an amount literal is -/
def Scalar (v : Value) : Prop := (∃ n, v = .int n) ∨ ∃ a, v = .amt a

theorem scalar_amount (c : PostCtx) : Scalar c.amount := by
  unfold PostCtx.amount
  cases c.post.amount with
  | none => exact .inl ⟨0, rfl⟩
  | some a => exact .inr ⟨a, rfl⟩

theorem eq_scalar {v w : Value} (hv : Scalar v) (hw : Scalar w) : ∃ b, Value.eq v w = .ok b := by
  rcases hv with ⟨x, rfl⟩ | ⟨x, rfl⟩ <;> rcases hw with ⟨y, rfl⟩ | ⟨y, rfl⟩
  · exact ⟨_, rfl⟩
  · exact ⟨_, rfl⟩
  · exact ⟨_, Amount.cmp_map_eq (Amount.compat_ofInt x y)⟩
  · exact ⟨_, rfl⟩

theorem cmpVal_total (op : CmpOp) {v w : Value} (hv : Scalar v) (hw : Scalar w) :
    ∃ b, cmpVal op v w = .ok b := by
  obtain ⟨b1, h1⟩ := Value.lt_scalar hv hw
  obtain ⟨b2, h2⟩ := Value.lt_scalar hw hv
  obtain ⟨b3, h3⟩ := eq_scalar hv hw
  cases op
  · exact ⟨b3, by rw [cmpVal, h3]; rfl⟩
  · exact ⟨b1, by rw [cmpVal, h1]; rfl⟩
  · exact ⟨!b2, by rw [cmpVal, Value.le, h2]; rfl⟩
  · exact ⟨b2, by rw [cmpVal, Value.gt, h2]; rfl⟩
  · exact ⟨!b1, by rw [cmpVal, Value.ge, h1]; rfl⟩

end Query
end Ledger
