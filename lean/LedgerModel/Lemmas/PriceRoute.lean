/-
Lemmas for the route choice on general price graphs (Model/PriceRoute.lean).

First, for an arbitrary out-edge function: the order on distances (`Dist.le_iff`), the admissible
tie-breaks (`firstMin_spec`, `popChoice_spec`), walks and their bottleneck (`IsPath`, `bnFrom`,
`bnFrom_max`), the invariant of the main loop (`DInv`, kept by `pop_inv`, `relaxEdge_inv`,
`dstep_inv`), termination (`drun_done`) and the result `route_correct`: for every order in which
equally distant vertices are popped, the run computes the least bottleneck (age of the oldest price)
over all walks, and the predecessor chain is a simple walk attaining it.

Then the bridge to a history: the filtered graph (`fgOf`, `fgraph_eq`, `feLookup_fgraph`: its
lookup is `recentEdge`; `outOf_fgraph_sound`, `outOf_fgraph_complete`: its out-edges are the price
points), the translation between walks and paths of commodities (`stepsOf`, `oldestAge`,
`linked_steps`, `steps_linked`), and `route_correct` in those terms (`routeW_sound`,
`routeW_complete`, `leastRecent_oldest`).  Last, a second admissible tie-break (`altChoice`).
-/
import LedgerModel.Model.PriceRoute
import LedgerModel.Lemmas.Prices
import LedgerModel.Lemmas.ListExtra

namespace Ledger.Prices

/-- `a ≤ b` with `none` as infinity: whenever `b` is finite, so is `a`, and it is no larger. -/
theorem Dist.le_iff {a b : Dist} : Dist.le a b = true ↔ ∀ y, b = some y → ∃ x, a = some x ∧ x ≤ y := by
  cases a <;> cases b <;> simp [Dist.le, Dist.lt]

theorem Dist.lt_iff {a b : Dist} : Dist.lt a b = true ↔ ∃ x, a = some x ∧ ∀ y, b = some y → x < y := by
  cases a <;> cases b <;> simp [Dist.lt]

theorem Dist.le_some_some (x y : Int) : Dist.le (some x) (some y) = true ↔ x ≤ y := by
  simp [Dist.le, Dist.lt]

theorem Dist.le_none (a : Dist) : Dist.le a none = true := Dist.le_iff.mpr nofun

theorem Dist.le_refl (a : Dist) : Dist.le a a = true := Dist.le_iff.mpr fun y hy => ⟨y, hy, Int.le_refl y⟩

theorem Dist.le_trans {a b c : Dist} (h1 : Dist.le a b = true) (h2 : Dist.le b c = true) :
    Dist.le a c = true := by
  refine Dist.le_iff.mpr fun z hz => ?_
  obtain ⟨y, hy, hyz⟩ := Dist.le_iff.mp h2 z hz
  obtain ⟨x, hx, hxy⟩ := Dist.le_iff.mp h1 y hy
  exact ⟨x, hx, Int.le_trans hxy hyz⟩

theorem Dist.le_of_lt {a b : Dist} (h : Dist.lt a b = true) : Dist.le a b = true := by
  obtain ⟨x, hx, hlt⟩ := Dist.lt_iff.mp h
  exact Dist.le_iff.mpr fun y hy => ⟨x, hx, Int.le_of_lt (hlt y hy)⟩

theorem Dist.le_of_not_lt {a b : Dist} (h : Dist.lt a b = false) : Dist.le b a = true := by
  rw [Dist.le, h]; rfl

theorem Dist.le_total (a b : Dist) : Dist.le a b = true ∨ Dist.le b a = true := by
  cases h : Dist.lt a b
  · exact Or.inr (Dist.le_of_not_lt h)
  · exact Or.inl (Dist.le_of_lt h)

theorem Dist.lt_none_iff (a : Dist) : Dist.lt a none = true ↔ a ≠ none := by
  cases a <;> simp [Dist.lt]

theorem combineMax_some (d w : Int) : combineMax (some d) w = some (max d w) := rfl

theorem Dist.le_combineMax (d : Dist) (w : Int) : Dist.le d (combineMax d w) = true := by
  refine Dist.le_iff.mpr fun y hy => ?_
  obtain ⟨x, hx, rfl⟩ := Option.map_eq_some_iff.mp hy
  exact ⟨x, hx, Int.le_max_left x w⟩

theorem combineMax_mono {a b : Dist} (w : Int) (h : Dist.le a b = true) :
    Dist.le (combineMax a w) (combineMax b w) = true := by
  refine Dist.le_iff.mpr fun z hz => ?_
  obtain ⟨y, hy, rfl⟩ := Option.map_eq_some_iff.mp hz
  obtain ⟨x, rfl, hxy⟩ := Dist.le_iff.mp h y hy
  exact ⟨max x w, rfl, Int.max_le.mpr ⟨Int.le_trans hxy (Int.le_max_left y w), Int.le_max_right y w⟩⟩

@[simp] theorem upd_same {β : Type} (f : Comm → β) (k : Comm) (x : β) : upd f k x k = x := if_pos rfl

theorem upd_other {β : Type} (f : Comm → β) {k y : Comm} (x : β) (h : y ≠ k) : upd f k x y = f y := if_neg h

theorem firstMin_spec (key : Comm → Dist) :
    ∀ (qs : List Comm) (q : Comm),
      firstMin key q qs ∈ q :: qs ∧ ∀ z ∈ q :: qs, Dist.le (key (firstMin key q qs)) (key z) = true := by
  intro qs
  induction qs with
  | nil =>
    intro q
    exact ⟨List.mem_cons_self, fun z hz => List.mem_singleton.mp hz ▸ Dist.le_refl _⟩
  | cons z zs ih =>
    intro q
    rw [firstMin]
    split
    · next hlt =>
      obtain ⟨h1, h2⟩ := ih z
      refine ⟨List.mem_cons_of_mem q h1, fun y hy => ?_⟩
      rcases List.mem_cons.mp hy with rfl | hy
      · exact Dist.le_trans (h2 z List.mem_cons_self) (Dist.le_of_lt hlt)
      · exact h2 y hy
    · next hlt =>
      obtain ⟨h1, h2⟩ := ih q
      have hq := h2 q List.mem_cons_self
      have hmem : firstMin key q zs ∈ q :: z :: zs := by
        rcases List.mem_cons.mp h1 with h | h
        · rw [h]; exact List.mem_cons_self
        · exact List.mem_cons_of_mem q (List.mem_cons_of_mem z h)
      refine ⟨hmem, fun y hy => ?_⟩
      rcases List.mem_cons.mp hy with rfl | hy
      · exact hq
      · rcases List.mem_cons.mp hy with rfl | hy
        · exact Dist.le_trans hq (Dist.le_of_not_lt (Bool.eq_false_iff.mpr hlt))
        · exact h2 y (List.mem_cons_of_mem q hy)

theorem popChoice_spec {s : DState} {u : Comm} (h : popChoice s = some u) :
    u ∈ s.queue ∧ ∀ z ∈ s.queue, Dist.le (s.dist u) (s.dist z) = true := by
  unfold popChoice at h
  split at h
  · cases h
  · next q qs hq =>
    rw [hq]
    have hfm := firstMin_spec s.dist qs q
    split at h
    · split at h
      · next hc =>
        cases h
        rw [Bool.and_eq_true, List.contains_iff_mem, isMinOf, List.all_eq_true] at hc
        exact hc
      · cases h; exact hfm
    · cases h; exact hfm

theorem popChoice_none_iff (s : DState) : popChoice s = none ↔ s.queue = [] := by
  unfold popChoice
  split
  · next h => exact ⟨fun _ => h, fun _ => rfl⟩
  · next q qs h =>
    rw [h]
    refine ⟨fun h' => ?_, nofun⟩
    split at h'
    · split at h' <;> cases h'
    · cases h'

/-- `steps` is a walk starting at `x`: every step is an out-edge of the vertex reached so far. -/
def IsPath (out : Comm → List (Comm × Int)) : Comm → List (Comm × Int) → Prop
  | _, [] => True
  | x, e :: rest => e ∈ out x ∧ IsPath out e.1 rest

def endOf : Comm → List (Comm × Int) → Comm
  | x, [] => x
  | _, e :: rest => endOf e.1 rest

/-- the greatest weight on the walk, at least `m` -/
def bnFrom (m : Int) (steps : List (Comm × Int)) : Int := steps.foldl (fun m e => max m e.2) m

theorem isPath_append (out : Comm → List (Comm × Int)) :
    ∀ (a b : List (Comm × Int)) (x : Comm),
      IsPath out x (a ++ b) ↔ IsPath out x a ∧ IsPath out (endOf x a) b := by
  intro a
  induction a with
  | nil => intro b x; simp [IsPath, endOf]
  | cons e rest ih =>
    intro b x
    simp only [List.cons_append, IsPath, endOf, ih, and_assoc]

theorem endOf_append : ∀ (a b : List (Comm × Int)) (x : Comm), endOf x (a ++ b) = endOf (endOf x a) b := by
  intro a
  induction a with
  | nil => intro b x; rfl
  | cons e rest ih => intro b x; simp only [List.cons_append, endOf, ih]

theorem bnFrom_append (m : Int) (a b : List (Comm × Int)) : bnFrom m (a ++ b) = bnFrom (bnFrom m a) b := by
  simp [bnFrom, List.foldl_append]

theorem bnFrom_cons (m : Int) (e : Comm × Int) (rest : List (Comm × Int)) :
    bnFrom m (e :: rest) = bnFrom (max m e.2) rest := rfl

theorem bnFrom_max (a : Int) : ∀ (steps : List (Comm × Int)) (b : Int),
    bnFrom (max a b) steps = max a (bnFrom b steps) := by
  intro steps
  induction steps with
  | nil => intro b; rfl
  | cons e rest ih => intro b; rw [bnFrom_cons, bnFrom_cons, Int.max_assoc, ih]

theorem bnFrom_mono : ∀ (steps : List (Comm × Int)) (m m' : Int), m ≤ m' → bnFrom m steps ≤ bnFrom m' steps := by
  intro steps m m' h
  rw [← Int.max_eq_left h, bnFrom_max]
  exact Int.le_max_right _ _

theorem le_bnFrom : ∀ (steps : List (Comm × Int)) (m : Int), m ≤ bnFrom m steps := by
  intro steps m
  have h := bnFrom_max m steps m
  rw [Int.max_self] at h
  rw [h]
  exact Int.le_max_left _ _

theorem gray_ne_white {c : Color} (h : c = .gray) : c ≠ .white := fun hw => nomatch h.symm.trans hw

theorem black_ne_white {c : Color} (h : c = .black) : c ≠ .white := fun hw => nomatch h.symm.trans hw

/-- what relaxing the out-edge `e` of a black `x` guarantees -/
def EdgeDone (s : DState) (x : Comm) (e : Comm × Int) : Prop :=
  s.color e.1 ≠ .white ∧ Dist.le (s.dist e.1) (combineMax (s.dist x) e.2) = true

/-- Invariant between two iterations (`pend = fun _ _ => False`) and inside the walk over
    the out-edges of `u` (`pend x e = (x = u ∧ e ∈ rest)`).  Three ideas carry it.
    `order` (with `DMid.uMax` inside an iteration) is Dijkstra's invariant: no black vertex is
    farther than a gray one, which is why a black target needs no relaxing.  `blackEdges` says
    every out-edge of a black vertex has been relaxed; at the end it gives `final_lower_bound`.
    `rankLt` and `rankPred` read the ghost pop times: a predecessor was popped earlier, so the
    predecessor chain is well-founded (the induction of `final_route`).  The other fields are
    bookkeeping between colours, queue, distances and predecessors. -/
structure DInv (out : Comm → List (Comm × Int)) (src : Comm) (pend : Comm → Comm × Int → Prop) (s : DState) : Prop where
  srcDist : s.dist src = some 0
  srcColor : s.color src ≠ .white
  srcPred : s.pred src = src
  qNodup : s.queue.Nodup
  qGray : ∀ v, v ∈ s.queue ↔ s.color v = .gray
  whiteDist : ∀ v, s.color v = .white ↔ s.dist v = none
  whitePred : ∀ v, s.color v = .white → s.pred v = v
  nonneg : ∀ v d, s.dist v = some d → 0 ≤ d
  blackEdges : ∀ x, s.color x = .black → ∀ e ∈ out x, pend x e ∨ EdgeDone s x e
  order : ∀ x z, s.color x = .black → s.color z = .gray → Dist.le (s.dist x) (s.dist z) = true
  predOk : ∀ v, s.color v ≠ .white → v ≠ src →
    s.color (s.pred v) = .black ∧ ∃ wt, (v, wt) ∈ out (s.pred v) ∧ s.dist v = combineMax (s.dist (s.pred v)) wt
  rankLt : ∀ x, s.color x = .black → s.rank x < s.time
  rankPred : ∀ v, s.color v = .black → v ≠ src → s.rank (s.pred v) < s.rank v

/-- extra facts while the out-edges of `u` are walked -/
structure DMid (out : Comm → List (Comm × Int)) (u : Comm) (rest : List (Comm × Int)) (s : DState) : Prop where
  uBlack : s.color u = .black
  uMax : ∀ x, s.color x = .black → Dist.le (s.dist x) (s.dist u) = true
  restSub : ∀ e ∈ rest, e ∈ out u

theorem dinit_color (src v : Comm) : (dinit src).color v = if v = src then .gray else .white := rfl

theorem dinit_dist (src v : Comm) : (dinit src).dist v = if v = src then some 0 else none := rfl

theorem dinit_not_black (src x : Comm) : (dinit src).color x ≠ .black := by
  rw [dinit_color]; split <;> exact nofun

theorem dinit_inv (out : Comm → List (Comm × Int)) (src : Comm) : DInv out src (fun _ _ => False) (dinit src) := by
  have hblack : ∀ {p : Prop} (x : Comm), (dinit src).color x = .black → p :=
    fun x hx => absurd hx (dinit_not_black src x)
  refine { srcDist := (dinit_dist src src).trans (if_pos rfl), srcColor := by rw [dinit_color, if_pos rfl]; exact nofun, srcPred := rfl,
           qNodup := List.nodup_cons.mpr ⟨List.not_mem_nil, List.nodup_nil⟩, qGray := ?_, whiteDist := ?_,
           whitePred := fun _ _ => rfl, nonneg := ?_, blackEdges := fun x hx => hblack x hx,
           order := fun x _ hx => hblack x hx, predOk := ?_, rankLt := fun x hx => hblack x hx,
           rankPred := fun x hx => hblack x hx }
  · intro v
    rw [dinit_color, show (dinit src).queue = [src] from rfl, List.mem_singleton]
    by_cases h : v = src
    · rw [if_pos h]; exact ⟨fun _ => rfl, fun _ => h⟩
    · rw [if_neg h]; exact ⟨fun h' => absurd h' h, nofun⟩
  · intro v
    rw [dinit_color, dinit_dist]
    by_cases h : v = src
    · rw [if_pos h, if_pos h]; exact ⟨nofun, nofun⟩
    · rw [if_neg h, if_neg h]; exact ⟨fun _ => rfl, fun _ => rfl⟩
  · intro v d hd
    rw [dinit_dist] at hd
    by_cases h : v = src
    · rw [if_pos h] at hd; cases hd; exact Int.le_refl 0
    · rw [if_neg h] at hd; cases hd
  · intro v hv hne
    rw [dinit_color, if_neg hne] at hv
    exact absurd rfl hv

def pendOf (u : Comm) (rest : List (Comm × Int)) : Comm → Comm × Int → Prop := fun x e => x = u ∧ e ∈ rest

theorem DInv.mono_pend {out : Comm → List (Comm × Int)} {src : Comm} {pend pend' : Comm → Comm × Int → Prop} {s : DState}
    (h : DInv out src pend s) (hp : ∀ x e, pend x e → pend' x e ∨ EdgeDone s x e) : DInv out src pend' s := by
  refine { srcDist := h.srcDist, srcColor := h.srcColor, srcPred := h.srcPred, qNodup := h.qNodup, qGray := h.qGray,
           whiteDist := h.whiteDist, whitePred := h.whitePred, nonneg := h.nonneg, blackEdges := ?_, order := h.order,
           predOk := h.predOk, rankLt := h.rankLt, rankPred := h.rankPred }
  intro x hx e he
  rcases h.blackEdges x hx e he with h' | h'
  · exact hp x e h'
  · exact Or.inr h'

/-- `Q.top(); Q.pop()` and marking the vertex black.  Stated for any state `s1` with the right
    fields, since `heap` plays no part in the invariant. -/
theorem pop_inv {out : Comm → List (Comm × Int)} {src : Comm} {s : DState} {u : Comm}
    (hI : DInv out src (fun _ _ => False) s) (hu : u ∈ s.queue)
    (hmin : ∀ z ∈ s.queue, Dist.le (s.dist u) (s.dist z) = true)
    (s1 : DState) (hd : s1.dist = s.dist) (hp : s1.pred = s.pred)
    (hc : s1.color = upd s.color u .black) (hq : s1.queue = s.queue.erase u)
    (hr : s1.rank = upd s.rank u s.time) (ht : s1.time = s.time + 1) :
    DInv out src (pendOf u (out u)) s1 ∧ DMid out u (out u) s1 := by
  have hug : s.color u = .gray := (hI.qGray u).mp hu
  have hcol : ∀ y, y ≠ u → s1.color y = s.color y := fun y hy => by rw [hc, upd_other _ _ hy]
  have hcu : s1.color u = .black := by rw [hc, upd_same]
  have hblack : ∀ x, s1.color x = .black → x = u ∨ (x ≠ u ∧ s.color x = .black) := by
    intro x hx
    by_cases h : x = u
    · exact Or.inl h
    · exact Or.inr ⟨h, by rw [← hcol x h]; exact hx⟩
  have hnw : ∀ y, s1.color y ≠ .white → s.color y ≠ .white := by
    intro y hy
    by_cases h : y = u
    · subst h; exact gray_ne_white hug
    · rw [← hcol y h]; exact hy
  have hnw' : ∀ y, s.color y ≠ .white → s1.color y ≠ .white := by
    intro y hy
    by_cases h : y = u
    · subst h; exact black_ne_white hcu
    · rw [hcol y h]; exact hy
  have hpredBlack : ∀ v, s.color v ≠ .white → v ≠ src → s.pred v ≠ u := by
    intro v hv hne h
    have := (hI.predOk v hv hne).1
    rw [h, hug] at this
    cases this
  refine ⟨{ srcDist := by rw [hd]; exact hI.srcDist, srcColor := hnw' _ hI.srcColor, srcPred := by rw [hp]; exact hI.srcPred,
            qNodup := by rw [hq]; exact hI.qNodup.erase u, qGray := ?qGray, whiteDist := ?whiteDist, whitePred := ?whitePred,
            nonneg := by rw [hd]; exact hI.nonneg, blackEdges := ?blackEdges, order := ?order, predOk := ?predOk, rankLt := ?rankLt, rankPred := ?rankPred },
          { uBlack := hcu, uMax := ?uMax, restSub := fun _ h => h }⟩
  case qGray =>
    intro v
    rw [hq]
    by_cases h : v = u
    · subst h
      rw [hcu, hI.qNodup.mem_erase_iff]
      exact ⟨fun h => absurd rfl h.1, nofun⟩
    · rw [List.mem_erase_of_ne h, hcol v h]; exact hI.qGray v
  case whiteDist =>
    intro v
    rw [hd]
    by_cases h : v = u
    · subst h
      rw [hcu]
      exact ⟨nofun, fun hn => absurd ((hI.whiteDist v).mpr hn) (gray_ne_white hug)⟩
    · rw [hcol v h]; exact hI.whiteDist v
  case whitePred =>
    intro v hv
    rw [hp]
    by_cases h : v = u
    · subst h; rw [hcu] at hv; cases hv
    · rw [hcol v h] at hv; exact hI.whitePred v hv
  case blackEdges =>
    intro x hx e he
    rcases hblack x hx with rfl | ⟨hne, hxb⟩
    · exact Or.inl ⟨rfl, he⟩
    · rcases hI.blackEdges x hxb e he with h | h
      · exact h.elim
      · exact Or.inr ⟨hnw' _ h.1, by rw [hd]; exact h.2⟩
  case order =>
    intro x z hx hz
    have hzu : z ≠ u := by intro h; subst h; rw [hcu] at hz; cases hz
    have hzg : s.color z = .gray := by rw [← hcol z hzu]; exact hz
    rw [hd]
    rcases hblack x hx with rfl | ⟨_, hxb⟩
    · exact hmin z ((hI.qGray z).mpr hzg)
    · exact hI.order x z hxb hzg
  case predOk =>
    intro v hv hne
    have hv' := hnw v hv
    have ⟨h1, wt, h2, h3⟩ := hI.predOk v hv' hne
    rw [hp, hd]
    refine ⟨?_, wt, h2, h3⟩
    rw [hcol _ (hpredBlack v hv' hne)]; exact h1
  case rankLt =>
    intro x hx
    rw [hr, ht]
    rcases hblack x hx with rfl | ⟨hne, hxb⟩
    · rw [upd_same]; exact Nat.lt_succ_self _
    · rw [upd_other _ _ hne]; exact Nat.lt_succ_of_lt (hI.rankLt x hxb)
  case rankPred =>
    intro v hv hne
    rw [hr, hp]
    rcases hblack v hv with rfl | ⟨hvu, hvb⟩
    · have hpu := hpredBlack v (gray_ne_white hug) hne
      have hpb := (hI.predOk v (gray_ne_white hug) hne).1
      rw [upd_same, upd_other _ _ hpu]
      exact hI.rankLt _ hpb
    · have hvw : s.color v ≠ .white := black_ne_white hvb
      have hpu := hpredBlack v hvw hne
      rw [upd_other _ _ hvu, upd_other _ _ hpu]
      exact hI.rankPred v hvb hne
  case uMax =>
    intro x hx
    rw [hd]
    rcases hblack x hx with rfl | ⟨_, hxb⟩
    · exact Dist.le_refl _
    · exact hI.order x u hxb hug

/-- the out-edge needs no change (black target, or a gray target that is not improved) -/
theorem relax_keep {out : Comm → List (Comm × Int)} {src u : Comm} {e : Comm × Int} {rest : List (Comm × Int)} {s : DState}
    (hI : DInv out src (pendOf u (e :: rest)) s) (hM : DMid out u (e :: rest) s) (hdone : EdgeDone s u e) :
    DInv out src (pendOf u rest) s ∧ DMid out u rest s := by
  refine ⟨hI.mono_pend ?_, { uBlack := hM.uBlack, uMax := hM.uMax, restSub := fun x hx => hM.restSub x (List.mem_cons_of_mem _ hx) }⟩
  intro x e' hp
  obtain ⟨rfl, hmem⟩ := hp
  rcases List.mem_cons.mp hmem with rfl | hmem
  · exact Or.inr hdone
  · exact Or.inl ⟨rfl, hmem⟩

/-- `relax_target` succeeded on a white or gray target `v`: `d_v := max(d_u, w)`, `p_v := u`,
    and a white target turns gray and is pushed. -/
theorem relax_update {out : Comm → List (Comm × Int)} {src u v : Comm} {wt : Int} {rest : List (Comm × Int)} {s s' : DState}
    (hI : DInv out src (pendOf u ((v, wt) :: rest)) s) (hM : DMid out u ((v, wt) :: rest) s)
    (du : Int) (hdu : s.dist u = some du)
    (hlt : Dist.lt (some (max du wt)) (s.dist v) = true) (hnb : s.color v ≠ .black)
    (hdv : s'.dist v = some (max du wt)) (hdo : ∀ y, y ≠ v → s'.dist y = s.dist y)
    (hpv : s'.pred v = u) (hpo : ∀ y, y ≠ v → s'.pred y = s.pred y)
    (hcv : s'.color v = .gray) (hco : ∀ y, y ≠ v → s'.color y = s.color y)
    (hq : s'.queue = if s.color v = .white then s.queue ++ [v] else s.queue)
    (hr : s'.rank = s.rank) (ht : s'.time = s.time) :
    DInv out src (pendOf u rest) s' ∧ DMid out u rest s' := by
  have hvu : v ≠ u := by intro h; subst h; exact hnb hM.uBlack
  have hdu0 : 0 ≤ du := hI.nonneg u du hdu
  have hvsrc : v ≠ src := by
    intro h; subst h
    rw [hI.srcDist] at hlt
    obtain ⟨x, hx, hlt⟩ := Dist.lt_iff.mp hlt
    cases hx
    exact absurd (hlt 0 rfl) (Int.not_lt.mpr (Int.le_trans hdu0 (Int.le_max_left du wt)))
  have hblack : ∀ x, s'.color x = .black ↔ s.color x = .black := by
    intro x
    by_cases h : x = v
    · subst h; rw [hcv]; exact ⟨nofun, fun hb => absurd hb hnb⟩
    · rw [hco x h]
  have hbv : ∀ x, s.color x = .black → x ≠ v := fun x hx h => by subst h; exact hnb hx
  have hnw : ∀ y, s.color y ≠ .white → s'.color y ≠ .white := by
    intro y hy
    by_cases h : y = v
    · subst h; exact gray_ne_white hcv
    · rw [hco y h]; exact hy
  have hgray : ∀ y, s'.color y = .gray ↔ (y = v ∨ s.color y = .gray) := by
    intro y
    by_cases h : y = v
    · subst h; exact ⟨fun _ => Or.inl rfl, fun _ => hcv⟩
    · rw [hco y h]; exact ⟨Or.inr, fun h' => h'.resolve_left h⟩
  have hdle : ∀ y, Dist.le (s'.dist y) (s.dist y) = true := by
    intro y
    by_cases h : y = v
    · subst h; rw [hdv]; exact Dist.le_of_lt hlt
    · rw [hdo y h]; exact Dist.le_refl _
  have hcand_ge : ∀ x, s.color x = .black → Dist.le (s.dist x) (some (max du wt)) = true := by
    intro x hx
    have h1 := hM.uMax x hx
    rw [hdu] at h1
    have h2 : Dist.le (some du) (some (max du wt)) = true := (Dist.le_some_some _ _).mpr (Int.le_max_left du wt)
    exact Dist.le_trans h1 h2
  refine ⟨{ srcDist := by rw [hdo src (Ne.symm hvsrc)]; exact hI.srcDist, srcColor := hnw _ hI.srcColor,
            srcPred := by rw [hpo src (Ne.symm hvsrc)]; exact hI.srcPred,
            qNodup := ?qNodup, qGray := ?qGray, whiteDist := ?whiteDist, whitePred := ?whitePred, nonneg := ?nonneg, blackEdges := ?blackEdges, order := ?order,
            predOk := ?predOk, rankLt := ?rankLt, rankPred := ?rankPred },
          { uBlack := (hblack u).mpr hM.uBlack, uMax := ?uMax, restSub := fun x hx => hM.restSub x (List.mem_cons_of_mem _ hx) }⟩
  case qNodup =>
    rw [hq]
    split
    · rename_i hw
      have hvq : v ∉ s.queue := by
        intro h; have := (hI.qGray v).mp h; rw [hw] at this; cases this
      exact nodup_append_singleton hI.qNodup hvq
    · exact hI.qNodup
  case qGray =>
    intro y
    rw [hq, hgray]
    split
    · rename_i hw
      rw [List.mem_append, hI.qGray y, List.mem_singleton]
      exact Or.comm
    · rename_i hw
      have hvg : s.color v = .gray := by
        cases hcol : s.color v with
        | white => exact absurd hcol hw
        | gray => rfl
        | black => exact absurd hcol hnb
      rw [hI.qGray y]
      exact ⟨Or.inr, fun h => h.elim (fun h => h ▸ hvg) id⟩
  case whiteDist =>
    intro y
    by_cases h : y = v
    · subst h; rw [hcv, hdv]; exact ⟨nofun, nofun⟩
    · rw [hco y h, hdo y h]; exact hI.whiteDist y
  case whitePred =>
    intro y hy
    have h : y ≠ v := by intro h; subst h; rw [hcv] at hy; cases hy
    rw [hco y h] at hy
    rw [hpo y h]; exact hI.whitePred y hy
  case nonneg =>
    intro y d hy
    by_cases h : y = v
    · subst h; rw [hdv] at hy; cases hy; exact Int.le_trans hdu0 (Int.le_max_left du wt)
    · rw [hdo y h] at hy; exact hI.nonneg y d hy
  case blackEdges =>
    intro x hx e' he'
    have hxb := (hblack x).mp hx
    have hxv := hbv x hxb
    have keep : EdgeDone s x e' → EdgeDone s' x e' := by
      rintro ⟨h1, h2⟩
      refine ⟨hnw _ h1, ?_⟩
      rw [hdo x hxv]
      exact Dist.le_trans (hdle e'.1) h2
    rcases hI.blackEdges x hxb e' he' with ⟨rfl, hmem⟩ | h
    · rcases List.mem_cons.mp hmem with rfl | hmem
      · right
        refine ⟨gray_ne_white hcv, ?_⟩
        show Dist.le (s'.dist v) (combineMax (s'.dist x) wt) = true
        rw [hdv, hdo x hxv, hdu, combineMax_some]
        exact Dist.le_refl _
      · exact Or.inl ⟨rfl, hmem⟩
    · exact Or.inr (keep h)
  case order =>
    intro x z hx hz
    have hxb := (hblack x).mp hx
    rw [hdo x (hbv x hxb)]
    by_cases h : z = v
    · subst h; rw [hdv]; exact hcand_ge x hxb
    · rw [hdo z h]; exact hI.order x z hxb (hco z h ▸ hz)
  case predOk =>
    intro y hy hne
    by_cases h : y = v
    · subst h
      rw [hpv, hdv, hdo u (Ne.symm hvu), hdu]
      exact ⟨(hblack u).mpr hM.uBlack, wt, hM.restSub _ List.mem_cons_self, rfl⟩
    · have hy' : s.color y ≠ .white := by rw [← hco y h]; exact hy
      have ⟨h1, w', h2, h3⟩ := hI.predOk y hy' hne
      rw [hpo y h, hdo y h, hdo _ (hbv _ h1)]
      exact ⟨(hblack _).mpr h1, w', h2, h3⟩
  case rankLt =>
    intro x hx
    rw [hr, ht]; exact hI.rankLt x ((hblack x).mp hx)
  case rankPred =>
    intro y hy hne
    have hyb := (hblack y).mp hy
    rw [hr, hpo y (hbv y hyb)]
    exact hI.rankPred y hyb hne
  case uMax =>
    intro x hx
    have hxb := (hblack x).mp hx
    rw [hdo x (hbv x hxb), hdo u (Ne.symm hvu)]
    exact hM.uMax x hxb

theorem relaxEdge_black {u : Comm} {s : DState} {e : Comm × Int} (h : s.color e.1 = .black) :
    relaxEdge u s e = s := by
  simp only [relaxEdge, h]

theorem relaxEdge_white {u : Comm} {s : DState} {e : Comm × Int} (h : s.color e.1 = .white) :
    relaxEdge u s e =
      if Dist.lt (combineMax (s.dist u) e.2) (s.dist e.1) then
        { s with dist := upd s.dist e.1 (combineMax (s.dist u) e.2), pred := upd s.pred e.1 u,
                 color := upd s.color e.1 .gray, queue := s.queue ++ [e.1],
                 heap := heapPush (upd s.dist e.1 (combineMax (s.dist u) e.2)) s.heap e.1 }
      else { s with color := upd s.color e.1 .gray, queue := s.queue ++ [e.1], heap := heapPush s.dist s.heap e.1 } := by
  simp only [relaxEdge, h]

theorem relaxEdge_gray {u : Comm} {s : DState} {e : Comm × Int} (h : s.color e.1 = .gray) :
    relaxEdge u s e =
      if Dist.lt (combineMax (s.dist u) e.2) (s.dist e.1) then
        { s with dist := upd s.dist e.1 (combineMax (s.dist u) e.2), pred := upd s.pred e.1 u,
                 heap := heapUpdate (upd s.dist e.1 (combineMax (s.dist u) e.2)) s.heap e.1 }
      else s := by
  simp only [relaxEdge, h]

theorem relaxEdge_inv {out : Comm → List (Comm × Int)} {src u : Comm} {e : Comm × Int} {rest : List (Comm × Int)} {s : DState}
    (hI : DInv out src (pendOf u (e :: rest)) s) (hM : DMid out u (e :: rest) s) :
    DInv out src (pendOf u rest) (relaxEdge u s e) ∧ DMid out u rest (relaxEdge u s e) := by
  obtain ⟨v, wt⟩ := e
  obtain ⟨du, hdu⟩ : ∃ d, s.dist u = some d := by
    cases h : s.dist u with
    | none => exact absurd ((hI.whiteDist u).mpr h) (black_ne_white hM.uBlack)
    | some d => exact ⟨d, rfl⟩
  have hcand : combineMax (s.dist u) wt = some (max du wt) := by rw [hdu]; rfl
  cases hcol : s.color v with
  | black =>
    rw [relaxEdge_black hcol]
    exact relax_keep hI hM ⟨black_ne_white hcol, Dist.le_trans (hM.uMax _ hcol) (Dist.le_combineMax _ _)⟩
  | white =>
    have hlt : Dist.lt (some (max du wt)) (s.dist v) = true := by rw [(hI.whiteDist _).mp hcol]; rfl
    have hnb : s.color v ≠ .black := fun h => nomatch hcol.symm.trans h
    rw [relaxEdge_white hcol, hcand, if_pos hlt]
    -- `with_reducible`: the fields of the new state are to be read off by projection; left to itself the
    -- unifier unfolds `upd` down to `String.decEq` before it looks at them
    with_reducible
      exact relax_update hI hM du hdu hlt hnb (upd_same _ _ _) (fun _ hy => upd_other _ _ hy) (upd_same _ _ _)
        (fun _ hy => upd_other _ _ hy) (upd_same _ _ _) (fun _ hy => upd_other _ _ hy) (if_pos hcol).symm rfl rfl
  | gray =>
    have hnb : s.color v ≠ .black := fun h => nomatch hcol.symm.trans h
    rw [relaxEdge_gray hcol, hcand]
    by_cases hlt : Dist.lt (some (max du wt)) (s.dist v) = true
    · rw [if_pos hlt]
      with_reducible
        exact relax_update hI hM du hdu hlt hnb (upd_same _ _ _) (fun _ hy => upd_other _ _ hy) (upd_same _ _ _)
          (fun _ hy => upd_other _ _ hy) hcol (fun _ _ => rfl) (if_neg (gray_ne_white hcol)).symm rfl rfl
    · rw [if_neg hlt]
      exact relax_keep hI hM ⟨gray_ne_white hcol, hcand ▸ Dist.le_of_not_lt (Bool.eq_false_iff.mpr hlt)⟩

theorem foldl_relax_inv {out : Comm → List (Comm × Int)} {src u : Comm} :
    ∀ (rest : List (Comm × Int)) (s : DState),
      DInv out src (pendOf u rest) s → DMid out u rest s →
      DInv out src (pendOf u []) (rest.foldl (relaxEdge u) s) ∧ DMid out u [] (rest.foldl (relaxEdge u) s) := by
  intro rest
  induction rest with
  | nil => intro s hI hM; exact ⟨hI, hM⟩
  | cons e rest ih =>
    intro s hI hM
    have ⟨h1, h2⟩ := relaxEdge_inv hI hM
    exact ih _ h1 h2

theorem dstep_inv {choose : DState → Option Comm} (hch : ChoiceOk choose) {out : Comm → List (Comm × Int)} {src : Comm} {s : DState}
    (hI : DInv out src (fun _ _ => False) s) : DInv out src (fun _ _ => False) (dstepW choose out s) := by
  unfold dstepW
  split
  · exact hI
  · rename_i u hu
    have ⟨hmem, hmin⟩ := hch.spec _ _ hu
    with_reducible -- as in `relaxEdge_inv`
      have ⟨h1, h2⟩ := pop_inv hI hmem hmin
        { s with color := upd s.color u .black, queue := s.queue.erase u,
                 heap := if s.heap.head? = some u then heapPop s.dist s.heap else s.heap.erase u,
                 rank := upd s.rank u s.time, time := s.time + 1 } rfl rfl rfl rfl rfl rfl
    have ⟨h3, _⟩ := foldl_relax_inv (out u) _ h1 h2
    exact h3.mono_pend (fun x e hp => absurd hp.2 List.not_mem_nil)

theorem drun_inv {choose : DState → Option Comm} (hch : ChoiceOk choose) {out : Comm → List (Comm × Int)} {src : Comm} :
    ∀ (fuel : Nat) (s : DState), DInv out src (fun _ _ => False) s → DInv out src (fun _ _ => False) (drunW choose out fuel s) := by
  intro fuel
  induction fuel with
  | zero => intro s h; exact h
  | succ n ih =>
    intro s h
    simp only [drunW]
    split
    · exact h
    · exact ih _ (dstep_inv hch h)

theorem relaxEdge_color (u : Comm) (s : DState) (e : Comm × Int) (x : Comm) :
    (relaxEdge u s e).color x = s.color x ∨ (x = e.1 ∧ s.color x = .white ∧ (relaxEdge u s e).color x = .gray) := by
  cases hcol : s.color e.1 with
  | black => rw [relaxEdge_black hcol]; exact Or.inl rfl
  | gray => rw [relaxEdge_gray hcol, apply_ite DState.color]; exact Or.inl (congrFun (ite_self _) x)
  | white =>
    have hc : (relaxEdge u s e).color = upd s.color e.1 .gray := by
      rw [relaxEdge_white hcol, apply_ite DState.color]; exact ite_self _
    rw [hc]
    by_cases h : x = e.1
    · rw [h]; exact Or.inr ⟨rfl, hcol, upd_same _ _ _⟩
    · exact Or.inl (upd_other _ _ h)

theorem relaxEdge_time_rank (u : Comm) (s : DState) (e : Comm × Int) :
    (relaxEdge u s e).time = s.time ∧ (relaxEdge u s e).rank = s.rank := by
  cases hcol : s.color e.1 with
  | black => rw [relaxEdge_black hcol]; exact ⟨rfl, rfl⟩
  | white => rw [relaxEdge_white hcol, apply_ite DState.time, apply_ite DState.rank]; exact ⟨ite_self _, ite_self _⟩
  | gray => rw [relaxEdge_gray hcol, apply_ite DState.time, apply_ite DState.rank]; exact ⟨ite_self _, ite_self _⟩

theorem foldl_relax_effect (u : Comm) :
    ∀ (es : List (Comm × Int)) (s : DState) (x : Comm),
      ((es.foldl (relaxEdge u) s).color x = .black ↔ s.color x = .black) ∧
      ((es.foldl (relaxEdge u) s).color x ≠ .white → s.color x ≠ .white ∨ ∃ e ∈ es, e.1 = x) ∧
      (es.foldl (relaxEdge u) s).time = s.time := by
  intro es
  induction es with
  | nil => intro s x; exact ⟨Iff.rfl, Or.inl, rfl⟩
  | cons e es ih =>
    intro s x
    rw [List.foldl_cons]
    have ⟨h1, h2, h3⟩ := ih (relaxEdge u s e) x
    have hc := relaxEdge_color u s e x
    refine ⟨?_, ?_, by rw [h3, (relaxEdge_time_rank u s e).1]⟩
    · rw [h1]
      rcases hc with hc | ⟨_, hw, hg⟩
      · rw [hc]
      · rw [hg, hw]; exact ⟨nofun, nofun⟩
    · intro h
      rcases h2 h with h | ⟨e', he', hx⟩
      · rcases hc with hc | ⟨hx, _, _⟩
        · left; rw [← hc]; exact h
        · right; exact ⟨e, List.mem_cons_self, hx.symm⟩
      · right; exact ⟨e', List.mem_cons_of_mem _ he', hx⟩

theorem dstep_effect {choose : DState → Option Comm} {out : Comm → List (Comm × Int)} {s : DState} {u : Comm}
    (hu : choose s = some u) (x : Comm) :
    ((dstepW choose out s).color x = .black ↔ (x = u ∨ s.color x = .black)) ∧
    ((dstepW choose out s).color x ≠ .white → s.color x ≠ .white ∨ x = u ∨ ∃ e ∈ out u, e.1 = x) ∧
    (dstepW choose out s).time = s.time + 1 := by
  unfold dstepW
  simp only [hu]
  have ⟨h1, h2, h3⟩ := foldl_relax_effect u (out u)
    { s with color := upd s.color u .black, queue := s.queue.erase u,
             heap := if s.heap.head? = some u then heapPop s.dist s.heap else s.heap.erase u,
             rank := upd s.rank u s.time, time := s.time + 1 } x
  refine ⟨?_, ?_, h3⟩
  · rw [h1]
    by_cases h : x = u
    · subst h; simp
    · simp [upd, h]
  · intro h
    rcases h2 h with h | h
    · by_cases hx : x = u
      · exact Or.inr (Or.inl hx)
      · left; simpa [upd, hx] using h
    · exact Or.inr (Or.inr h)

/-- `U` holds the source and is closed under `out`: the vertices the run can ever colour. -/
structure Closed (out : Comm → List (Comm × Int)) (src : Comm) (U : List Comm) : Prop where
  src_mem : src ∈ U
  out_mem : ∀ x, ∀ e ∈ out x, e.1 ∈ U

/-- Termination measure: every iteration blackens one more vertex of `U`. -/
def nonBlack (s : DState) (U : List Comm) : Nat := U.countP (fun x => decide (s.color x ≠ .black))

theorem dstep_progress {choose : DState → Option Comm} (hch : ChoiceOk choose) {out : Comm → List (Comm × Int)} {src : Comm}
    {U : List Comm} (hC : Closed out src U) {s : DState}
    (hI : DInv out src (fun _ _ => False) s) (hU : ∀ v, s.color v ≠ .white → v ∈ U) (hq : s.queue ≠ []) :
    (∀ v, (dstepW choose out s).color v ≠ .white → v ∈ U) ∧ nonBlack (dstepW choose out s) U < nonBlack s U ∧
    (dstepW choose out s).time = s.time + 1 := by
  cases hu : choose s with
  | none => exact absurd ((hch.none_iff s).mp hu) hq
  | some u =>
    have hmem := (hch.spec _ _ hu).1
    have hug : s.color u = .gray := (hI.qGray u).mp hmem
    have huU : u ∈ U := hU u (gray_ne_white hug)
    refine ⟨?_, ?_, (dstep_effect (choose := choose) hu u).2.2⟩
    · intro v hv
      rcases (dstep_effect (choose := choose) (out := out) hu v).2.1 hv with h | rfl | ⟨e, he, rfl⟩
      · exact hU v h
      · exact huU
      · exact hC.out_mem u e he
    · refine countP_lt_of_imp (a := u) (fun x _ hx => ?_) huU ?_ ?_
      · exact decide_eq_true fun hb => of_decide_eq_true hx
          ((dstep_effect (choose := choose) (out := out) hu x).1.mpr (Or.inr hb))
      · exact decide_eq_true fun hb => nomatch hug.symm.trans hb
      · exact decide_eq_false (not_not_intro ((dstep_effect (choose := choose) (out := out) hu u).1.mpr (Or.inl rfl)))

theorem drun_done {choose : DState → Option Comm} (hch : ChoiceOk choose) {out : Comm → List (Comm × Int)} {src : Comm}
    {U : List Comm} (hC : Closed out src U) :
    ∀ (fuel : Nat) (s : DState), DInv out src (fun _ _ => False) s → (∀ v, s.color v ≠ .white → v ∈ U) →
      nonBlack s U < fuel → (drunW choose out fuel s).queue = [] ∧ (drunW choose out fuel s).time ≤ s.time + fuel := by
  intro fuel
  induction fuel with
  | zero => intro s _ _ h; exact absurd h (Nat.not_lt_zero _)
  | succ n ih =>
    intro s hI hU hm
    simp only [drunW]
    split
    · rename_i he
      exact ⟨List.isEmpty_iff.mp he, Nat.le_add_right _ _⟩
    · rename_i he
      have hq : s.queue ≠ [] := fun h => he (List.isEmpty_iff.mpr h)
      have ⟨h1, h2, h3⟩ := dstep_progress hch hC hI hU hq
      have ⟨h4, h5⟩ := ih (dstepW choose out s) (dstep_inv hch hI) h1
        (Nat.lt_of_lt_of_le h2 (Nat.le_of_lt_succ hm))
      rw [h3, Nat.add_assoc, Nat.add_comm 1 n] at h5
      exact ⟨h4, h5⟩

/-- Every walk from a black vertex stays among black vertices, and the distance of its end
    is at most the walk's bottleneck: the distances are lower bounds… -/
theorem final_lower_bound {out : Comm → List (Comm × Int)} {src : Comm} {s : DState}
    (hI : DInv out src (fun _ _ => False) s) (hq : s.queue = []) :
    ∀ (steps : List (Comm × Int)) (x : Comm) (m : Int), s.color x = .black → Dist.le (s.dist x) (some m) = true →
      IsPath out x steps →
      s.color (endOf x steps) = .black ∧ Dist.le (s.dist (endOf x steps)) (some (bnFrom m steps)) = true := by
  intro steps
  induction steps with
  | nil => intro x m hx hle _; exact ⟨hx, hle⟩
  | cons e rest ih =>
    intro x m hx hle hp
    rw [endOf, bnFrom_cons]
    rcases hI.blackEdges x hx e hp.1 with h | ⟨h1, h2⟩
    · exact h.elim
    · have hb : s.color e.1 = .black := by
        cases hc : s.color e.1 with
        | white => exact absurd hc h1
        | black => rfl
        | gray =>
          have := (hI.qGray e.1).mpr hc
          rw [hq] at this; cases this
      have hle' : Dist.le (s.dist e.1) (some (max m e.2)) = true := by
        have := combineMax_mono e.2 hle
        rw [combineMax_some] at this
        exact Dist.le_trans h2 this
      exact ih e.1 (max m e.2) hb hle' hp.2

theorem walkBack_white {out : Comm → List (Comm × Int)} {src : Comm} {s : DState}
    (hI : DInv out src (fun _ _ => False) s) {t : Comm} (ht : s.color t = .white) (fuel : Nat) :
    walkBack s.pred fuel t = [t] := by
  cases fuel with
  | zero => rfl
  | succ n => rw [walkBack, if_pos (hI.whitePred t ht)]

/-- … and every black vertex has a simple walk from the source that attains its distance and
    is what the predecessor chain spells out. -/
theorem final_route {out : Comm → List (Comm × Int)} {src : Comm} {s : DState}
    (hI : DInv out src (fun _ _ => False) s) :
    ∀ (n : Nat) (v : Comm), s.rank v = n → s.color v = .black →
      ∃ steps, IsPath out src steps ∧ endOf src steps = v ∧ s.dist v = some (bnFrom 0 steps) ∧
        (∀ fuel, s.rank v < fuel → walkBack s.pred fuel v = src :: steps.map Prod.fst) ∧
        (src :: steps.map Prod.fst).Nodup ∧
        (∀ x ∈ src :: steps.map Prod.fst, s.color x = .black ∧ s.rank x ≤ s.rank v) := by
  intro n
  induction n using Nat.strongRecOn with
  | _ n ih =>
    intro v hn hv
    by_cases hsrc : v = src
    · subst hsrc
      refine ⟨[], trivial, rfl, hI.srcDist, fun fuel hf => ?_,
        List.nodup_cons.mpr ⟨List.not_mem_nil, List.nodup_nil⟩, fun x hx => ?_⟩
      · cases fuel with
        | zero => cases hf
        | succ k => rw [walkBack, if_pos hI.srcPred]; rfl
      · rw [List.mem_singleton.mp hx]; exact ⟨hv, Nat.le_refl _⟩
    · obtain ⟨hpb, wt, hmem, hdist⟩ := hI.predOk v (black_ne_white hv) hsrc
      have hrk := hI.rankPred v hv hsrc
      obtain ⟨steps, hp, hend, hd, hwalk, hnd, hall⟩ := ih (s.rank (s.pred v)) (hn ▸ hrk) (s.pred v) rfl hpb
      -- the chain of `v` is the chain of its predecessor followed by `v`
      have hlist : src :: (steps ++ [(v, wt)]).map Prod.fst = (src :: steps.map Prod.fst) ++ [v] := by
        rw [List.map_append]; rfl
      have hvnot : v ∉ src :: steps.map Prod.fst :=
        fun hm => absurd (hall v hm).2 (Nat.not_le.mpr hrk)
      refine ⟨steps ++ [(v, wt)], ?_, ?_, ?_, fun fuel hf => ?_, ?_, fun x hx => ?_⟩
      · rw [isPath_append, hend]; exact ⟨hp, hmem, trivial⟩
      · rw [endOf_append]; rfl
      · rw [hdist, hd, combineMax_some, bnFrom_append]; rfl
      · cases fuel with
        | zero => cases hf
        | succ k =>
          have hne : s.pred v ≠ v := fun h => by rw [h] at hrk; exact Nat.lt_irrefl _ hrk
          rw [walkBack, if_neg hne, hwalk k (Nat.lt_of_lt_of_le hrk (Nat.le_of_lt_succ hf)), hlist]
      · rw [hlist]; exact nodup_append_singleton hnd hvnot
      · rw [hlist, List.mem_append] at hx
        rcases hx with hx | hx
        · exact ⟨(hall x hx).1, Nat.le_trans (hall x hx).2 (Nat.le_of_lt hrk)⟩
        · rw [List.mem_singleton.mp hx]; exact ⟨hv, Nat.le_refl _⟩

/-- The run from `dinit src` with enough fuel: the predecessor chain of `tgt`, when it leads
    back to the source, is a simple walk through the graph whose bottleneck is the least
    possible; and it does lead back whenever some walk reaches `tgt`.  `U.length < n` is enough fuel
    both for the loop (one vertex of `U` turns black per iteration) and for `walkBack` (a chain is
    simple); `routeW` runs with `(feVerts fe src).length + 1`. -/
theorem route_correct {choose : DState → Option Comm} (hch : ChoiceOk choose) {out : Comm → List (Comm × Int)} {src : Comm}
    {U : List Comm} (hC : Closed out src U) (n : Nat) (hn : U.length < n) (tgt : Comm) :
    let s := drunW choose out n (dinit src)
    let p := walkBack s.pred n tgt
    ((p.head? = some src ∧ 2 ≤ p.length) →
      ∃ steps, steps ≠ [] ∧ p = src :: steps.map Prod.fst ∧ IsPath out src steps ∧ endOf src steps = tgt ∧ p.Nodup ∧
        s.dist tgt = some (bnFrom 0 steps) ∧
        ∀ steps', IsPath out src steps' → endOf src steps' = tgt → bnFrom 0 steps ≤ bnFrom 0 steps') ∧
    (tgt ≠ src → (∃ steps', IsPath out src steps' ∧ endOf src steps' = tgt) → p.head? = some src ∧ 2 ≤ p.length) := by
  intro s p
  have hI0 := dinit_inv out src
  have hU0 : ∀ v, (dinit src).color v ≠ .white → v ∈ U := by
    intro v hv
    rw [dinit_color] at hv
    split at hv
    · next h => rw [h]; exact hC.src_mem
    · exact absurd rfl hv
  have hI : DInv out src (fun _ _ => False) s := drun_inv hch n _ hI0
  have ⟨hq, htime⟩ := drun_done hch hC n (dinit src) hI0 hU0
    (Nat.lt_of_le_of_lt List.countP_le_length hn)
  have htime' : s.time ≤ n := Nat.le_trans htime (Nat.le_of_eq (Nat.zero_add n))
  have hnogray : ∀ v, s.color v ≠ .gray := fun v hv => by
    have := (hI.qGray v).mpr hv
    rw [hq] at this; cases this
  have hsrcb : s.color src = .black := by
    cases hc : s.color src with
    | white => exact absurd hc hI.srcColor
    | gray => exact absurd hc (hnogray src)
    | black => rfl
  have hsrcle : Dist.le (s.dist src) (some 0) = true := by rw [hI.srcDist]; exact Dist.le_refl _
  have hroute : ∀ v, s.color v = .black →
      ∃ steps, IsPath out src steps ∧ endOf src steps = v ∧ s.dist v = some (bnFrom 0 steps) ∧
        walkBack s.pred n v = src :: steps.map Prod.fst ∧ (src :: steps.map Prod.fst).Nodup := by
    intro v hv
    obtain ⟨steps, h1, h2, h3, h4, h5, _⟩ := final_route hI (s.rank v) v rfl hv
    exact ⟨steps, h1, h2, h3, h4 n (Nat.lt_of_lt_of_le (hI.rankLt v hv) htime'), h5⟩
  refine ⟨?_, ?_⟩
  · rintro ⟨hhead, hlen⟩
    cases hc : s.color tgt with
    | white =>
      have : p = [tgt] := walkBack_white hI hc n
      rw [this] at hlen; exact absurd (Nat.le_of_succ_le_succ hlen) (Nat.not_succ_le_zero 0)
    | gray => exact absurd hc (hnogray tgt)
    | black =>
      obtain ⟨steps, h1, h2, h3, h4, h5⟩ := hroute tgt hc
      have hp : p = src :: steps.map Prod.fst := h4
      refine ⟨steps, ?_, hp, h1, h2, hp ▸ h5, h3, ?_⟩
      · intro he; rw [hp, he] at hlen; exact absurd (Nat.le_of_succ_le_succ hlen) (Nat.not_succ_le_zero 0)
      · intro steps' hp' hend'
        have := (final_lower_bound hI hq steps' src 0 hsrcb hsrcle hp').2
        rw [hend', h3, Dist.le_some_some] at this
        exact this
  · intro hne ⟨steps', hp', hend'⟩
    have hb := (final_lower_bound hI hq steps' src 0 hsrcb hsrcle hp').1
    rw [hend'] at hb
    obtain ⟨steps, h1, h2, h3, h4, h5⟩ := hroute tgt hb
    have hp : p = src :: steps.map Prod.fst := h4
    rw [hp]
    refine ⟨rfl, ?_⟩
    cases steps with
    | nil => exact absurd h2.symm hne
    | cons e rest => exact Nat.succ_le_succ (Nat.succ_le_succ (Nat.zero_le _))

/-- `fgraph` for any graph, so that its facts go by induction on the graph. -/
def fgOf (g : Graph) (D : Int) : List (Comm × Comm × Entry) :=
  g.filterMap (fun ed => (PriceMap.recent D ed.prices).map (fun p => (ed.u, ed.v, p)))

theorem fgraph_eq (hist : List Entry) (D : Int) : fgraph hist D = fgOf (Graph.ofHistory hist) D := rfl

theorem mem_fgOf {g : Graph} {D : Int} {t : Comm × Comm × Entry} :
    t ∈ fgOf g D ↔ ∃ ed ∈ g, PriceMap.recent D ed.prices = some t.2.2 ∧ t.1 = ed.u ∧ t.2.1 = ed.v := by
  unfold fgOf
  rw [List.mem_filterMap]
  constructor
  · rintro ⟨ed, hed, h⟩
    obtain ⟨p, hr, rfl⟩ := Option.map_eq_some_iff.mp h
    exact ⟨ed, hed, hr, rfl, rfl⟩
  · rintro ⟨ed, hed, hr, h1, h2⟩
    refine ⟨ed, hed, ?_⟩
    obtain ⟨a, b, p⟩ := t
    cases h1; cases h2
    rw [hr]; rfl

theorem fgOf_cons_none {ed : Edge} {D : Int} (h : PriceMap.recent D ed.prices = none) (rest : Graph) :
    fgOf (ed :: rest) D = fgOf rest D := by
  rw [fgOf, List.filterMap_cons, h]; rfl

theorem fgOf_cons_some {ed : Edge} {D : Int} {p : Entry} (h : PriceMap.recent D ed.prices = some p)
    (rest : Graph) : fgOf (ed :: rest) D = (ed.u, ed.v, p) :: fgOf rest D := by
  rw [fgOf, List.filterMap_cons, h]; rfl

theorem feLookup_cons_pos {u v a b : Comm} (h : SamePair u v a b) (p : Entry)
    (fe : List (Comm × Comm × Entry)) : feLookup ((u, v, p) :: fe) a b = some p := by
  have hd : decide ((u = a ∧ v = b) ∨ (u = b ∧ v = a)) = true := decide_eq_true h
  simp only [feLookup, List.find?_cons, hd]

theorem feLookup_cons_neg {u v a b : Comm} (h : ¬ SamePair u v a b) (p : Entry)
    (fe : List (Comm × Comm × Entry)) : feLookup ((u, v, p) :: fe) a b = feLookup fe a b := by
  have hd : decide ((u = a ∧ v = b) ∨ (u = b ∧ v = a)) = false := decide_eq_false h
  simp only [feLookup, List.find?_cons, hd]

theorem feLookup_none_of_no_pair {g : Graph} {D : Int} {a b : Comm} (h : ∀ ed ∈ g, ¬ ed.isPair a b) :
    feLookup (fgOf g D) a b = none := by
  induction g with
  | nil => rfl
  | cons ed rest ih =>
    have hrest := ih fun e he => h e (List.mem_cons_of_mem ed he)
    cases hr : PriceMap.recent D ed.prices with
    | none => rw [fgOf_cons_none hr]; exact hrest
    | some p => rw [fgOf_cons_some hr, feLookup_cons_neg (h ed List.mem_cons_self)]; exact hrest

theorem feLookup_fgOf {g : Graph} (hd : Distinct g) (D : Int) (a b : Comm) :
    feLookup (fgOf g D) a b = PriceMap.recent D (g.edgePrices a b) := by
  induction g with
  | nil => rfl
  | cons ed rest ih =>
    obtain ⟨hed, hrest⟩ := List.pairwise_cons.mp hd
    by_cases hp : ed.isPair a b
    · rw [edgePrices_cons_pos hp]
      cases hr : PriceMap.recent D ed.prices with
      | none =>
        rw [fgOf_cons_none hr]
        exact feLookup_none_of_no_pair fun e he hpe => hed e he (SamePair.trans hpe (SamePair.symm hp))
      | some p => rw [fgOf_cons_some hr]; exact feLookup_cons_pos hp p _
    · rw [edgePrices_cons_neg hp]
      cases hr : PriceMap.recent D ed.prices with
      | none => rw [fgOf_cons_none hr]; exact ih hrest
      | some p => rw [fgOf_cons_some hr, feLookup_cons_neg hp]; exact ih hrest

theorem feLookup_fgraph (hist : List Entry) (D : Int) :
    feLookup (fgraph hist D) = fun a b => recentEdge hist a b D :=
  funext fun a => funext fun b => fgraph_eq hist D ▸ feLookup_fgOf (ofHistory_distinct hist) D a b

theorem mem_outOf {fe : List (Comm × Comm × Entry)} {D : Int} {u v : Comm} {wt : Int} :
    (v, wt) ∈ outOf fe D u ↔
      ∃ t ∈ fe, ((t.1 = u ∧ v = t.2.1) ∨ (t.1 ≠ u ∧ t.2.1 = u ∧ v = t.1)) ∧ wt = D - t.2.2.date := by
  unfold outOf
  rw [List.mem_filterMap]
  constructor
  · rintro ⟨t, ht, h⟩
    refine ⟨t, ht, ?_⟩
    by_cases h1 : t.1 = u
    · simp [h1] at h; exact ⟨Or.inl ⟨h1, h.1.symm⟩, h.2.symm⟩
    · by_cases h2 : t.2.1 = u
      · simp [h1, h2] at h; exact ⟨Or.inr ⟨h1, h2, h.1.symm⟩, h.2.symm⟩
      · simp [h1, h2] at h
  · rintro ⟨t, ht, hc, hw⟩
    refine ⟨t, ht, ?_⟩
    rcases hc with ⟨h1, h2⟩ | ⟨h1, h2, h3⟩
    · simp [h1, h2, hw]
    · simp [h1, h2, h3, hw]

theorem closed_fe (fe : List (Comm × Comm × Entry)) (D : Int) (src : Comm) :
    Closed (outOf fe D) src (feVerts fe src) := by
  refine ⟨List.mem_cons_self, ?_⟩
  intro x e he
  obtain ⟨v, wt⟩ := e
  obtain ⟨t, ht, hc, _⟩ := mem_outOf.mp he
  unfold feVerts
  apply List.mem_cons_of_mem
  rw [List.mem_flatMap]
  refine ⟨t, ht, ?_⟩
  rcases hc with ⟨_, h⟩ | ⟨_, _, h⟩ <;> simp [h]

theorem outOf_fgraph_sound {hist : List Entry} {D : Int} {u v : Comm} {wt : Int}
    (h : (v, wt) ∈ outOf (fgraph hist D) D u) : ∃ p, recentEdge hist u v D = some p ∧ wt = D - p.date := by
  obtain ⟨t, ht, hc, hw⟩ := mem_outOf.mp h
  rw [fgraph_eq] at ht
  obtain ⟨ed, hed, hr, h1, h2⟩ := mem_fgOf.mp ht
  have hrec := recent_of_edge hist D hed
  rw [hr] at hrec
  refine ⟨t.2.2, ?_, hw⟩
  rcases hc with ⟨hu, hv⟩ | ⟨_, hu, hv⟩
  · rw [← hu, hv, h1, h2]; exact hrec.symm
  · rw [← hu, hv, h1, h2, recentEdge_symm]; exact hrec.symm

theorem outOf_fgraph_complete {hist : List Entry} {D : Int} {u v : Comm} {p : Entry}
    (h : recentEdge hist u v D = some p) : (v, D - p.date) ∈ outOf (fgraph hist D) D u := by
  obtain ⟨hmem, hpair, _, _⟩ := recentEdge_sound h
  obtain ⟨ed, hed, hip⟩ := edge_of_entry hmem
  have hpe : ed.isPair u v := SamePair.trans hip hpair
  have hr : PriceMap.recent D ed.prices = some p := by
    rw [recent_of_edge hist D hed]
    rcases hpe with hpe | hpe
    · rw [hpe.1, hpe.2]; exact h
    · rw [hpe.1, hpe.2, recentEdge_symm]; exact h
  refine mem_outOf.mpr ⟨(ed.u, ed.v, p), fgraph_eq hist D ▸ mem_fgOf.mpr ⟨ed, hed, hr, rfl, rfl⟩, ?_, rfl⟩
  by_cases h1 : ed.u = u
  · exact Or.inl ⟨h1, hpe.elim (fun hpe => hpe.2.symm) fun hpe => (hpe.2.trans (h1.symm.trans hpe.1)).symm⟩
  · exact Or.inr ⟨h1, hpe.elim (fun hpe => absurd hpe.1 h1) fun hpe => ⟨hpe.2, hpe.1.symm⟩⟩

/-- the steps (target, age) along a path of commodities -/
def stepsOf (re : Comm → Comm → Option Entry) (D : Int) : List Comm → List (Comm × Int)
  | a :: b :: rest =>
    match re a b with
    | some e => (b, D - e.date) :: stepsOf re D (b :: rest)
    | none => []
  | _ => []

/-- the age in seconds of the oldest price used along a path of commodities: the length
    ledger's Dijkstra assigns to the route -/
def oldestAge (re : Comm → Comm → Option Entry) (D : Int) (p : List Comm) : Int := bnFrom 0 (stepsOf re D p)

theorem linked_steps (hist : List Entry) (D : Int) :
    ∀ (tl : List Comm) (a : Comm), Linked (fun x y => recentEdge hist x y D) (a :: tl) →
      IsPath (outOf (fgraph hist D) D) a (stepsOf (fun x y => recentEdge hist x y D) D (a :: tl)) ∧
      a :: (stepsOf (fun x y => recentEdge hist x y D) D (a :: tl)).map Prod.fst = a :: tl := by
  intro tl
  induction tl with
  | nil => intro a _; exact ⟨trivial, rfl⟩
  | cons b rest ih =>
    intro a hl
    obtain ⟨e, he⟩ := Option.isSome_iff_exists.mp hl.1
    have he' : recentEdge hist a b D = some e := he
    have ⟨h1, h3⟩ := ih b hl.2
    rw [stepsOf, he']
    exact ⟨⟨outOf_fgraph_complete he', h1⟩, congrArg (a :: ·) h3⟩

theorem steps_linked (hist : List Entry) (D : Int) :
    ∀ (steps : List (Comm × Int)) (a : Comm), IsPath (outOf (fgraph hist D) D) a steps →
      Linked (fun x y => recentEdge hist x y D) (a :: steps.map Prod.fst) ∧
      stepsOf (fun x y => recentEdge hist x y D) D (a :: steps.map Prod.fst) = steps := by
  intro steps
  induction steps with
  | nil => intro a _; exact ⟨trivial, rfl⟩
  | cons e rest ih =>
    intro a hp
    obtain ⟨v, wt⟩ := e
    obtain ⟨p, hp1, hp2⟩ := outOf_fgraph_sound hp.1
    have ⟨h1, h2⟩ := ih v hp.2
    rw [List.map_cons, stepsOf, hp1, h2, hp2]
    exact ⟨⟨Option.isSome_iff_exists.mpr ⟨p, hp1⟩, h1⟩, rfl⟩

theorem endOf_eq_getLast : ∀ (steps : List (Comm × Int)) (a : Comm),
    (a :: steps.map Prod.fst).getLast? = some (endOf a steps) := by
  intro steps
  induction steps with
  | nil => intro a; simp [endOf]
  | cons e rest ih =>
    intro a
    simp only [List.map_cons, endOf]
    rw [List.getLast?_cons_cons]
    exact ih e.1

/-- The route chosen through the filtered graph of a history, for every admissible way of
    breaking ties: a simple path of price points from source to target whose oldest price
    is as recent as on any other path. -/
theorem routeW_sound {choose : DState → Option Comm} (hch : ChoiceOk choose) (hist : List Entry) (D : Int)
    (c tgt : Comm) (p : List Comm) (h : routeW choose (fgraph hist D) D c tgt = some p) :
    p.head? = some c ∧ p.getLast? = some tgt ∧ 2 ≤ p.length ∧ p.Nodup ∧
    Linked (fun x y => recentEdge hist x y D) p ∧
    ∀ p' : List Comm, p'.head? = some c → p'.getLast? = some tgt → Linked (fun x y => recentEdge hist x y D) p' →
      oldestAge (fun x y => recentEdge hist x y D) D p ≤ oldestAge (fun x y => recentEdge hist x y D) D p' := by
  unfold routeW at h
  simp only at h
  split at h
  · rename_i hcond
    obtain rfl := Option.some.inj h
    have hC := closed_fe (fgraph hist D) D c
    obtain ⟨steps, hne, hp, hpath, hend, hnd, _, hmin⟩ :=
      (route_correct hch hC ((feVerts (fgraph hist D) c).length + 1) (Nat.lt_succ_self _) tgt).1 hcond
    have ⟨hl, hs⟩ := steps_linked hist D steps c hpath
    rw [hp]
    refine ⟨rfl, ?_, ?_, hp ▸ hnd, hl, ?_⟩
    · rw [endOf_eq_getLast, hend]
    · cases steps with
      | nil => exact absurd rfl hne
      | cons e rest => exact Nat.succ_le_succ (Nat.succ_le_succ (Nat.zero_le _))
    · intro p' hh hlast hl'
      cases p' with
      | nil => cases hh
      | cons a tl =>
        obtain rfl : a = c := Option.some.inj hh
        have ⟨h1, h3⟩ := linked_steps hist D tl a hl'
        rw [← h3, endOf_eq_getLast] at hlast
        have := hmin _ h1 (Option.some.inj hlast)
        unfold oldestAge
        rw [hs]
        exact this
  · cases h

theorem routeW_complete {choose : DState → Option Comm} (hch : ChoiceOk choose) (hist : List Entry) (D : Int)
    (c tgt : Comm) (hne : c ≠ tgt) (p' : List Comm) (hh : p'.head? = some c) (hlast : p'.getLast? = some tgt)
    (hl : Linked (fun x y => recentEdge hist x y D) p') :
    ∃ p, routeW choose (fgraph hist D) D c tgt = some p := by
  cases p' with
  | nil => cases hh
  | cons a tl =>
    obtain rfl : a = c := Option.some.inj hh
    have ⟨h1, h3⟩ := linked_steps hist D tl a hl
    rw [← h3, endOf_eq_getLast] at hlast
    have h2 := Option.some.inj hlast
    have hC := closed_fe (fgraph hist D) D a
    exact ⟨_, if_pos ((route_correct hch hC ((feVerts (fgraph hist D) a).length + 1) (Nat.lt_succ_self _) tgt).2
      (Ne.symm hne) ⟨_, h1, h2⟩)⟩

theorem stepsOf_cons {re : Comm → Comm → Option Entry} {a b : Comm} {e : Entry} (h : re a b = some e)
    (D : Int) (rest : List Comm) :
    stepsOf re D (a :: b :: rest) = (b, D - e.date) :: stepsOf re D (b :: rest) := by
  rw [stepsOf, h]

/-- history.cc 470-504: the date ledger reports for the chained price is the date of the
    oldest price on the route, i.e. the moment minus the route's length. -/
theorem leastRecent_oldest (hist : List Entry) (D : Int) :
    ∀ (rest : List Comm) (a b : Comm), Linked (fun x y => recentEdge hist x y D) (a :: b :: rest) →
      ∃ m, leastRecent (fun x y => recentEdge hist x y D) (a :: b :: rest) = some m ∧
        oldestAge (fun x y => recentEdge hist x y D) D (a :: b :: rest) = D - m := by
  intro rest
  induction rest with
  | nil =>
    intro a b hl
    obtain ⟨e, he⟩ := Option.isSome_iff_exists.mp hl.1
    have he' : recentEdge hist a b D = some e := he
    have hed := (recentEdge_sound he').2.2.1
    refine ⟨e.date, by rw [leastRecent, he']; rfl, ?_⟩
    rw [oldestAge, stepsOf_cons he]
    exact Int.max_eq_right (Int.sub_nonneg_of_le hed)
  | cons c rest ih =>
    intro a b hl
    obtain ⟨e, he⟩ := Option.isSome_iff_exists.mp hl.1
    have he' : recentEdge hist a b D = some e := he
    obtain ⟨m, hm, hb⟩ := ih b c hl.2
    refine ⟨min e.date m, by rw [leastRecent, he', hm], ?_⟩
    rw [oldestAge] at hb ⊢
    rw [stepsOf_cons he, bnFrom_cons, Int.max_comm, bnFrom_max, hb, Int.sub_max_sub_left]

/-- a second admissible `Q.top()`: the minimal gray vertex found scanning the queue from its
    newest element — used only to show that the value can depend on the tie-break -/
def altChoice (s : DState) : Option Comm :=
  match s.queue.reverse with
  | [] => none
  | q :: qs => some (firstMin s.dist q qs)

theorem altChoice_ok : ChoiceOk altChoice := by
  refine ⟨fun s u h => ?_, fun s => ?_⟩
  · unfold altChoice at h
    split at h
    · cases h
    · next q qs hq =>
      cases h
      have hmem : ∀ z, z ∈ s.queue ↔ z ∈ q :: qs := fun z => by rw [← hq, List.mem_reverse]
      obtain ⟨h1, h2⟩ := firstMin_spec s.dist qs q
      exact ⟨(hmem _).mpr h1, fun z hz => h2 z ((hmem z).mp hz)⟩
  · unfold altChoice
    split
    · next h => exact ⟨fun _ => List.reverse_eq_nil_iff.mp h, fun _ => rfl⟩
    · next q qs h => exact ⟨nofun, fun h' => by rw [h'] at h; cases h⟩

end Ledger.Prices
