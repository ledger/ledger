/-
MODEL COHERENCE — common vocabulary.

Several property models contain their own, independently written fragment of
`xact_base_t::finalize` (xact.cc 158-423):

  `FinX.finalize`      Model/Finalize.lean   (C01/C02)  costs, bucket, implicit exchange, null fill
  `AutoXact.finalize`  Model/AutoXact.lean   (C16)      no costs, no implicit exchange
  `Assert.finalize`    Model/Assert.lean     (C09)      implied price, elided posting
  `OF.finalize`        Model/OrderFree.lean  (C08)      `acceptNoNull` / `inferred` / `stepX`

In file order:

* `plain` commodities (no `{`): C01/C02's lot strings decode to the symbol itself
  (`decodeLot_plain`, `lotBase_annotate`) and `compare_by_commodity` is the symbol order
  (`commLe_plain`);
* `Row`, `Verdict` and the translations from each model's result type into `Verdict`;
* the decidable DOMAIN GUARDS (each a `Bool`-valued function of the parsed postings)
  that delimit the common domain, and what each says posting by posting;
* what a posting is to the residual scan (`bamt_cases`), the elided postings (`nullPosts_*`);
* `rowOf` / `rowsOf` / `Coh.ref`, the closed form all four are proved equal to (a proof
  device; the theorems of Props/Coherence.lean are stated between the models themselves);
* `VAB`: the values the residual fold reaches, on which the models' additions and
  display-zero tests coincide;
* the insertion sorts of the four models are one sort on plain commodities; C16's base
  symbol and precision table on plain commodities.
-/
import LedgerModel.Lemmas.Finalize
import LedgerModel.Lemmas.OrderFree
import LedgerModel.Lemmas.AssertRun
import LedgerModel.Lemmas.AutoXact

namespace Ledger
namespace Coh

open OF (bamt vadd xbalance nullPosts isNullPost inferred)

/-- an unannotated commodity: no `{` in the symbol -/
def plain (c : Comm) : Bool := !c.toList.contains '{'

theorem not_mem_of_plain {c : Comm} (h : plain c = true) : '{' ∉ c.toList := fun hm => by
  unfold plain at h
  rw [List.contains_iff_mem.2 hm] at h
  cases h

theorem splitFirst_none (ch : Char) : ∀ l : List Char, ch ∉ l → FinX.splitFirst ch l = none := by
  intro l
  induction l with
  | nil => intro _; rfl
  | cons x xs ih =>
    intro h
    simp only [List.mem_cons, not_or] at h
    unfold FinX.splitFirst
    rw [if_neg (fun e => h.1 e.symm), ih h.2]
    rfl

theorem splitFirst_append (ch : Char) : ∀ (l r : List Char), ch ∉ l → FinX.splitFirst ch (l ++ ch :: r) = some (l, r) := by
  intro l
  induction l with
  | nil => intro r _; simp [FinX.splitFirst]
  | cons x xs ih =>
    intro r h
    simp only [List.mem_cons, not_or] at h
    simp only [List.cons_append]
    unfold FinX.splitFirst
    rw [if_neg (fun e => h.1 e.symm), ih r h.2]
    rfl

/-- `splitFirst2 c1 c2` cuts at the FIRST pair `c1 c2`.  Where a pair stands before
    `post`, the cut succeeds, and the remainder still ends in `post` (the first pair may lie
    earlier, inside `pre`). -/
theorem splitFirst2_some (c1 c2 : Char) : ∀ (pre post : List Char),
    ∃ p r, FinX.splitFirst2 c1 c2 (pre ++ c1 :: c2 :: post) = some (p, r) ∧ ∃ pre', r = pre' ++ post := by
  intro pre
  induction pre with
  | nil => exact fun post => ⟨[], post, if_pos ⟨rfl, rfl⟩, [], rfl⟩
  | cons x xs ih =>
    intro post
    obtain ⟨p, r, h, pre', hr⟩ := ih post
    -- `x` is followed by `y`, the head of `xs` or else `c1`; what follows `y` ends in `post` either way
    obtain ⟨y, ys, hxs, hys⟩ : ∃ y ys, xs ++ c1 :: c2 :: post = y :: ys ∧ ∃ pre', ys = pre' ++ post := by
      cases xs with
      | nil => exact ⟨c1, c2 :: post, rfl, [c2], rfl⟩
      | cons z zs => exact ⟨z, zs ++ c1 :: c2 :: post, rfl, zs ++ [c1, c2], (List.append_assoc zs [c1, c2] post).symm⟩
    rw [hxs] at h
    rw [List.cons_append, hxs]
    unfold FinX.splitFirst2
    by_cases hc : x = c1 ∧ y = c2
    · rw [if_pos hc]; exact ⟨[], ys, rfl, hys⟩
    · rw [if_neg hc, h]; exact ⟨x :: p, r, rfl, pre', hr⟩

theorem decodeLot_plain (c : Comm) (h : plain c = true) : FinX.decodeLot c = (c, "", "", "") := by
  unfold FinX.decodeLot
  rw [splitFirst_none '{' c.toList (not_mem_of_plain h)]

theorem lotBase_annotate (c : Comm) (pu : Amount) (date : String) (h : plain c = true) :
    FinX.lotBase (FinX.annotate c pu date) = c := by
  unfold FinX.annotate
  rw [decodeLot_plain c h]
  simp only
  unfold FinX.encodeLot
  split
  · unfold FinX.lotBase; rw [decodeLot_plain c h]
  · unfold FinX.lotBase FinX.decodeLot
    -- the characters of the key: `c`, `{`, the price, `}[`, the date, `](`, `)`
    simp only [String.append_empty, String.toList_append, String.reduceToList, List.append_assoc,
      List.cons_append, List.nil_append]
    rw [splitFirst_append '{' c.toList _ (not_mem_of_plain h)]
    simp only
    obtain ⟨p, r, h1, pre', hr⟩ := splitFirst2_some '}' '[' (FinX.priceStr pu).toList (date.toList ++ ']' :: '(' :: [')'])
    rw [h1]
    simp only
    obtain ⟨p2, r2, h2, _⟩ := splitFirst2_some ']' '(' (pre' ++ date.toList) [')']
    rw [hr, ← List.append_assoc, h2]
    simp only [String.ofList_toList]

/-- THE coincidence lemma: on unannotated commodities `compare_by_commodity`
    (`FinX.commLe`) is the plain order of the symbols. -/
theorem commLe_plain (a b : Comm) (ha : plain a = true) (hb : plain b = true) :
    FinX.commLe a b = decide (a ≤ b) := by
  have da := decodeLot_plain a ha
  have db := decodeLot_plain b hb
  have hs : FinX.splitFirst ' ' "".toList = none := rfl
  unfold FinX.commLe FinX.lexLe FinX.leS FinX.leB FinX.leQ FinX.lotBase FinX.lotHasPrice FinX.lotPComm FinX.lotPVal FinX.lotHasDate FinX.lotDate FinX.lotHasTag FinX.lotTag
  -- every annotation field decodes to empty on both sides: only the base symbols compare
  simp only [da, db, hs, id]
  have h0 : decide ((0 : Rat) ≤ 0) = true := by decide
  have h1 : decide (("" : String) ≤ "") = true := by decide
  simp only [h0, h1, ne_eq, not_true_eq_false, decide_false, Bool.not_false, Bool.true_or, Bool.not_true,
    Bool.false_or, Bool.true_and]
  cases decide (a ≤ b) <;> cases decide (b ≤ a) <;> rfl

theorem hasAnn_plain (c : Comm) (h : plain c = true) : FinX.hasAnn c = false := by
  unfold FinX.hasAnn; rw [decodeLot_plain c h]; simp

theorem lotBase_plain (c : Comm) (h : plain c = true) : FinX.lotBase c = c := by
  unfold FinX.lotBase; rw [decodeLot_plain c h]

theorem liftEnv_plain (env : PrecEnv) (c : Comm) (h : plain c = true) : FinX.liftEnv env c = env c := by
  unfold FinX.liftEnv; rw [lotBase_plain c h]

/-- A finalised posting in the vocabulary common to all finalize models. -/
structure Row where
  account : String
  kind    : PostKind
  amt     : Amount
deriving DecidableEq, Repr

inductive Verdict (α : Type)
  | accepted (rows : List α)
  | unbalanced          -- "Transaction does not balance"
  | twoNulls            -- "Only one posting with null amount allowed per transaction" (or its "misspelled" variant)
  | nullLeft            -- a null amount that cannot be filled is left
  | other               -- anything else (outside the compared fragment)
deriving DecidableEq, Repr

def Verdict.map {α β : Type} (f : α → β) : Verdict α → Verdict β
  | .accepted rows => .accepted (rows.map f)
  | .unbalanced => .unbalanced
  | .twoNulls => .twoNulls
  | .nullLeft => .nullLeft
  | .other => .other

/-- FinX posting ↦ row (every posting of an accepted transaction has its amount).
    C01/C02 annotates the amount of a posting that has a cost with its lot
    (`BASE{price}[date]`, xact.cc 334-343); the row keeps the BASE commodity, which
    is all the other three models know. -/
def rowOfFin (p : FinX.FPost) : Option Row :=
  p.amount.map (fun a => ⟨p.account, p.kind, { a with comm := FinX.lotBase a.comm }⟩)

/-- `finalize` returning `false` (all amounts null: the transaction is dropped
    silently, xact.cc 413-414) is an acceptance with no postings. -/
def verdictFin : Except FinX.FinErr FinX.FXact → Verdict Row
  | .ok fx => .accepted (fx.posts.filterMap rowOfFin)
  | .error .ignored => .accepted []
  | .error .unbalanced => .unbalanced
  | .error .twoNulls => .twoNulls
  | .error .misspelled => .twoNulls
  | .error .nullAfter => .nullLeft
  | .error _ => .other

def rowOfAuto (p : AutoXact.FPost) : Row := ⟨p.account, p.kind, p.amount⟩

def verdictAuto : Except AutoXact.LErr AutoXact.FXact → Verdict Row
  | .ok fx => .accepted (fx.posts.map rowOfAuto)
  | .error .unbalanced => .unbalanced
  | .error .twoNulls => .twoNulls
  | .error .nullAmount => .nullLeft
  | .error _ => .other

/-- C09 only distinguishes POST_VIRTUAL (`(A)` and `[A]` alike). -/
def Row.toAssert (r : Row) : Assert.Entry := ⟨r.account, decide (r.kind ≠ .real), r.amt⟩

def verdictAssert : Except Assert.AErr (List Assert.Entry) → Verdict Assert.Entry
  | .ok es => .accepted es
  | .error .unbalanced => .unbalanced
  | .error .twoNulls => .twoNulls
  | .error .nullAfter => .nullLeft
  | .error _ => .other

/-- C08 keeps no posting kind; it stamps the transaction date on every entry. -/
def Row.toOF (date : Int) (r : Row) : OF.Entry := ⟨date, r.account, r.amt⟩

def verdictOF : Except OF.LoadErr (List OF.Entry) → Verdict OF.Entry
  | .ok es => .accepted es
  | .error .unbalanced => .unbalanced
  | .error .twoNulls => .twoNulls
  | .error .nullAfter => .nullLeft
  | .error _ => .other

/-- comparison up to the order of the rows (C09 appends the filled-in posting last) -/
def Verdict.PermEq {α : Type} : Verdict α → Verdict α → Prop
  | .accepted a, .accepted b => a.Perm b
  | .unbalanced, .unbalanced => True
  | .twoNulls, .twoNulls => True
  | .nullLeft, .nullLeft => True
  | .other, .other => True
  | _, _ => False

/-- no `(virtual)` posting has an elided amount.  With one, FinX (and ledger)
    report unbalanced / two-nulls / uninitialized-amount errors FIRST, the other
    three models answer "null amount" first. -/
def noVirtNull (ps : List Posting) : Bool := ps.all (fun p => p.mustBalance || p.amount.isSome)

/-- the transaction is empty or at least one posting carries an amount.  For the
    one-posting all-null transaction ledger (and FinX, OF) drop the transaction
    silently; AutoXact and Assert report an error. -/
def someAmount (ps : List Posting) : Bool := ps.isEmpty || ps.any (fun p => p.amount.isSome)

/-- parsed posting amounts never carry the keep-precision flag (PARSE_NO_MIGRATE
    is used for costs only).  FinX clears it (`rounded()`), the others do not. -/
def noKeepAmt (ps : List Posting) : Bool :=
  ps.all (fun p => match p.amount with
    | some a => !a.keep
    | none => true)

/-- the cost amounts as handed over do not carry the flag either (Assert's
    `costTotal` inherits it; FinX and OF overwrite it). -/
def noKeepCost (ps : List Posting) : Bool :=
  ps.all (fun p => match p.cost with
    | some c => !c.amt.keep
    | none => true)

/-- a cost is only written after an amount (textual.cc 1590-1622 parses `@` only
    then); FinX drops the cost of an elided posting, OF/Assert still see it. -/
def costHasAmount (ps : List Posting) : Bool := ps.all (fun p => !p.cost.isSome || p.amount.isSome)

/-- xact.cc 288-294: "A posting's cost must be of a different commodity than its
    amount" — only FinX has this check. -/
def costOtherComm (ps : List Posting) : Bool :=
  ps.all (fun p => match p.amount, p.cost with
    | some a, some c => a.comm != c.amt.comm
    | _, _ => true)

/-- no posting has a cost (`@`, `@@`) -/
def noCost (ps : List Posting) : Bool := ps.all (fun p => p.cost.isNone)

/-- no posting amount carries a lot annotation (`BASE{price}[date]`, the encoding
    of C16); C01/C02, C08 and C09 do not model lots at all. -/
def noLotAmt (ps : List Posting) : Bool :=
  ps.all (fun p => match p.amount with
    | some a => plain a.comm
    | none => true)

/-- no cost is given in a lot-annotated commodity -/
def noLotCost (ps : List Posting) : Bool :=
  ps.all (fun p => match p.cost with
    | some c => plain c.amt.comm
    | none => true)

theorem hasLot_eq (c : Comm) : AutoXact.hasLot c = !plain c := by
  unfold AutoXact.hasLot plain; simp

/-- no posting has a cost or a balance assertion (`= AMOUNT`) -/
def noCostAssert (ps : List Posting) : Bool := ps.all (fun p => p.cost.isNone && p.assert.isNone)

/-- decidable form of `FinX.Exact`: a commoditized decimal, flag clear, written
    with at most the display precision of its commodity. -/
def exactB (env : PrecEnv) (a : Amount) : Bool :=
  a.hasComm && !a.keep && decide (a.prec ≤ env a.comm) &&
    decide (a.q = mkRat (a.q.num * (10 : Int) ^ env a.comm / a.q.den) (10 ^ env a.comm))

def exactAmts (env : PrecEnv) (ps : List Posting) : Bool :=
  ps.all (fun p => match p.amount with
    | some a => exactB env a
    | none => true)

/-- the implicit two-commodity exchange of xact.cc 220-283 applies: nothing
    elided, no cost anywhere, a residual with exactly two entries that both
    display non-zero. -/
def impliedCase (env : PrecEnv) (ps : List Posting) : Bool :=
  (nullPosts ps).isEmpty && !ps.any (fun p => p.cost.isSome) &&
    (match xbalance ps with
     | .bal [x, y] => !(x.isZero env) && !(y.isZero env)
     | _ => false)

/-- in the implied-exchange case the amounts are exact decimals (then the
    doubled secondary residual of a same-sign pair cannot display as zero). -/
def exchangeGuard (env : PrecEnv) (ps : List Posting) : Bool := !impliedCase env ps || exactAmts env ps

theorem noVirtNull_iff {ps : List Posting} :
    noVirtNull ps = true ↔ ∀ p ∈ ps, p.amount = none → p.mustBalance = true := by
  unfold noVirtNull
  rw [List.all_eq_true]
  refine forall_congr' fun p => imp_congr_right fun _ => ?_
  cases p.amount <;> simp

theorem noKeepAmt_iff {ps : List Posting} :
    noKeepAmt ps = true ↔ ∀ p ∈ ps, ∀ a, p.amount = some a → a.keep = false := by
  unfold noKeepAmt
  rw [List.all_eq_true]
  refine forall_congr' fun p => imp_congr_right fun _ => ?_
  cases p.amount <;> simp

theorem noKeepCost_iff {ps : List Posting} :
    noKeepCost ps = true ↔ ∀ p ∈ ps, ∀ c, p.cost = some c → c.amt.keep = false := by
  unfold noKeepCost
  rw [List.all_eq_true]
  refine forall_congr' fun p => imp_congr_right fun _ => ?_
  cases p.cost <;> simp

theorem noLotAmt_iff {ps : List Posting} :
    noLotAmt ps = true ↔ ∀ p ∈ ps, ∀ a, p.amount = some a → plain a.comm = true := by
  unfold noLotAmt
  rw [List.all_eq_true]
  refine forall_congr' fun p => imp_congr_right fun _ => ?_
  cases p.amount <;> simp

theorem noLotCost_iff {ps : List Posting} :
    noLotCost ps = true ↔ ∀ p ∈ ps, ∀ c, p.cost = some c → plain c.amt.comm = true := by
  unfold noLotCost
  rw [List.all_eq_true]
  refine forall_congr' fun p => imp_congr_right fun _ => ?_
  cases p.cost <;> simp

theorem noCost_iff {ps : List Posting} : noCost ps = true ↔ ∀ p ∈ ps, p.cost = none := by
  unfold noCost
  rw [List.all_eq_true]
  simp only [Option.isNone_iff_eq_none]

theorem noCostAssert_iff {ps : List Posting} :
    noCostAssert ps = true ↔ ∀ p ∈ ps, p.cost = none ∧ p.assert = none := by
  unfold noCostAssert
  rw [List.all_eq_true]
  simp only [Bool.and_eq_true, Option.isNone_iff_eq_none]

theorem noCost_of_noCostAssert {ps : List Posting} (h : noCostAssert ps = true) : noCost ps = true :=
  noCost_iff.2 fun p hp => (noCostAssert_iff.1 h p hp).1

theorem cost_guards_of_noCost {ps : List Posting} (h : noCost ps = true) :
    noLotCost ps = true ∧ noKeepCost ps = true ∧ costOtherComm ps = true ∧ costHasAmount ps = true ∧
      ps.any (fun p => p.cost.isSome) = false := by
  have hc := noCost_iff.1 h
  refine ⟨noLotCost_iff.2 fun p hp c e => ?_, noKeepCost_iff.2 fun p hp c e => ?_, ?_, ?_, ?_⟩
  · rw [hc p hp] at e; cases e
  · rw [hc p hp] at e; cases e
  · unfold costOtherComm
    rw [List.all_eq_true]
    intro p hp
    rw [hc p hp]
    cases p.amount <;> rfl
  · unfold costHasAmount
    rw [List.all_eq_true]
    intro p hp
    rw [hc p hp]
    rfl
  · rw [List.any_eq_false]
    intro p hp
    rw [hc p hp]
    exact Bool.false_ne_true

theorem isNullPost_iff {p : Posting} : isNullPost p = true ↔ p.mustBalance = true ∧ p.amount = none := by
  unfold isNullPost
  rw [Bool.and_eq_true, Option.isNone_iff_eq_none]

/-- What a posting is to the residual scan of every model: skipped, the elided
    posting, or a contribution `bamt p`. -/
theorem bamt_cases (p : Posting) :
    (p.mustBalance = false ∧ bamt p = none ∧ isNullPost p = false) ∨
    (p.mustBalance = true ∧ p.amount = none ∧ bamt p = none ∧ isNullPost p = true) ∨
    (∃ a b, p.mustBalance = true ∧ p.amount = some a ∧ bamt p = some b ∧ isNullPost p = false) := by
  unfold bamt isNullPost
  cases hm : p.mustBalance with
  | false => exact Or.inl ⟨rfl, rfl, rfl⟩
  | true =>
    cases ha : p.amount with
    | none => exact Or.inr (Or.inl ⟨rfl, rfl, rfl, rfl⟩)
    | some a =>
      cases p.cost with
      | none => exact Or.inr (Or.inr ⟨a, a, rfl, rfl, rfl, rfl⟩)
      | some c => exact Or.inr (Or.inr ⟨a, _, rfl, rfl, rfl, rfl⟩)

theorem bamt_null {n : Posting} (h : isNullPost n = true) : bamt n = none := by
  rcases bamt_cases n with ⟨_, hb, _⟩ | ⟨_, _, hb, _⟩ | ⟨_, _, _, _, _, hn⟩
  · exact hb
  · exact hb
  · rw [hn] at h; cases h

theorem nullPosts_cons (p : Posting) (ps : List Posting) :
    nullPosts (p :: ps) = if isNullPost p then p :: nullPosts ps else nullPosts ps := by
  unfold nullPosts
  rw [List.filter_cons]

theorem nullPosts_eq_nil {ps : List Posting} : nullPosts ps = [] ↔ ∀ p ∈ ps, isNullPost p = false := by
  unfold nullPosts
  rw [List.filter_eq_nil_iff]
  simp only [Bool.not_eq_true]

theorem nullPosts_eq_cons {ps : List Posting} {n : Posting} {r : List Posting} :
    nullPosts ps = n :: r ↔ ∃ pre post, ps = pre ++ n :: post ∧ nullPosts pre = [] ∧
      isNullPost n = true ∧ nullPosts post = r := by
  unfold nullPosts
  rw [List.filter_eq_cons_iff]
  simp only [List.filter_eq_nil_iff]

theorem mem_nullPosts {ps : List Posting} {n : Posting} (h : n ∈ nullPosts ps) :
    n.mustBalance = true ∧ n.amount = none :=
  isNullPost_iff.1 (List.mem_filter.1 h).2

theorem isNullPost_eq_isNone {ps : List Posting} (hvn : noVirtNull ps = true) :
    ∀ p ∈ ps, isNullPost p = p.amount.isNone := by
  intro p hp
  have := noVirtNull_iff.1 hvn p hp
  unfold isNullPost
  cases ha : p.amount with
  | none => rw [this ha]; rfl
  | some _ => exact Bool.and_false _

theorem allSome_of {ps : List Posting} (hv : noVirtNull ps = true) (hn : nullPosts ps = []) :
    ∀ p ∈ ps, p.amount.isSome = true := by
  intro p hp
  have h1 := nullPosts_eq_nil.1 hn p hp
  rw [isNullPost_eq_isNone hv p hp] at h1
  cases ha : p.amount with
  | none => rw [ha] at h1; cases h1
  | some _ => rfl

theorem not_allNone_of_someAmount {ps : List Posting} (hsa : someAmount ps = true) (hne : ps ≠ []) :
    ps.all (fun p => p.amount.isNone) = false := by
  unfold someAmount at hsa
  have hany : ps.any (fun p => p.amount.isSome) = true := by
    cases ps with
    | nil => exact absurd rfl hne
    | cons _ _ => exact hsa
  obtain ⟨p, hp, hps⟩ := List.any_eq_true.1 hany
  cases hall : ps.all (fun p => p.amount.isNone) with
  | false => rfl
  | true =>
    have := List.all_eq_true.1 hall p hp
    cases hpa : p.amount with
    | none => rw [hpa] at hps; cases hps
    | some _ => rw [hpa] at this; cases this

/-- the row of a written posting; the elided must-balance posting receives the
    first inferred amount; a posting that stays without amount has no row -/
def rowOf (inf : List Amount) (p : Posting) : Option Row :=
  match p.amount with
  | some a => some ⟨p.account, p.kind, a⟩
  | none => if p.mustBalance then inf.head?.map (fun a => ⟨p.account, p.kind, a⟩) else none

def rowsOf (inf : List Amount) (ps : List Posting) : List Row := ps.filterMap (rowOf inf)

theorem rowOf_of_some {p : Posting} (inf : List Amount) (h : p.amount.isSome = true) :
    rowOf inf p = p.amount.map (fun a => ⟨p.account, p.kind, a⟩) := by
  unfold rowOf
  cases ha : p.amount with
  | none => rw [ha] at h; cases h
  | some _ => rfl

theorem rowOf_nil (p : Posting) : rowOf [] p = p.amount.map (fun a => ⟨p.account, p.kind, a⟩) := by
  unfold rowOf
  cases p.amount with
  | none => cases p.mustBalance <;> rfl
  | some _ => rfl

theorem rowOf_null {n : Posting} (h : isNullPost n = true) (a : Amount) (r : List Amount) :
    rowOf (a :: r) n = some ⟨n.account, n.kind, a⟩ := by
  obtain ⟨hm, ha⟩ := isNullPost_iff.1 h
  unfold rowOf
  rw [ha, hm]
  rfl

theorem rowsOf_allSome {ps : List Posting} (h : ∀ p ∈ ps, p.amount.isSome = true) (inf : List Amount) :
    rowsOf inf ps = rowsOf [] ps :=
  filterMap_congr_mem fun p hp => by rw [rowOf_of_some inf (h p hp), rowOf_nil]

/-- the rows around a posting without amount, all others having theirs -/
theorem rowsOf_split {pre post : List Posting} {n : Posting}
    (hpre : ∀ p ∈ pre, p.amount.isSome = true) (hpost : ∀ p ∈ post, p.amount.isSome = true)
    (inf : List Amount) :
    rowsOf inf (pre ++ n :: post) = rowsOf [] pre ++ ((rowOf inf n).toList ++ rowsOf [] post) := by
  unfold rowsOf
  rw [List.filterMap_append, List.filterMap_cons]
  refine congr (congrArg _ (rowsOf_allSome hpre _)) ?_
  cases rowOf inf n with
  | none => exact rowsOf_allSome hpost _
  | some r => exact congrArg (r :: ·) (rowsOf_allSome hpost _)

/-- further inferred amounts: generated postings appended to the transaction. -/
def extraRows (n : Posting) (inf : List Amount) : List Row :=
  (inf.drop 1).map (fun a => ⟨n.account, n.kind, a⟩)

/-- The verdict all four models are compared with: `OF.finalize` with the posting kind kept.
    No elided must-balance posting: accepted with the written rows when `OF.acceptNoNull`
    holds (the residual displays as zero, or the implied two-commodity exchange has opposite
    signs), else "does not balance".  One: it receives the inferred amounts, the first in
    place and each further one as a generated posting appended; with nothing to infer the
    transaction is dropped silently when no posting has an amount (`accepted []`, xact.cc
    413-414), otherwise a null amount is left.  Two or more: the two-nulls error.  `ref`
    never yields `.other`. -/
def ref (env : PrecEnv) (ps : List Posting) : Verdict Row :=
  match nullPosts ps with
  | [] => if OF.acceptNoNull env ps (xbalance ps) then .accepted (rowsOf [] ps) else .unbalanced
  | [n] =>
    if inferred (xbalance ps) = [] then
      (if ps.all (fun p => p.amount.isNone) then .accepted [] else .nullLeft)
    else .accepted (rowsOf (inferred (xbalance ps)) ps ++ extraRows n (inferred (xbalance ps)))
  | _ => .twoNulls

def VAB : Value → Prop
  | .void => True
  | .amt _ => True
  | .bal _ => True
  | _ => False

theorem VAB_vadd (v : Value) (a : Amount) (h : VAB v) : VAB (vadd v a) := by
  cases v with
  | void => trivial
  | amt x => simp only [vadd]; split <;> trivial
  | bal b => trivial
  | int _ => cases h
  | bool _ => cases h

theorem add_eq_vadd (v : Value) (a : Amount) (h : VAB v) : Value.add v (.amt a) = .ok (vadd v a) := by
  cases v with
  | void => rfl
  | amt x =>
    rw [Value.add, vadd]
    by_cases hc : x.comm = a.comm
    · -- same commodity: both carry one or neither does, and `Amount.add` cannot fail
      have hh : x.hasComm = a.hasComm := congrArg (fun c => decide (c ≠ "")) hc
      rw [if_neg (not_not_intro hc), if_pos hc, Amount.add, if_neg (fun h => h.2.2 hc), if_pos hh]
      rfl
    · rw [if_pos hc, if_neg hc]
  | bal b => rfl
  | int _ => cases h
  | bool _ => cases h

theorem VAB_foldl (l : List Amount) : ∀ v, VAB v → VAB (l.foldl vadd v) := by
  induction l with
  | nil => intro v h; exact h
  | cons a l ih => intro v h; exact ih _ (VAB_vadd v a h)

theorem VAB_xbalance (ps : List Posting) : VAB (xbalance ps) := VAB_foldl _ _ trivial

theorem VAB_isNum {v : Value} (h : VAB v) : FinX.isNum v = true := by
  cases v <;> first | rfl | cases h

theorem accAdd_eq_vadd (v : Value) (a : Amount) (h : VAB v) : Assert.accAdd v a = vadd v a := by
  unfold Assert.accAdd
  rw [add_eq_vadd v a h]

theorem valueIsZero_FinX_eq_OF : FinX.valueIsZero = OF.valueIsZero := by
  funext env v; cases v <;> rfl

theorem valueIsZero_AutoXact_eq_OF : AutoXact.valueIsZero = OF.valueIsZero := by
  funext env v; cases v <;> rfl

theorem insertBy_congr {le le' : Amount → Amount → Bool} (a : Amount) (l : List Amount)
    (h : ∀ x ∈ l, le a x = le' a x) : OF.insertBy le a l = OF.insertBy le' a l := by
  induction l with
  | nil => rfl
  | cons b bs ih =>
    simp only [OF.insertBy, h b List.mem_cons_self, ih (fun x hx => h x (List.mem_cons_of_mem _ hx))]

theorem isort_congr {le le' : Amount → Amount → Bool} (l : List Amount)
    (h : ∀ x ∈ l, ∀ y ∈ l, le x y = le' x y) : OF.isort le l = OF.isort le' l := by
  induction l with
  | nil => rfl
  | cons a as ih =>
    simp only [OF.isort]
    rw [ih (fun x hx y hy => h x (List.mem_cons_of_mem _ hx) y (List.mem_cons_of_mem _ hy))]
    apply insertBy_congr
    intro x hx
    exact h a List.mem_cons_self x (List.mem_cons_of_mem _ ((OF.isort_perm le' as).mem_iff.1 hx))

theorem isort_unique {le : Amount → Amount → Bool} {ins : Amount → List Amount → List Amount}
    {sort : List Amount → List Amount} (h0 : ∀ a, ins a [] = [a])
    (hc : ∀ a b bs, ins a (b :: bs) = if le a b then a :: b :: bs else b :: ins a bs)
    (s0 : sort [] = []) (sc : ∀ a l, sort (a :: l) = ins a (sort l)) : ∀ l, sort l = OF.isort le l := by
  have hins : ∀ a l, ins a l = OF.insertBy le a l := by
    intro a l
    induction l with
    | nil => exact h0 a
    | cons b bs ih => rw [hc, ih]; rfl
  intro l
  induction l with
  | nil => exact s0
  | cons a l ih => rw [sc, ih, hins]; rfl

theorem fin_sort_generic (l : List Amount) :
    FinX.sortByComm l = OF.isort (fun x y => FinX.commLe x.comm y.comm) l :=
  isort_unique (ins := FinX.insByComm) (fun _ => rfl) (fun _ _ _ => rfl) rfl (fun _ _ => rfl) l

def autoLe (x y : Amount) : Bool :=
  decide (AutoXact.baseComm x.comm < AutoXact.baseComm y.comm ∨
    (AutoXact.baseComm x.comm = AutoXact.baseComm y.comm ∧ x.comm ≤ y.comm))

theorem auto_sort_generic (l : List Amount) : AutoXact.sortByComm l = OF.isort autoLe l :=
  isort_unique (ins := AutoXact.insertByComm) (fun _ => rfl)
    (fun a b bs => by simp only [AutoXact.insertByComm, autoLe, decide_eq_true_eq]) rfl (fun _ _ => rfl) l

theorem assert_sort_generic (l : List Amount) : Assert.sortByComm l = OF.sortedAmounts l :=
  isort_unique (ins := Assert.insertByComm) (fun _ => rfl)
    (fun a b bs => by simp only [Assert.insertByComm, decide_eq_true_eq]) rfl (fun _ _ => rfl) l

theorem OF_sortedAmounts_eq_FinX_sortByComm (b : Balance) (h : ∀ x ∈ b, plain x.comm = true) :
    OF.sortedAmounts b = FinX.sortByComm b := by
  rw [fin_sort_generic]
  unfold OF.sortedAmounts
  apply isort_congr
  intro x hx y hy
  exact (commLe_plain x.comm y.comm (h x hx) (h y hy)).symm

/-- C16's base symbol is read up to the first `{`: all of an unannotated symbol -/
theorem takeWhile_plain {c : Comm} (h : plain c = true) (r : List Char) :
    (c.toList ++ r).takeWhile (· ≠ '{') = c.toList ++ r.takeWhile (· ≠ '{') :=
  List.takeWhile_append_of_pos fun _ hch => decide_eq_true fun e => not_mem_of_plain h (e ▸ hch)

theorem baseComm_of_plain (c : Comm) (h : plain c = true) : AutoXact.baseComm c = c := by
  unfold AutoXact.baseComm
  rw [← List.append_nil c.toList, takeWhile_plain h, List.takeWhile_nil, List.append_nil,
    String.ofList_toList]

/-- the display precision C16 has learned after one more amount: filed under the
    base symbol, raised to the amount's precision counter -/
theorem get_bump (t : AutoXact.PrecTable) (a : Amount) (c : Comm) :
    (t.bump a).get c = if a.hasComm = true ∧ AutoXact.baseComm c = AutoXact.baseComm a.comm
      then max a.prec (t.get a.comm) else t.get c := by
  unfold AutoXact.PrecTable.bump
  by_cases hh : a.hasComm = true
  · rw [if_pos hh]
    show (List.lookup (AutoXact.baseComm c)
      ((AutoXact.baseComm a.comm, max a.prec (t.get a.comm)) :: t)).getD 0 = _
    rw [List.lookup_cons]
    by_cases he : AutoXact.baseComm c = AutoXact.baseComm a.comm
    · rw [if_pos ⟨hh, he⟩, beq_iff_eq.2 he]; rfl
    · rw [if_neg (fun h => he h.2), beq_false_of_ne he]; rfl
  · rw [if_neg hh, if_neg (fun h => hh h.1)]

theorem autoLe_plain (x y : Amount) (hx : plain x.comm = true) (hy : plain y.comm = true) :
    autoLe x y = decide (x.comm ≤ y.comm) := by
  unfold autoLe
  rw [baseComm_of_plain _ hx, baseComm_of_plain _ hy, decide_eq_decide]
  constructor
  · rintro (h | h)
    · exact Std.le_iff_lt_or_eq.mpr (Or.inl h)
    · exact h.2
  · intro h
    exact (Std.le_iff_lt_or_eq.mp h).imp_right fun e => ⟨e, h⟩

/-- C16 sorts by base symbol, an unannotated commodity before its lots; without
    lots this is the plain order by symbol. -/
theorem sortByComm_AutoXact_eq_OF (b : List Amount) (h : ∀ x ∈ b, plain x.comm = true) :
    AutoXact.sortByComm b = OF.sortedAmounts b := by
  rw [auto_sort_generic]
  unfold OF.sortedAmounts
  apply isort_congr
  intro x hx y hy
  exact autoLe_plain x y (h x hx) (h y hy)

end Coh
end Ledger
