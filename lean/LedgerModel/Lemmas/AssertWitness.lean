/-
Concrete histories used by Props/C09: the two witnesses on which the pinned
source violates the full statements, and benign ones for the non-vacuity examples.
A file of its own so that what imports Lemmas/AssertRun for the run lemmas does not load them.
-/
import LedgerModel.Lemmas.AssertRun

namespace Ledger.Assert.W

def usd (n : Int) : Amount := { q := (n : Rat), prec := 0, keep := false, comm := "$" }
def eur (n : Int) : Amount := { q := (n : Rat), prec := 0, keep := false, comm := "EUR" }

def cx : Ctx := { env := fun _ => 2, permissive := false }

def post (acct : String) (kind : PostKind) (amount assert : Option Amount) (line : Nat) : Posting :=
  { account := acct, kind := kind, state := 0, amount := amount, cost := none, assert := assert, note := "", line := line }

/-- account A holds $10 (and A:B holds $7) from earlier transactions -/
def log : List Entry := [⟨"A", false, usd 10⟩, ⟨"A:B", false, usd 7⟩, ⟨"B", false, usd (-17)⟩]

/-- `A  $5` earlier in the same transaction -/
def earlier : List Posting := [post "A" .real (some (usd 5)) none 6]

/-- `(A)  $1 = $16` : true (10 + 5 + 1), rejected by the pinned source ("expected to see $11") -/
def pVirt : Posting := post "A" .virtual (some (usd 1)) (some (usd 16)) 7

/-- `(A)  = $16` : must receive $1, the pinned source gives $6 -/
def pVirtAssign : Posting := post "A" .virtual none (some (usd 16)) 7

/-- `A  5 EUR = $10` : true (the account holds $10), rejected by the pinned source -/
def pComm : Posting := post "A" .real (some (eur 5)) (some (usd 10)) 6

/-- `A  $1 = $16`, ordinary: true and accepted -/
def pReal : Posting := post "A" .real (some (usd 1)) (some (usd 16)) 7
/-- `A  $1 = $17`, ordinary: false and rejected -/
def pRealFalse : Posting := post "A" .real (some (usd 1)) (some (usd 17)) 7
/-- `A  = $16`, ordinary: receives $1 -/
def pRealAssign : Posting := post "A" .real none (some (usd 16)) 7
/-- `A  $-15 = 0`, ordinary: true -/
def pZero : Posting := post "A" .real (some (usd (-15))) (some (Amount.ofInt 0)) 7

theorem fine_usd (n : Int) : fine cx.env (usd n) := Or.inr (Nat.zero_le _)
theorem fine_eur (n : Int) : fine cx.env (eur n) := Or.inr (Nat.zero_le _)

theorem fineLog : FineLog cx.env log := by
  intro e he
  simp only [log, List.mem_cons, List.not_mem_nil, or_false] at he
  rcases he with rfl | rfl | rfl <;> exact fine_usd _

theorem finePosts : FinePosts cx.env earlier := by
  intro p hp a ha
  simp only [earlier, List.mem_cons, List.not_mem_nil, or_false] at hp
  subst hp
  simp only [post, Option.some.injEq] at ha
  subst ha; exact fine_usd _

theorem finePostsNil : FinePosts cx.env [] := by intro p hp; cases hp

theorem noElided : NoElidedEarlier earlier "A" := by
  intro p hp _
  simp only [earlier, List.mem_cons, List.not_mem_nil, or_false] at hp
  subst hp; rfl

theorem noElidedNil (a : String) : NoElidedEarlier [] a := by intro p hp; cases hp

end Ledger.Assert.W
