/-
Helper lemmas behind Props/C17: sort_xacts (--sort-xacts) sorts every
transaction by itself and leaves the transactions where they are.  Stands on
both the sort lemmas (RegroupSort: `sortBy_perm`) and the runs lemmas
(RegroupRuns: `runs_flatten_good`), which do not depend on each other.
-/
import LedgerModel.Lemmas.RegroupSort
import LedgerModel.Lemmas.RegroupRuns

namespace Ledger
namespace Regroup

open List

theorem flatMap_perm_flatten (gs : List (List RPost)) (f : List RPost → List RPost)
    (h : ∀ g, (f g).Perm g) : (gs.flatMap f).Perm gs.flatten := by
  induction gs with
  | nil => simp
  | cons g gs ih => simp only [List.flatMap_cons, List.flatten_cons]; exact (h g).append ih

theorem sortXacts_perm (ks : List SortKey) (l : List RPost) : (sortXacts ks l).Perm l := by
  rw [sortXacts_eq]
  have := flatMap_perm_flatten (runs pxid l) (sortPosts ks) (fun g => sortBy_perm _ g)
  rw [runs_flatten] at this
  exact this

/-- replacing each block by a permutation of itself keeps the block structure -/
theorem GoodRuns.map_perm (f : List RPost → List RPost) (h : ∀ g, (f g).Perm g) :
    ∀ (prev : Option Nat) (gs : List (List RPost)), GoodRuns pxid prev gs → GoodRuns pxid prev (gs.map f) := by
  intro prev gs
  induction gs generalizing prev with
  | nil => intro _; trivial
  | cons g gs ih =>
    intro hg
    obtain ⟨p, g', rfl, h2, h3, h4⟩ := hg
    have hp := h (p :: g')
    have hall : ∀ q ∈ f (p :: g'), pxid q = pxid p := by
      intro q hq
      rcases List.mem_cons.mp (hp.subset hq) with rfl | hq'
      · rfl
      · exact h2 q hq'
    cases hf : f (p :: g') with
    | nil => rw [hf] at hp; exact absurd hp.symm.eq_nil (List.cons_ne_nil _ _)
    | cons p2 g2 =>
      rw [hf] at hall
      have e : pxid p2 = pxid p := hall p2 List.mem_cons_self
      refine ⟨p2, g2, hf, ?_, ?_, ?_⟩
      · intro q hq; rw [hall q (List.mem_cons_of_mem _ hq), e]
      · rw [e]; exact h3
      · rw [e]; exact ih _ h4

/-- after --sort-xacts the transactions are where they were, each one sorted -/
theorem sortXacts_runs (ks : List SortKey) (l : List RPost) :
    runs pxid (sortXacts ks l) = (runs pxid l).map (sortPosts ks) := by
  rw [sortXacts_eq, List.flatMap_def]
  exact runs_flatten_good pxid none _ (GoodRuns.map_perm (sortPosts ks) (fun g => sortBy_perm _ g) none _ (runs_good pxid l))

end Regroup
end Ledger
