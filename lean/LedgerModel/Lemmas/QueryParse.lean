/- The query parser on canonical input (C07.query_parse_print).
   Parser: one-step equations of the parser's loops and of `parseTerm`; `Q.toPred` on the binary constructs;
   `Renders`, what the parser does with the canonical tokens of a tree at each binding strength, and
   `toks_spec`, that the canonical tokens render the tree's predicate at every strength.
   Lexer: one-token equations of `lexChars`; `Lexes`, what the lexer does with canonical arguments, and
   `lex_spec`, that the canonical arguments lex to the canonical tokens.
   `parseAll_canonical` puts the two together. -/
import LedgerModel.Model.QueryParse

namespace Ledger
namespace Query

/-- What may follow an operand for it to be parsed as it stands, by binding strength as in `Renders`:
    `Follow2` after a term or an operand of `and` (no `=`, which a tag term would take for its value, and no
    lexer error, which any look-ahead raises), `Follow1` after an operand of `or` (nor `and`), `Follow0`
    after a juxtaposed expression (nor `or`). -/
def Follow2 : List Tok → Prop
  | .teq :: _ => False
  | .lexErr _ :: _ => False
  | _ => True

def Follow1 : List Tok → Prop
  | .teq :: _ => False
  | .lexErr _ :: _ => False
  | .tand :: _ => False
  | _ => True

def Follow0 : List Tok → Prop
  | .teq :: _ => False
  | .lexErr _ :: _ => False
  | .tand :: _ => False
  | .tor :: _ => False
  | _ => True

theorem Follow0.to1 : ∀ {r : List Tok}, Follow0 r → Follow1 r
  | [], _ => trivial
  | t :: _, h => by cases t <;> trivial

theorem Follow1.to2 : ∀ {r : List Tok}, Follow1 r → Follow2 r
  | [], _ => trivial
  | t :: _, h => by cases t <;> trivial

def comb (lim : Option Pred) (p : Pred) : Pred :=
  match lim with
  | none => p
  | some l => .or l p

variable (exprOf : String → Option Pred)

theorem andLoop_stop (ctx : Ctx) (P : Pred) (r : List Tok) (h : Follow1 r) :
    andLoop exprOf ctx P r = .ok (some P, r) := by
  unfold andLoop
  split
  · simp [Follow1] at h
  · simp [Follow1] at h
  · rfl

theorem orLoop_stop (ctx : Ctx) (P : Pred) (r : List Tok) (h : Follow0 r) :
    orLoop exprOf ctx P r = .ok (some P, r) := by
  unfold orLoop
  split
  · simp [Follow0] at h
  · simp [Follow0] at h
  · rfl

theorem unary_of_term (ctx : Ctx) (toks r : List Tok) (P : Pred)
    (h : parseTerm exprOf ctx toks = .ok (some P, r)) :
    parseUnary exprOf ctx toks = .ok (some P, r) := by
  unfold parseUnary
  split
  · unfold parseTerm at h; simp at h
  · unfold parseTerm at h; simp at h
  · exact h

theorem and_of_unary (ctx : Ctx) (toks r : List Tok) (P : Pred)
    (h : parseUnary exprOf ctx toks = .ok (some P, r)) (hl : r.length ≤ toks.length) :
    parseAnd exprOf ctx toks = andLoop exprOf ctx P r := by
  unfold parseAnd
  simp [h, hl]

theorem or_of_and (ctx : Ctx) (toks r : List Tok) (P : Pred)
    (h : parseAnd exprOf ctx toks = andLoop exprOf ctx P r) (hf : Follow1 r) (hl : r.length ≤ toks.length) :
    parseOr exprOf ctx toks = orLoop exprOf ctx P r := by
  unfold parseOr
  rw [h, andLoop_stop exprOf ctx P r hf]
  simp [hl]

theorem query_of_or (ctx : Ctx) (toks r : List Tok) (P : Pred) (lim : Option Pred)
    (h : parseOr exprOf ctx toks = orLoop exprOf ctx P r) (hf : Follow0 r) (hl : r.length < toks.length) :
    queryLoop exprOf ctx lim toks = queryLoop exprOf ctx (some (comb lim P)) r := by
  conv => lhs; unfold queryLoop
  rw [h, orLoop_stop exprOf ctx P r hf]
  simp only [hl, if_true]
  cases lim <;> rfl

theorem queryLoop_rparen (ctx : Ctx) (lim : Option Pred) (rest : List Tok) :
    queryLoop exprOf ctx lim (.rparen :: rest) = .ok (lim, .rparen :: rest) := by
  unfold queryLoop parseOr parseAnd parseUnary parseTerm
  simp

theorem queryLoop_nil (ctx : Ctx) (lim : Option Pred) :
    queryLoop exprOf ctx lim [] = .ok (lim, []) := by
  unfold queryLoop parseOr parseAnd parseUnary parseTerm
  simp

theorem parseTerm_term (ctx : Ctx) (pat : String) (P : Pred) (rest : List Tok) (hf : Follow2 rest)
    (hP : (Q.term pat).toPred exprOf ctx = some P) :
    parseTerm exprOf ctx (.term pat.toList :: rest) = .ok (some P, rest) := by
  unfold parseTerm
  cases ctx
  case tags =>
    cases hP
    simp only [String.ofList_toList]
    -- the metadata context looks ahead for `=` or a lexer error, which `Follow2` excludes
    split
    · exact hf.elim
    · exact hf.elim
    · rfl
  case expr =>
    have hP : exprOf pat = some P := hP
    simp only [mkLeaf, String.ofList_toList, hP]
  all_goals (cases hP; simp only [mkLeaf, String.ofList_toList])

/-- a context token hands the term after it to its own context -/
theorem parseTerm_ctx {k : Ctx} {rest r : List Tok} {P : Pred} (ctx : Ctx)
    (h : parseTerm exprOf k rest = .ok (some P, r)) :
    parseTerm exprOf ctx (.ctx k :: rest) = .ok (some P, r) := by
  unfold parseTerm
  simp only [h]

theorem parseTerm_tag_eq (n v : String) (rest : List Tok) :
    parseTerm exprOf .tags (.term n.toList :: .teq :: .term v.toList :: rest) =
      .ok (some (.hasTag n (some v)), rest) := by
  unfold parseTerm
  simp only [String.ofList_toList]

theorem Q.toPred_and (a b : Q) (ctx : Ctx) : (Q.and a b).toPred exprOf ctx =
    (a.toPred exprOf ctx).bind fun x => (b.toPred exprOf ctx).map (.and x) := by
  simp only [Q.toPred]; cases a.toPred exprOf ctx <;> cases b.toPred exprOf ctx <;> rfl

theorem Q.toPred_or (a b : Q) (ctx : Ctx) : (Q.or a b).toPred exprOf ctx =
    (a.toPred exprOf ctx).bind fun x => (b.toPred exprOf ctx).map (.or x) := by
  simp only [Q.toPred]; cases a.toPred exprOf ctx <;> cases b.toPred exprOf ctx <;> rfl

theorem Q.toPred_juxt (a b : Q) (ctx : Ctx) : (Q.juxt a b).toPred exprOf ctx =
    (a.toPred exprOf ctx).bind fun x => (b.toPred exprOf ctx).map (.or x) := by
  simp only [Q.toPred]; cases a.toPred exprOf ctx <;> cases b.toPred exprOf ctx <;> rfl

theorem bind_map_some {f : Pred → Pred → Pred} {oa ob : Option Pred} (ha : ∃ P, oa = some P)
    (hb : ∃ P, ob = some P) : ∃ P, (oa.bind fun x => ob.map (f x)) = some P := by
  obtain ⟨x, rfl⟩ := ha
  obtain ⟨y, rfl⟩ := hb
  exact ⟨_, rfl⟩

theorem bind_map_eq_some {f : Pred → Pred → Pred} {oa ob : Option Pred} {P : Pred}
    (h : (oa.bind fun x => ob.map (f x)) = some P) : ∃ a, oa = some a ∧ ∃ b, ob = some b ∧ f a b = P := by
  cases oa with
  | none => nomatch h
  | some a =>
    cases ob with
    | none => nomatch h
    | some b => exact ⟨a, rfl, b, rfl, Option.some.inj h⟩

theorem toPred_isSome (q : Q) (hw : q.wf exprOf = true) : ∀ ctx : Ctx, ctx ≠ .expr →
    ∃ P, q.toPred exprOf ctx = some P := by
  induction q with
  | term pat =>
    intro ctx hc
    cases ctx
    case expr => exact absurd rfl hc
    all_goals exact ⟨_, rfl⟩
  | tag n v => intro ctx _; exact ⟨_, rfl⟩
  | expr t =>
    intro ctx _
    simp only [Q.wf, Bool.and_eq_true, Option.isSome_iff_exists] at hw
    exact hw.2
  | ctx c q ih => intro ctx _; exact ih hw c.toCtx (by cases c <;> nofun)
  | not q ih =>
    intro ctx hc
    obtain ⟨P, hP⟩ := ih hw ctx hc
    exact ⟨.not P, congrArg (Option.map Pred.not) hP⟩
  | and a b iha ihb =>
    intro ctx hc
    have hw := Bool.and_eq_true_iff.mp hw
    rw [Q.toPred_and]
    exact bind_map_some (iha hw.1 ctx hc) (ihb hw.2 ctx hc)
  | or a b iha ihb =>
    intro ctx hc
    have hw := Bool.and_eq_true_iff.mp hw
    rw [Q.toPred_or]
    exact bind_map_some (iha hw.1 ctx hc) (ihb hw.2 ctx hc)
  | juxt a b iha ihb =>
    intro ctx hc
    have hw := Bool.and_eq_true_iff.mp hw
    rw [Q.toPred_juxt]
    exact bind_map_some (iha hw.1 ctx hc) (ihb hw.2 ctx hc)

/-- the first token of a rendering starts a term. -/
theorem follow0_toks (q : Q) (p : Nat) (rest : List Tok) : Follow0 (q.toks p ++ rest) := by
  induction q generalizing p rest with
  | term pat => exact trivial
  | tag n v => cases v <;> exact trivial
  | expr t => exact trivial
  | ctx c q _ => exact trivial
  | not q _ => unfold Q.toks; split <;> exact trivial
  | and a b iha _ =>
    unfold Q.toks; split
    · rw [List.append_assoc]; exact iha 2 _
    · exact trivial
  | or a b iha _ =>
    unfold Q.toks; split
    · rw [List.append_assoc]; exact iha 1 _
    · exact trivial
  | juxt a b iha _ =>
    unfold Q.toks; split
    · rw [List.append_assoc]; exact iha 0 _
    · exact trivial

/-- An empty rendering followed by `=` would not be a `Follow0` stream. -/
theorem toks_ne_nil (q : Q) (p : Nat) : q.toks p ≠ [] := fun h => by
  have := follow0_toks q p [.teq]
  rw [h] at this
  exact this

/-- `ts` renders a phrase denoting `P` at binding strength `p`: parsed at that level it is one operand
    (4: a term; 3: a unary expression; 2, 1: the first operand of an `and` / `or` chain; 0: a run of
    juxtaposed expressions, `F` saying how it extends the limit gathered before it). -/
def Renders (ctx : Ctx) (P : Pred) (ts : List Tok) : Nat → Prop
  | 0 => ∃ F : Option Pred → Pred, F none = P ∧ ∀ rest, Follow0 rest → ∀ lim,
      queryLoop exprOf ctx lim (ts ++ rest) = queryLoop exprOf ctx (some (F lim)) rest
  | 1 => ∀ rest, Follow1 rest → parseOr exprOf ctx (ts ++ rest) = orLoop exprOf ctx P rest
  | 2 => ∀ rest, Follow2 rest → parseAnd exprOf ctx (ts ++ rest) = andLoop exprOf ctx P rest
  | 3 => ∀ rest, Follow2 rest → parseUnary exprOf ctx (ts ++ rest) = .ok (some P, rest)
  | _ => ∀ rest, Follow2 rest → parseTerm exprOf ctx (ts ++ rest) = .ok (some P, rest)

section
variable {exprOf} {ctx : Ctx} {P : Pred} {ts : List Tok}

/-- an operand of a level is an operand of the level below -/
theorem renders_mono (hne : ts ≠ []) (p : Nat) (h : Renders exprOf ctx P ts (p + 1)) :
    Renders exprOf ctx P ts p := by
  rcases p with _ | _ | _ | _ | _
  · exact ⟨fun lim => comb lim P, rfl, fun rest hf lim =>
      query_of_or exprOf ctx _ _ P lim (h rest hf.to1) hf (by
        rw [List.length_append]
        exact Nat.lt_add_of_pos_left (List.length_pos_iff.mpr hne))⟩
  · exact fun rest hf => or_of_and exprOf ctx _ _ P (h rest hf.to2) hf (List.length_append ▸ Nat.le_add_left _ _)
  · exact fun rest hf => and_of_unary exprOf ctx _ _ P (h rest hf) (List.length_append ▸ Nat.le_add_left _ _)
  · exact fun rest hf => unary_of_term exprOf ctx _ _ P (h rest hf)
  · exact h

theorem Renders.le {L : Nat} (h : Renders exprOf ctx P ts L) (hne : ts ≠ []) :
    ∀ {p}, p ≤ L → Renders exprOf ctx P ts p := by
  induction L with
  | zero => intro p hp; exact Nat.le_zero.mp hp ▸ h
  | succ L ih =>
    intro p hp
    rcases Nat.lt_or_eq_of_le hp with hlt | rfl
    · exact ih (renders_mono hne L h) (Nat.le_of_lt_succ hlt)
    · exact h

theorem Renders.of_term (h : Renders exprOf ctx P ts 4) (hne : ts ≠ []) (p : Nat) :
    Renders exprOf ctx P ts p := by
  rcases Nat.lt_or_ge p 4 with hp | hp
  · exact h.le hne (Nat.le_of_lt hp)
  · obtain ⟨k, rfl⟩ := Nat.exists_eq_add_of_le' hp
    exact h

theorem renders_paren (h : Renders exprOf ctx P ts 0) :
    Renders exprOf ctx P (.lparen :: ts ++ [.rparen]) 4 := by
  intro rest _
  obtain ⟨F, hF, h⟩ := h
  have h0 := h (.rparen :: rest) trivial none
  simp only [List.cons_append, List.append_assoc, List.nil_append]
  unfold parseTerm
  simp only [parseQuery]
  rw [h0, queryLoop_rparen]
  simp [hF]

/-- a construct of level `L` is rendered bare up to strength `L` and in parentheses above it -/
theorem renders_ite_paren {L : Nat} (h : Renders exprOf ctx P ts L) (hne : ts ≠ []) (p : Nat) :
    Renders exprOf ctx P (if p ≤ L then ts else .lparen :: ts ++ [.rparen]) p := by
  split
  · exact h.le hne ‹_›
  · exact (renders_paren (h.le hne (Nat.zero_le L))).of_term (List.cons_ne_nil _ _) p

end

/-- The canonical tokens of a tree render its predicate at every binding strength. Each construct is shown
    to be an operand of its own level; `renders_ite_paren` then gives the levels below it (bare) and above it
    (in parentheses). -/
theorem toks_spec (q : Q) : ∀ (ctx : Ctx) (P : Pred), q.toPred exprOf ctx = some P →
    ∀ p, Renders exprOf ctx P (q.toks p) p := by
  induction q with
  | term pat =>
    intro ctx P hP
    exact Renders.of_term (ts := [.term pat.toList])
      (fun rest hf => parseTerm_term exprOf ctx pat P rest hf hP) (List.cons_ne_nil _ _)
  | tag n v =>
    intro ctx P hP
    obtain rfl : Pred.hasTag n v = P := Option.some.inj hP
    cases v with
    | none =>
      exact Renders.of_term (ts := [.ctx .tags, .term n.toList])
        (fun rest hf => parseTerm_ctx exprOf ctx (parseTerm_term exprOf .tags n _ rest hf rfl))
        (List.cons_ne_nil _ _)
    | some v =>
      exact Renders.of_term (ts := [.ctx .tags, .term n.toList, .teq, .term v.toList])
        (fun rest _ => parseTerm_ctx exprOf ctx (parseTerm_tag_eq exprOf n v rest)) (List.cons_ne_nil _ _)
  | expr t =>
    intro ctx P hP
    exact Renders.of_term (ts := [.ctx .expr, .term t.toList])
      (fun rest hf => parseTerm_ctx exprOf ctx (parseTerm_term exprOf .expr t P rest hf hP))
      (List.cons_ne_nil _ _)
  | ctx c q ih =>
    intro ctx P hP
    exact Renders.of_term (ts := .ctx c.toCtx :: q.toks 4)
      (fun rest hf => parseTerm_ctx exprOf ctx (ih c.toCtx P hP 4 rest hf)) (List.cons_ne_nil _ _)
  | not q ih =>
    intro ctx P hP
    obtain ⟨P', hP', rfl⟩ := Option.map_eq_some_iff.mp hP
    refine renders_ite_paren (L := 3) (fun rest hf => ?_) (List.cons_ne_nil _ _)
    rw [List.cons_append]
    unfold parseUnary
    simp [ih ctx P' hP' 4 rest hf]
  | and a b iha ihb =>
    intro ctx P hP
    obtain ⟨Pa, ha, Pb, hb, rfl⟩ := bind_map_eq_some ((Q.toPred_and exprOf a b ctx).symm.trans hP)
    refine renders_ite_paren (L := 2) (fun rest hf => ?_) (List.append_ne_nil_of_right_ne_nil _ (List.cons_ne_nil _ _))
    rw [List.append_assoc, iha ctx Pa ha 2 (.tand :: b.toks 3 ++ rest) trivial, List.cons_append]
    conv => lhs; unfold andLoop
    simp [ihb ctx Pb hb 3 rest hf]
  | or a b iha ihb =>
    intro ctx P hP
    obtain ⟨Pa, ha, Pb, hb, rfl⟩ := bind_map_eq_some ((Q.toPred_or exprOf a b ctx).symm.trans hP)
    refine renders_ite_paren (L := 1) (fun rest hf => ?_) (List.append_ne_nil_of_right_ne_nil _ (List.cons_ne_nil _ _))
    rw [List.append_assoc, iha ctx Pa ha 1 (.tor :: b.toks 2 ++ rest) trivial, List.cons_append]
    conv => lhs; unfold orLoop
    simp [ihb ctx Pb hb 2 rest hf.to2, andLoop_stop exprOf ctx Pb rest hf]
  | juxt a b iha ihb =>
    intro ctx P hP p
    obtain ⟨Pa, ha, Pb, hb, rfl⟩ := bind_map_eq_some ((Q.toPred_juxt exprOf a b ctx).symm.trans hP)
    obtain ⟨Fa, hFa, hTa⟩ := iha ctx Pa ha 0
    -- `a` extends the limit gathered so far by `Fa`; `b` comes next because its first token starts a term
    -- (`follow0_toks`), and or-s `Pb` onto that.
    have h0 : Renders exprOf ctx (.or Pa Pb) (a.toks 0 ++ b.toks 1) 0 :=
      ⟨fun lim => .or (Fa lim) Pb, congrArg (Pred.or · Pb) hFa, fun rest hf lim => by
        rw [List.append_assoc, hTa _ (follow0_toks b 1 rest) lim,
          query_of_or exprOf ctx _ _ Pb _ (ihb ctx Pb hb 1 rest hf.to1) hf (by
            rw [List.length_append]
            exact Nat.lt_add_of_pos_left (List.length_pos_iff.mpr (toks_ne_nil b 1)))]
        rfl⟩
    -- nothing binds more weakly: bare at strength 0, in parentheses above it
    cases p with
    | zero => exact h0
    | succ p => exact (renders_paren h0).of_term (List.cons_ne_nil _ _) (p + 1)

theorem lexChars_nil (cna b : Bool) : lexChars cna b [] = ⟨[], cna, false⟩ := by
  unfold lexChars; rfl

theorem charTok_spec {c : Char} {t : Tok} (h : charTok c = some t) :
    isStop c = true ∧ isQuote c = false ∧ isSpace c = false ∧ c ≠ '=' := by
  simp only [charTok, Option.map_eq_some_iff] at h
  obtain ⟨kv, hkv, _⟩ := h
  have hc : kv.1 = c := by simpa using List.find?_some hkv
  have all : ∀ kv ∈ Gen.queryCharTokens,
      isStop kv.1 = true ∧ isQuote kv.1 = false ∧ isSpace kv.1 = false ∧ kv.1 ≠ '=' := by decide +kernel
  exact hc ▸ all kv (List.mem_of_find?_eq_some hkv)

theorem char_tokens : ∀ p ∈ [('(', Tok.lparen), (')', .rparen), ('@', .ctx .payee), ('#', .ctx .code),
    ('%', .ctx .tags)], charTok p.1 = some p.2 := by decide +kernel

theorem eq_tokens : tokOfName Gen.queryEqTokens.1 = .ctx .note ∧ tokOfName Gen.queryEqTokens.2 = .teq := by
  decide +kernel

theorem scanIdent_plain (cs tail : List Char) (h : ∀ x ∈ cs, isStop x = false)
    (ht : tail = [] ∨ ∃ t ts, tail = t :: ts ∧ isStop t = true) :
    scanIdent false (cs ++ tail) = (cs, tail) := by
  induction cs with
  | nil =>
    rcases ht with rfl | ⟨t, ts, rfl, hs⟩
    · simp [scanIdent]
    · simp [scanIdent, hs]
  | cons c cs ih =>
    have hc := h c List.mem_cons_self
    simp only [List.cons_append, scanIdent, hc]
    simp [ih (fun x hx => h x (List.mem_cons_of_mem _ hx))]

/-- a word the lexer takes as one identifier: not empty, not starting with a quote or a blank, free of
    stop characters and backslashes -/
def plainWord : List Char → Bool
  | [] => false
  | c :: cs => !isQuote c && !isSpace c && (c :: cs).all (fun x => !isStop x && x ≠ '\\')

theorem lexChars_word (b : Bool) (w tail : List Char) (h : plainWord w = true)
    (ht : tail = [] ∨ ∃ t ts, tail = t :: ts ∧ isStop t = true) :
    lexChars false b (w ++ tail) = (lexChars (setsNextArg w) false tail).cons (identTok w) := by
  cases w with
  | nil => exact absurd h Bool.false_ne_true
  | cons c cs =>
    simp only [plainWord, Bool.and_eq_true, Bool.not_eq_true', List.all_eq_true, decide_eq_true_eq] at h
    obtain ⟨⟨hq, hs⟩, hall⟩ := h
    have hc := hall c List.mem_cons_self
    have hne : c ≠ '=' := by
      intro h; subst h; have := hc.1; revert this; decide +kernel
    have hct : charTok c = none := by
      cases h : charTok c with
      | none => rfl
      | some t => have := (charTok_spec h).1; simp [hc.1] at this
    have hsc := scanIdent_plain cs tail (fun x hx => (hall x (List.mem_cons_of_mem _ hx)).1) ht
    rw [List.cons_append, lexChars, if_neg (ne_true_of_eq_false hq), if_neg Bool.false_ne_true,
      if_neg (ne_true_of_eq_false hs), if_neg hne, hct]
    simp only [hc.2, hsc, if_false]

theorem lexChars_single (b : Bool) (c : Char) (cs : List Char) (t : Tok) (hct : charTok c = some t) :
    lexChars false b (c :: cs) = (lexChars false false cs).cons t := by
  obtain ⟨_, hq, hs, hne⟩ := charTok_spec hct
  rw [lexChars, if_neg (ne_true_of_eq_false hq), if_neg Bool.false_ne_true, if_neg (ne_true_of_eq_false hs),
    if_neg hne, hct]

theorem lexChars_eq (b : Bool) (cs : List Char) :
    lexChars false b ('=' :: cs) =
      (lexChars false false cs).cons (tokOfName (if b then Gen.queryEqTokens.1 else Gen.queryEqTokens.2)) := by
  have e1 : isQuote '=' = false := by decide +kernel
  have e2 : isSpace '=' = false := by decide +kernel
  rw [lexChars, if_neg (ne_true_of_eq_false e1), if_neg Bool.false_ne_true, if_neg (ne_true_of_eq_false e2),
    if_pos rfl]

theorem not_kw_setsNextArg (ident : List Char)
    (h : (Gen.queryKeywords.find? (fun kv => kv.1.toList = ident)).isNone = true) :
    setsNextArg ident = false := by
  have sub : ∀ k ∈ Gen.queryNextArgKeywords, ∃ kv ∈ Gen.queryKeywords, kv.1 = k := by decide +kernel
  cases hs : setsNextArg ident with
  | false => rfl
  | true =>
    obtain ⟨k, hk, e⟩ := List.any_eq_true.mp hs
    obtain ⟨kv, hkv, rfl⟩ := sub k hk
    have := List.find?_eq_none.mp (Option.isNone_iff_eq_none.mp h) kv hkv
    exact absurd e this

theorem plainPat_spec {s : String} (h : plainPat s = true) :
    plainWord s.toList = true ∧ identTok s.toList = .term s.toList ∧ setsNextArg s.toList = false := by
  have e : plainPat s = (plainWord s.toList &&
      (Gen.queryKeywords.find? (fun kv => kv.1.toList = s.toList)).isNone) := by
    unfold plainPat plainWord
    cases s.toList <;> rfl
  rw [e, Bool.and_eq_true] at h
  refine ⟨h.1, ?_, not_kw_setsNextArg _ h.2⟩
  rw [identTok, Option.isNone_iff_eq_none.mp h.2]

/-- The arguments `A`, standing after an argument that does not claim the next one, lex to the tokens `T`
    and leave the lexer in the same situation. -/
def Lexes (A : List String) (T : List Tok) : Prop :=
  ∀ as, lexMore false (A.map String.toList ++ as) = T ++ lexMore false as

theorem Lexes.append {A B : List String} {T U : List Tok} (h1 : Lexes A T) (h2 : Lexes B U) :
    Lexes (A ++ B) (T ++ U) := fun as => by
  rw [List.map_append, List.append_assoc, h1, h2, List.append_assoc]

theorem lexMore_cons {cna na : Bool} {a : List Char} {T : List Tok} (as : List (List Char))
    (h : lexChars cna true a = ⟨T, na, false⟩) (hne : a ≠ []) :
    lexMore cna (a :: as) = T ++ lexMore na as := by
  simp [lexMore, hne, h]

theorem Lexes.one {a : String} {T : List Tok} (h : lexChars false true a.toList = ⟨T, false, false⟩)
    (hne : a.toList ≠ []) : Lexes [a] T := fun as => lexMore_cons as h hne

theorem Lexes.char {a : String} {c : Char} {t : Tok} (ha : a.toList = [c]) (h : charTok c = some t) :
    Lexes [a] [t] :=
  .one (by rw [ha, lexChars_single true c [] t h, lexChars_nil]; rfl) (ha ▸ List.cons_ne_nil _ _)

theorem Lexes.word {a : String} {t : Tok} (h : plainWord a.toList = true) (ht : identTok a.toList = t)
    (hna : setsNextArg a.toList = false) : Lexes [a] [t] :=
  .one (by
    have := lexChars_word true a.toList [] h (.inl rfl)
    rw [List.append_nil, hna, ht, lexChars_nil] at this
    exact this) (fun e => by rw [e] at h; exact Bool.false_ne_true h)

theorem lexes_lparen : Lexes ["("] [.lparen] :=
  .char (c := '(') (by decide +kernel) (char_tokens ('(', .lparen) (by decide +kernel))

theorem lexes_rparen : Lexes [")"] [.rparen] :=
  .char (c := ')') (by decide +kernel) (char_tokens (')', .rparen) (by decide +kernel))

theorem keyword_args : ∀ p ∈ [("and", Tok.tand, false), ("or", .tor, false), ("not", .tnot, false),
      ("expr", .ctx .expr, true)],
    plainWord p.1.toList = true ∧ identTok p.1.toList = p.2.1 ∧ setsNextArg p.1.toList = p.2.2 := by
  decide +kernel

theorem lexes_and : Lexes ["and"] [.tand] :=
  have h := keyword_args ("and", .tand, false) (by decide +kernel)
  .word h.1 h.2.1 h.2.2

theorem lexes_or : Lexes ["or"] [.tor] :=
  have h := keyword_args ("or", .tor, false) (by decide +kernel)
  .word h.1 h.2.1 h.2.2

theorem lexes_not : Lexes ["not"] [.tnot] :=
  have h := keyword_args ("not", .tnot, false) (by decide +kernel)
  .word h.1 h.2.1 h.2.2

theorem lexes_ctx : (c : QCtx) → Lexes [c.arg] [.ctx c.toCtx]
  | .payee => .char (c := '@') (by decide +kernel) (char_tokens ('@', .ctx .payee) (by decide +kernel))
  | .code => .char (c := '#') (by decide +kernel) (char_tokens ('#', .ctx .code) (by decide +kernel))
  | .note => .one (by
      rw [show QCtx.note.arg.toList = ['='] by decide +kernel, lexChars_eq, lexChars_nil, if_pos rfl,
        eq_tokens.1]; rfl) (by decide +kernel)
  | .tags => .char (c := '%') (by decide +kernel) (char_tokens ('%', .ctx .tags) (by decide +kernel))

theorem lexes_pat {s : String} (h : plainPat s = true) : Lexes [s] [.term s.toList] :=
  have h := plainPat_spec h
  .word h.1 h.2.1 h.2.2

theorem lexes_tag {n : String} (h : plainPat n = true) : Lexes ["%" ++ n] [.ctx .tags, .term n.toList] := by
  obtain ⟨hw, hid, hna⟩ := plainPat_spec h
  have h2 := lexChars_word false n.toList [] hw (.inl rfl)
  rw [List.append_nil, hid, hna, lexChars_nil] at h2
  have e : ("%" ++ n).toList = '%' :: n.toList := by
    rw [String.toList_append, show "%".toList = ['%'] by decide +kernel]; rfl
  refine .one ?_ (e ▸ List.cons_ne_nil _ _)
  rw [e, lexChars_single true '%' _ _ (char_tokens ('%', .ctx .tags) (by decide +kernel)), h2]
  rfl

theorem lexes_tagv {n v : String} (h : plainPat n = true) (hv : plainPat v = true) :
    Lexes ["%" ++ n ++ "=" ++ v] [.ctx .tags, .term n.toList, .teq, .term v.toList] := by
  obtain ⟨hw, hid, hna⟩ := plainPat_spec h
  obtain ⟨hw', hid', hna'⟩ := plainPat_spec hv
  have h2 := lexChars_word false n.toList ('=' :: v.toList) hw (.inr ⟨'=', _, rfl, by decide +kernel⟩)
  have h4 := lexChars_word false v.toList [] hw' (.inl rfl)
  rw [List.append_nil, hid', hna', lexChars_nil] at h4
  rw [hid, hna, lexChars_eq, if_neg Bool.false_ne_true, eq_tokens.2, h4] at h2
  have e : ("%" ++ n ++ "=" ++ v).toList = '%' :: (n.toList ++ '=' :: v.toList) := by
    rw [String.toList_append, String.toList_append, String.toList_append, List.append_assoc, List.append_assoc,
      show "%".toList = ['%'] by decide +kernel, show "=".toList = ['='] by decide +kernel]
    rfl
  refine .one ?_ (e ▸ List.cons_ne_nil _ _)
  rw [e, lexChars_single true '%' _ _ (char_tokens ('%', .ctx .tags) (by decide +kernel)), h2]
  rfl

theorem lexes_expr {t : String} (h : plainExprText t = true) :
    Lexes ["expr", t] [.ctx .expr, .term t.toList] := fun as => by
  have hk := keyword_args ("expr", .ctx .expr, true) (by decide +kernel)
  have h1 : lexChars false true "expr".toList = ⟨[.ctx .expr], true, false⟩ := by
    have := lexChars_word true "expr".toList [] hk.1 (.inl rfl)
    rw [List.append_nil, hk.2.1, hk.2.2, lexChars_nil] at this
    exact this
  unfold plainExprText at h
  cases hl : t.toList with
  | nil => simp [hl] at h
  | cons c cs =>
    simp only [hl, Bool.not_eq_true'] at h
    have h2 : lexChars true true (c :: cs) = ⟨[.term (c :: cs)], false, false⟩ := by
      rw [lexChars, if_neg (ne_true_of_eq_false h), if_pos rfl]
    show lexMore false ("expr".toList :: t.toList :: as) = _
    rw [lexMore_cons _ h1 (by decide +kernel), hl, lexMore_cons as h2 (List.cons_ne_nil _ _)]
    rfl

theorem Lexes.ite_paren {A : List String} {T : List Tok} (c : Prop) [Decidable c] (h : Lexes A T) :
    Lexes (if c then A else "(" :: A ++ [")"]) (if c then T else .lparen :: T ++ [.rparen]) := by
  split
  · exact h
  · exact lexes_lparen.append (h.append lexes_rparen)

/-- The canonical arguments of a well-formed tree lex to its canonical tokens, at every binding strength:
    the `Lexes` of the pieces, appended in the order `Q.args` and `Q.toks` both follow. -/
theorem lex_spec (q : Q) (hw : q.wf exprOf = true) : ∀ p : Nat, Lexes (q.args p) (q.toks p) := by
  induction q with
  | term pat => exact fun _ => lexes_pat hw
  | tag n v =>
    cases v with
    | none => exact fun _ => lexes_tag hw
    | some v =>
      have hw := Bool.and_eq_true_iff.mp hw
      exact fun _ => lexes_tagv hw.1 hw.2
  | expr t =>
    have hw := Bool.and_eq_true_iff.mp hw
    exact fun _ => lexes_expr hw.1
  | ctx c q ih => exact fun _ => (lexes_ctx c).append (ih hw 4)
  | not q ih => exact fun p => .ite_paren (p ≤ 3) (lexes_not.append (ih hw 4))
  | and a b iha ihb =>
    have hw := Bool.and_eq_true_iff.mp hw
    exact fun p => .ite_paren (p ≤ 2) ((iha hw.1 2).append (lexes_and.append (ihb hw.2 3)))
  | or a b iha ihb =>
    have hw := Bool.and_eq_true_iff.mp hw
    exact fun p => .ite_paren (p ≤ 1) ((iha hw.1 1).append (lexes_or.append (ihb hw.2 2)))
  | juxt a b iha ihb =>
    have hw := Bool.and_eq_true_iff.mp hw
    exact fun p => .ite_paren (p = 0) ((iha hw.1 0).append (ihb hw.2 1))

/-- `lexArgs` differs from `lexMore` only in skipping an empty first argument, which a canonical argument
    list does not have: its first token starts a term. -/
theorem lexArgs_canonical (q : Q) (hw : q.wf exprOf = true) :
    lexArgs ((q.args 0).map String.toList) = q.toks 0 := by
  have h := lex_spec exprOf q hw 0 []
  simp only [List.append_nil, lexMore] at h
  have hf := follow0_toks q 0 []
  rw [List.append_nil, ← h] at hf
  cases hl : (q.args 0).map String.toList with
  | nil => rw [hl] at h; simpa [lexArgs, lexMore] using h
  | cons a as =>
    rw [hl] at h hf
    by_cases ha : a = []
    · subst ha; simp [lexMore, Follow0] at hf
    · rw [← h]; simp [lexArgs, lexMore, ha]

/-- Lexing gives the canonical tokens (`lexArgs_canonical`), these render the predicate at strength 0
    (`toks_spec`) with nothing before and nothing after, and no section keyword follows. -/
theorem parseAll_canonical (q : Q) (hw : q.wf exprOf = true) (P : Pred)
    (hP : q.toPred exprOf .account = some P) :
    parseAll exprOf (q.args 0) = .ok { limit := some P } := by
  obtain ⟨F, hF, h0⟩ := toks_spec exprOf q .account P hP 0
  have := h0 [] trivial none
  simp only [List.append_nil] at this
  simp only [parseAll, lexArgs_canonical exprOf q hw, parseQuery, this, queryLoop_nil, hF]
  unfold sections
  rfl

end Query
end Ledger
