/-
Helper lemmas behind Props/C05, part 4: the reports are DEFINED (no `Err`) whenever
the valuation yields numeric values – this is what makes the `= .ok …` hypotheses of
the property theorems satisfiable for every journal (non-vacuity for all inputs).
-/
import LedgerModel.Lemmas.ReportsRows
import LedgerModel.Props.C03

namespace Ledger
namespace Reports

/-- VOID / INTEGER / AMOUNT / BALANCE. -/
def isNum : Value → Bool
  | .bool _ => false
  | _ => true

theorem add_isNum (a b : Value) (ha : isNum a = true) (hb : isNum b = true) (hv : b ≠ .void) :
    ∃ r, Value.add a b = .ok r ∧ isNum r = true := by
  have ha' : a.isNum = true ∨ a = .void := by
    cases a with
    | void => exact .inr rfl
    | bool _ => cases ha
    | _ => exact .inl rfl
  have hb' : b.isNum = true := by
    cases b with
    | void => exact absurd rfl hv
    | bool _ => cases hb
    | _ => rfl
  obtain ⟨r, hr, hn⟩ := C03.add_total a b ha' hb'
  refine ⟨r, hr, ?_⟩
  cases r with
  | bool _ => cases hn
  | _ => rfl

theorem addV_isNum (a b : Value) (ha : isNum a = true) (hb : isNum b = true) :
    ∃ r, addV a b = .ok r ∧ isNum r = true := by
  cases b with
  | void => exact ⟨a, rfl, ha⟩
  | bool _ => cases hb
  | int y => exact add_isNum a (.int y) ha rfl (by intro h; cases h)
  | amt y => exact add_isNum a (.amt y) ha rfl (by intro h; cases h)
  | bal y => exact add_isNum a (.bal y) ha rfl (by intro h; cases h)

theorem sumFrom_isNum (vs : List Value) (acc : Value) (ha : isNum acc = true) (hv : ∀ v ∈ vs, isNum v = true) :
    ∃ r, sumFrom acc vs = .ok r ∧ isNum r = true := by
  induction vs generalizing acc with
  | nil => exact ⟨acc, rfl, ha⟩
  | cons v vs ih =>
    obtain ⟨a, h1, h2⟩ := addV_isNum acc v ha (hv v List.mem_cons_self)
    rw [sumFrom_cons, h1]
    exact ih a h2 (fun w hw => hv w (List.mem_cons_of_mem _ hw))

theorem sumV_map_isNum {α : Type} (f : α → Value) (hf : ∀ p, isNum (f p) = true) (l : List α) :
    ∃ r, sumV (l.map f) = .ok r ∧ isNum r = true :=
  sumFrom_isNum _ .void rfl (by intro v hv; obtain ⟨p, _, rfl⟩ := List.mem_map.mp hv; exact hf p)

theorem regGo_defined (f : RPost → Value) (hf : ∀ p, isNum (f p) = true) (l : List RPost) (acc : Value)
    (ha : isNum acc = true) : ∃ rows, regGo f acc l = .ok rows := by
  induction l generalizing acc with
  | nil => exact ⟨[], rfl⟩
  | cons p ps ih =>
    obtain ⟨t, h1, h2⟩ := addV_isNum acc (f p) ha (hf p)
    obtain ⟨rest, h3⟩ := ih t h2
    exact ⟨_, by rw [regGo_cons, h1, Except.bind_ok, h3]; rfl⟩

theorem sumMapM_isNum (g : Path → Res Value) (L : List Path) (acc : Value) (ha : isNum acc = true)
    (hg : ∀ k ∈ L, ∃ v, g k = .ok v ∧ isNum v = true) : ∃ r, sumMapM g L acc = .ok r ∧ isNum r = true := by
  induction L generalizing acc with
  | nil => exact ⟨acc, rfl, ha⟩
  | cons k ks ih =>
    obtain ⟨v, h1, h2⟩ := hg k List.mem_cons_self
    obtain ⟨a, h3, h4⟩ := addV_isNum acc v ha h2
    rw [sumMapM_cons, h1, Except.bind_ok, h3]
    exact ih a h4 (fun k' hk' => hg k' (List.mem_cons_of_mem _ hk'))

theorem acctTotalRec_isNum (f : RPost → Value) (hf : ∀ p, isNum (f p) = true) (keep : RPost → Bool) (ps : List RPost) :
    ∀ (n : Nat) (a : Path), ∃ r, acctTotalRec f keep ps n a = .ok r ∧ isNum r = true := by
  intro n
  induction n with
  | zero => intro a; exact sumV_map_isNum f hf _
  | succ n ih =>
    intro a
    obtain ⟨kids, h1, h2⟩ := sumMapM_isNum (acctTotalRec f keep ps n) (children ps a) .void rfl (fun k _ => ih k)
    obtain ⟨own, h3, h4⟩ : ∃ own, acctAmount f keep ps a = .ok own ∧ isNum own = true := sumV_map_isNum f hf _
    rw [acctTotalRec_succ, h1, Except.bind_ok, h3]
    exact addV_isNum kids own h2 h4

theorem balRowsOf_defined (f : RPost → Value) (hf : ∀ p, isNum (f p) = true) (keep : RPost → Bool) (ps : List RPost)
    (as : List Path) : ∃ rows, balRowsOf f keep ps as = .ok rows := by
  induction as with
  | nil => exact ⟨[], rfl⟩
  | cons a as ih =>
    obtain ⟨am, h1, _⟩ : ∃ am, acctAmount f keep ps a = .ok am ∧ isNum am = true := sumV_map_isNum f hf _
    obtain ⟨tot, h2, _⟩ := acctTotalRec_isNum f hf keep ps (maxLen ps) a
    obtain ⟨rest, h3⟩ := ih
    exact ⟨_, by rw [balRowsOf_cons, h1, Except.bind_ok, h2, Except.bind_ok, h3]; rfl⟩

theorem valAmount_isNum (p : RPost) : isNum (valAmount p) = true := by
  unfold valAmount; split <;> rfl

theorem valCost_isNum (p : RPost) : isNum (valCost p) = true := by
  unfold valCost; split
  · rfl
  · exact valAmount_isNum p

end Reports
end Ledger
