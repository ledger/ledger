/-
Helper lemmas for C16, in file order: appended notes change the note only (`SameButNote`);
predicates without any()/all() read account, amount and payee only (`eval_anyFree_congr`); the
quick evaluator and the memo invariant `MemoOK` (`matchPost_fst`, `matchPost_ok`); the extension
loop as a fold of one step (`fire`, `visit`, `loop_visit`, `visit_ok`) and code refines
specification (`loop_refines`, `extend_refines`); what the lines of a rule generate (`genAmount_*`,
`genPost_eq`, `genLines_*`); the shape of every successful run (`Pointwise`, `loop_shape`); the
closed form for predicates without any()/all() (`Rule.matches`, `gensOf`, `mark`, `additions`,
`loop_closed`, `specGo_closed`); `finish_ok`; all rules seen so far (`applyRules_spec`) and the
journal-level invariants of `load`; `check` / `assert` lines (`checkTruth`, `runChecks_cons_assertFailed`).
-/
import LedgerModel.Model.AutoXact
import LedgerModel.Lemmas.Value
import LedgerModel.Lemmas.ExceptBind

namespace Ledger
namespace AutoXact

theorem mul_commodity (env : PrecEnv) (a b : Amount) :
    (Amount.mul env a b).comm = if a.hasComm then a.comm else b.comm := by
  unfold Amount.mul; rw [Amount.clampPrec_comm]

theorem appendNote_fields (p : FPost) (t : String) :
    (p.appendNote t).account = p.account ∧ (p.appendNote t).kind = p.kind ∧ (p.appendNote t).state = p.state ∧
    (p.appendNote t).amount = p.amount ∧ (p.appendNote t).cost = p.cost ∧ (p.appendNote t).line = p.line ∧
    (p.appendNote t).generated = p.generated ∧ (p.appendNote t).calculated = p.calculated :=
  ⟨rfl, rfl, rfl, rfl, rfl, rfl, rfl, rfl⟩

/-- two postings that differ at most in their note -/
def SameButNote (p q : FPost) : Prop :=
  p.account = q.account ∧ p.kind = q.kind ∧ p.state = q.state ∧ p.amount = q.amount ∧ p.cost = q.cost ∧
  p.line = q.line ∧ p.generated = q.generated ∧ p.calculated = q.calculated

theorem SameButNote.refl (p : FPost) : SameButNote p p := ⟨rfl, rfl, rfl, rfl, rfl, rfl, rfl, rfl⟩

theorem SameButNote.trans {p q s : FPost} (h1 : SameButNote p q) (h2 : SameButNote q s) : SameButNote p s := by
  obtain ⟨a1, a2, a3, a4, a5, a6, a7, a8⟩ := h1
  obtain ⟨b1, b2, b3, b4, b5, b6, b7, b8⟩ := h2
  exact ⟨a1.trans b1, a2.trans b2, a3.trans b3, a4.trans b4, a5.trans b5, a6.trans b6, a7.trans b7, a8.trans b8⟩

theorem foldl_appendNote_same (ts : List String) : ∀ (p : FPost), SameButNote (ts.foldl FPost.appendNote p) p := by
  induction ts with
  | nil => intro p; exact SameButNote.refl p
  | cons t ts ih =>
    intro p
    simp only [List.foldl_cons]
    exact (ih (p.appendNote t)).trans (appendNote_fields p t)

theorem foldl_appendNote_note (ts : List String) :
    ∀ (p : FPost), (ts.foldl FPost.appendNote p).note =
      ts.foldl (fun (n : Option String) t => some (match n with
                                                    | some s => s ++ "\n" ++ t
                                                    | none => t)) p.note := by
  induction ts with
  | nil => intro p; rfl
  | cons t ts ih => intro p; simp only [List.foldl_cons]; rw [ih]; rfl

theorem annotate_same (r : Rule) (p : FPost) : SameButNote (annotate r p) p :=
  foldl_appendNote_same _ p

/-- a predicate without `any()`/`all()` reads the posting's account and amount and the payee, nothing else. -/
theorem eval_anyFree_congr (m : Matcher) (ctx ctx' : List FPost) (payee : String) (p q : FPost)
    (hacc : p.account = q.account) (hamt : p.amount = q.amount) :
    ∀ pr : Pred, pr.anyFree = true → pr.eval m ctx payee p = pr.eval m ctx' payee q := by
  intro pr
  induction pr with
  | const c => intro _; rfl
  | acct pat => intro _; exact congrArg (m pat) hacc
  | payee pat => intro _; rfl
  | amtGt n => intro _; exact congrArg (fun a : Amount => decide ((n : Rat) < a.q)) hamt
  | amtLt n => intro _; exact congrArg (fun a : Amount => decide (a.q < (n : Rat))) hamt
  | amtGe n => intro _; exact congrArg (fun a : Amount => decide ((n : Rat) ≤ a.q)) hamt
  | amtLe n => intro _; exact congrArg (fun a : Amount => decide (a.q ≤ (n : Rat))) hamt
  | not a iha => intro hf; exact congrArg (!·) (iha hf)
  | and a b iha ihb =>
    intro hf
    obtain ⟨ha, hb⟩ := Bool.and_eq_true_iff.mp hf
    show (_ && _) = (_ && _); rw [iha ha, ihb hb]
  | or a b iha ihb =>
    intro hf
    obtain ⟨ha, hb⟩ := Bool.and_eq_true_iff.mp hf
    show (_ || _) = (_ || _); rw [iha ha, ihb hb]
  | ite c a b ihc iha ihb =>
    intro hf
    obtain ⟨hca, hb⟩ := Bool.and_eq_true_iff.mp hf
    obtain ⟨hc, ha⟩ := Bool.and_eq_true_iff.mp hca
    show (if c.eval m ctx payee p then a.eval m ctx payee p else b.eval m ctx payee p) = _
    rw [ihc hc, iha ha, ihb hb]; rfl
  | any a _ => intro hf; cases hf
  | all a _ => intro hf; cases hf

theorem quick_sound (m : Matcher) (ctx : List FPost) (payee : String) (p : FPost) :
    ∀ (pr : Pred) (b : Bool), pr.quick m p.account = some b → pr.eval m ctx payee p = b := by
  intro pr
  induction pr with
  | const c => intro b h; exact Option.some.inj h
  | acct pat => intro b h; exact Option.some.inj h
  | payee pat => intro b h; cases h
  | amtGt n => intro b h; cases h
  | amtLt n => intro b h; cases h
  | amtGe n => intro b h; cases h
  | amtLe n => intro b h; cases h
  | any a _ => intro b h; cases h
  | all a _ => intro b h; cases h
  | not a iha =>
    intro b h
    obtain ⟨c, hc, rfl⟩ := Option.map_eq_some_iff.mp h
    exact congrArg (!·) (iha c hc)
  | and a b iha ihb =>
    intro r h
    show (a.eval m ctx payee p && b.eval m ctx payee p) = r
    simp only [Pred.quick] at h
    split at h
    · cases h
    · cases h; rename_i ha; rw [iha false ha]; rfl
    · rename_i ha; rw [iha true ha, ihb r h]; rfl
  | or a b iha ihb =>
    intro r h
    show (a.eval m ctx payee p || b.eval m ctx payee p) = r
    simp only [Pred.quick] at h
    split at h
    · cases h
    · cases h; rename_i ha; rw [iha true ha]; rfl
    · rename_i ha; rw [iha false ha, ihb r h]; rfl
  | ite c a b ihc iha ihb =>
    intro r h
    show (if c.eval m ctx payee p then a.eval m ctx payee p else b.eval m ctx payee p) = r
    simp only [Pred.quick] at h
    split at h
    · cases h
    · rename_i hc; rw [ihc true hc, iha r h]; rfl
    · rename_i hc; rw [ihc false hc, ihb r h]; rfl

/-- Invariant of a rule's matching state: every memoised answer is what the
    quick evaluator returns for that account name. -/
def MemoOK (m : Matcher) (pr : Pred) (st : RState) : Prop :=
  ∀ a b, st.memo.lookup a = some b → pr.quick m a = some b

theorem memoOK_init (m : Matcher) (pr : Pred) : MemoOK m pr RState.init := by
  intro a b h; simp [RState.init] at h

theorem matchPost_fst (m : Matcher) (pr : Pred) (ctx : List FPost) (payee : String) (st : RState) (p : FPost)
    (h : MemoOK m pr st) : (matchPost m pr ctx payee st p).1 = pr.eval m ctx payee p := by
  unfold matchPost
  split
  · split
    · rename_i b hb
      exact (quick_sound m ctx payee p pr b (h _ _ hb)).symm
    · split
      · rename_i b hb
        exact (quick_sound m ctx payee p pr b hb).symm
      · rfl
  · rfl

theorem matchPost_ok (m : Matcher) (pr : Pred) (ctx : List FPost) (payee : String) (st : RState) (p : FPost)
    (h : MemoOK m pr st) : MemoOK m pr (matchPost m pr ctx payee st p).2 := by
  unfold matchPost
  split
  · split
    · exact h
    · split
      · rename_i b hb
        intro a c hl
        simp only [List.lookup_cons] at hl
        split at hl
        · rename_i heq
          have : a = p.account := by simpa using heq
          cases hl; rw [this]; exact hb
        · exact h a c hl
      · intro a c hl; exact h a c hl
  · exact h

theorem loop_nil {σ : Type} (dec : σ → List FPost → FPost → Bool × σ) (env : PrecEnv) (r : Rule) (x : FXact)
    (st : σ) (done added : List FPost) (w : Nat) :
    loop dec env r x st done [] added w = (st, .ok { origs := done, added := added, warns := w }) := by
  rw [loop]

/-- the decision procedure of the code and of the specification -/
def decCode (m : Matcher) (r : Rule) (x : FXact) : RState → List FPost → FPost → Bool × RState :=
  fun s ctx ip => matchPost m r.pred ctx x.payee s ip

def decSpec (m : Matcher) (r : Rule) (x : FXact) : Unit → List FPost → FPost → Bool × Unit :=
  fun u ctx ip => (r.pred.eval m ctx x.payee ip, u)

/-- what a matched posting yields: itself with the rule-level notes, the postings of the rule's lines, the
    number of failed `check`s. -/
def fire (env : PrecEnv) (r : Rule) (x : FXact) (ip : FPost) : Except LErr (FPost × List FPost × Nat) :=
  (runChecks env (annotate r ip) r.checks).bind fun k =>
    (genLines env r x (annotate r ip) 0 r.lines).bind fun gens => .ok (annotate r ip, gens, k)

/-- what the loop does with one posting of the snapshot (`ctx` is the live posting list): the
    posting as it stays in place, the postings appended for it, the number of warnings. -/
def visit {σ : Type} (dec : σ → List FPost → FPost → Bool × σ) (env : PrecEnv) (r : Rule) (x : FXact)
    (st : σ) (ctx : List FPost) (ip : FPost) : σ × Except LErr (FPost × List FPost × Nat) :=
  if ip.generated then (st, .ok (ip, [], 0))
  else ((dec st ctx ip).2, if (dec st ctx ip).1 then fire env r x ip else .ok (ip, [], 0))

theorem loop_visit {σ : Type} (dec : σ → List FPost → FPost → Bool × σ) (env : PrecEnv) (r : Rule) (x : FXact)
    (st : σ) (done : List FPost) (ip : FPost) (rest added : List FPost) (w : Nat) :
    loop dec env r x st done (ip :: rest) added w =
      match visit dec env r x st (done ++ ip :: rest ++ added) ip with
      | (st', .ok (ip', gens, k)) => loop dec env r x st' (done ++ [ip']) rest (added ++ gens) (w + k)
      | (st', .error e) => (st', .error e) := by
  have skip (s : σ) : loop dec env r x s (done ++ [ip]) rest added w =
      loop dec env r x s (done ++ [ip]) rest (added ++ []) (w + 0) := by rw [List.append_nil]; rfl
  rw [loop, visit, fire]
  generalize dec st (done ++ ip :: rest ++ added) ip = d
  obtain ⟨b, st'⟩ := d
  cases ip.generated with
  | true => exact skip st
  | false =>
    cases b with
    | false => exact skip st'
    | true =>
      cases runChecks env (annotate r ip) r.checks with
      | error e => rfl
      | ok k => cases genLines env r x (annotate r ip) 0 r.lines <;> rfl

/-- a posting that is skipped stays as it is; a posting that fires passed the checks and got its lines. -/
theorem visit_ok {σ : Type} {dec : σ → List FPost → FPost → Bool × σ} {env : PrecEnv} {r : Rule} {x : FXact}
    {st : σ} {ctx : List FPost} {ip ip' : FPost} {gens : List FPost} {k : Nat}
    (h : (visit dec env r x st ctx ip).2 = .ok (ip', gens, k)) :
    ((ip.generated = true ∨ (dec st ctx ip).1 = false) ∧ ip' = ip ∧ gens = [] ∧ k = 0) ∨
    (ip.generated = false ∧ (dec st ctx ip).1 = true ∧ ip' = annotate r ip ∧
      runChecks env (annotate r ip) r.checks = .ok k ∧ genLines env r x (annotate r ip) 0 r.lines = .ok gens) := by
  unfold visit at h
  cases hg : ip.generated with
  | true => rw [hg] at h; cases h; exact .inl ⟨.inl rfl, rfl, rfl, rfl⟩
  | false =>
    rw [hg] at h
    cases hd : (dec st ctx ip).1 with
    | false => simp only [Bool.false_eq_true, if_false, hd] at h; cases h; exact .inl ⟨.inr rfl, rfl, rfl, rfl⟩
    | true =>
      simp only [Bool.false_eq_true, if_false, hd, if_true, fire] at h
      obtain ⟨k', hk, h⟩ := Except.bind_eq_ok h
      obtain ⟨gs, hgs, h⟩ := Except.bind_eq_ok h
      cases h
      exact .inr ⟨rfl, rfl, rfl, hk, hgs⟩

theorem visit_refines (m : Matcher) (env : PrecEnv) (r : Rule) (x : FXact) (st : RState) (ctx : List FPost)
    (ip : FPost) (h : MemoOK m r.pred st) :
    (visit (decCode m r x) env r x st ctx ip).2 = (visit (decSpec m r x) env r x () ctx ip).2 ∧
      MemoOK m r.pred (visit (decCode m r x) env r x st ctx ip).1 := by
  have h1 : (decCode m r x st ctx ip).1 = (decSpec m r x () ctx ip).1 := matchPost_fst m r.pred ctx x.payee st ip h
  have h2 : MemoOK m r.pred (decCode m r x st ctx ip).2 := matchPost_ok m r.pred ctx x.payee st ip h
  unfold visit
  cases ip.generated with
  | true => exact ⟨rfl, h⟩
  | false => exact ⟨by rw [h1]; rfl, h2⟩

theorem loop_refines (m : Matcher) (env : PrecEnv) (r : Rule) (x : FXact) :
    ∀ (rest : List FPost) (st : RState) (done added : List FPost) (w : Nat), MemoOK m r.pred st →
      (loop (decCode m r x) env r x st done rest added w).2 =
        (loop (decSpec m r x) env r x () done rest added w).2 ∧
      MemoOK m r.pred (loop (decCode m r x) env r x st done rest added w).1 := by
  intro rest
  induction rest with
  | nil => intro st done added w h; rw [loop_nil, loop_nil]; exact ⟨rfl, h⟩
  | cons ip rest ih =>
    intro st done added w h
    rw [loop_visit, loop_visit]
    obtain ⟨hv, hm⟩ := visit_refines m env r x st (done ++ ip :: rest ++ added) ip h
    generalize visit (decCode m r x) env r x st (done ++ ip :: rest ++ added) ip = vc at hv hm
    generalize visit (decSpec m r x) env r x () (done ++ ip :: rest ++ added) ip = vs at hv
    obtain ⟨st', rc⟩ := vc
    obtain ⟨u, rs⟩ := vs
    cases hv
    cases rc with
    | error e => exact ⟨rfl, hm⟩
    | ok t => exact ih st' _ _ _ hm

theorem extendGo_eq (m : Matcher) (env : PrecEnv) (r : Rule) (x : FXact) (st : RState) :
    extendGo m env r x st = loop (decCode m r x) env r x st [] x.posts [] 0 := rfl

theorem specGo_eq (m : Matcher) (env : PrecEnv) (r : Rule) (x : FXact) :
    specGo m env r x = (loop (decSpec m r x) env r x () [] x.posts [] 0).2 := rfl

theorem extendGo_refines (m : Matcher) (env : PrecEnv) (r : Rule) (x : FXact) (st : RState)
    (h : MemoOK m r.pred st) :
    (extendGo m env r x st).2 = specGo m env r x ∧ MemoOK m r.pred (extendGo m env r x st).1 := by
  rw [extendGo_eq, specGo_eq]
  exact loop_refines m env r x x.posts st [] [] 0 h

theorem extend_refines (m : Matcher) (env : PrecEnv) (r : Rule) (st : RState) (x : FXact)
    (h : MemoOK m r.pred st) :
    (extend m env r st x).2 = extendSpec m env r x ∧ MemoOK m r.pred (extend m env r st x).1 := by
  have := extendGo_refines m env r x st h
  unfold extend extendSpec
  exact ⟨by rw [this.1], this.2⟩

theorem genAmount_lit (env : PrecEnv) (a : Amount) (ip : FPost) :
    genAmount env (.lit a) ip = .ok (if a.hasComm then a else Amount.mul env ip.amount a) := rfl

theorem genAmount_expr_amt {env : PrecEnv} {e : Expr} {ip : FPost} {a : Amount}
    (h : evalPostExpr env ip e = .ok (.v (.amt a))) :
    genAmount env (.expr e) ip = .ok (if a.hasComm then a else Amount.mul env ip.amount a) := by
  simp only [genAmount, h]

theorem genAmount_expr_int {env : PrecEnv} {e : Expr} {ip : FPost} {n : Int}
    (h : evalPostExpr env ip e = .ok (.v (.int n))) :
    genAmount env (.expr e) ip = .ok (Amount.mul env ip.amount (Amount.ofInt n)) := by
  simp only [genAmount, h]

/-- a multiplier without commodity keeps the commodity of what it multiplies. -/
theorem mul_comm_of_noComm (env : PrecEnv) (a b : Amount) (hb : b.hasComm = false) :
    (Amount.mul env a b).comm = a.comm := by
  rw [mul_commodity]
  split
  · rfl
  · rename_i ha
    have h1 : a.comm = "" := by simpa [Amount.hasComm] using ha
    have h2 : b.comm = "" := by simpa [Amount.hasComm] using hb
    rw [h1, h2]

/-- the generated posting is the rule line's posting with the computed amount, then the deferred notes. -/
theorem genPost_eq (env : PrecEnv) (r : Rule) (x : FXact) (ip : FPost) (i : Nat) (l : RuleLine) :
    genPost env r x ip i l = (genAmount env l.amt ip).map (fun a =>
      (notesFor r i).foldl FPost.appendNote
        { account := substAccount l.account ip.account x.payee, kind := l.kind,
          state := if x.state = 1 then 1 else l.state,
          amount := a, cost := l.cost, note := l.note, line := l.line,
          generated := true, calculated := false }) := by
  unfold genPost
  cases genAmount env l.amt ip <;> rfl

theorem genPost_generated {env : PrecEnv} {r : Rule} {x : FXact} {ip : FPost} {i : Nat} {l : RuleLine} {g : FPost}
    (h : genPost env r x ip i l = .ok g) : g.generated = true := by
  unfold genPost at h
  split at h
  · cases h
  · cases h
    exact (foldl_appendNote_same _ _).2.2.2.2.2.2.1

theorem genLines_cons_ok {env : PrecEnv} {r : Rule} {x : FXact} {ip : FPost} {i : Nat} {l : RuleLine}
    {ls : List RuleLine} {gs : List FPost} (h : genLines env r x ip i (l :: ls) = .ok gs) :
    ∃ g gs', genPost env r x ip i l = .ok g ∧ genLines env r x ip (i + 1) ls = .ok gs' ∧ gs = g :: gs' := by
  rw [genLines] at h
  cases hg : genPost env r x ip i l with
  | error e => rw [hg] at h; cases h
  | ok g =>
    cases hgs : genLines env r x ip (i + 1) ls with
    | error e => rw [hg, hgs] at h; cases h
    | ok gs' => rw [hg, hgs] at h; cases h; exact ⟨g, gs', rfl, rfl, rfl⟩

/-- a successful run yields one posting per rule line, each flagged generated. -/
theorem genLines_shape {env : PrecEnv} {r : Rule} {x : FXact} {ip : FPost} :
    ∀ (ls : List RuleLine) (i : Nat) (gs : List FPost), genLines env r x ip i ls = .ok gs →
      gs.length = ls.length ∧ ∀ g ∈ gs, g.generated = true := by
  intro ls
  induction ls with
  | nil => intro i gs h; cases h; exact ⟨rfl, fun g hg => nomatch hg⟩
  | cons l ls ih =>
    intro i gs h
    obtain ⟨g0, gs0, hg0, hgs0, rfl⟩ := genLines_cons_ok h
    obtain ⟨hlen, hgen⟩ := ih _ _ hgs0
    refine ⟨by rw [List.length_cons, List.length_cons, hlen], fun g hg => ?_⟩
    rcases List.mem_cons.mp hg with rfl | hg
    · exact genPost_generated hg0
    · exact hgen g hg

theorem genLines_get {env : PrecEnv} {r : Rule} {x : FXact} {ip : FPost} :
    ∀ (ls : List RuleLine) (i : Nat) (gs : List FPost), genLines env r x ip i ls = .ok gs →
      ∀ (k : Nat) (l : RuleLine), ls[k]? = some l → ∃ g, gs[k]? = some g ∧ genPost env r x ip (i + k) l = .ok g := by
  intro ls
  induction ls with
  | nil => intro i gs _ k l hk; cases hk
  | cons l0 ls ih =>
    intro i gs h k l hk
    obtain ⟨g0, gs0, hg0, hgs0, rfl⟩ := genLines_cons_ok h
    cases k with
    | zero => cases hk; exact ⟨g0, rfl, hg0⟩
    | succ k =>
      obtain ⟨g, hg1, hg2⟩ := ih _ _ hgs0 k l hk
      rw [Nat.add_assoc, Nat.add_comm 1 k] at hg2
      exact ⟨g, hg1, hg2⟩

/-- two lists related position by position -/
inductive Pointwise {α : Type} (R : α → α → Prop) : List α → List α → Prop
  | nil : Pointwise R [] []
  | cons {a b : α} {as bs : List α} : R a b → Pointwise R as bs → Pointwise R (a :: as) (b :: bs)

theorem Pointwise.length_eq {α : Type} {R : α → α → Prop} {as bs : List α} (h : Pointwise R as bs) :
    as.length = bs.length := by
  induction h with
  | nil => rfl
  | cons _ _ ih => simp [ih]

theorem Pointwise.get {α : Type} {R : α → α → Prop} {as bs : List α} (h : Pointwise R as bs) :
    ∀ (k : Nat) (a b : α), as[k]? = some a → bs[k]? = some b → R a b := by
  induction h with
  | nil => intro k a b h1; cases h1
  | cons hab _ ih =>
    intro k a b h1 h2
    cases k with
    | zero => cases h1; cases h2; exact hab
    | succ k => exact ih k a b h1 h2

theorem visit_shape {σ : Type} (dec : σ → List FPost → FPost → Bool × σ) (env : PrecEnv) (r : Rule) (x : FXact)
    (st : σ) (ctx : List FPost) (ip ip' : FPost) (gens : List FPost) (k : Nat)
    (h : (visit dec env r x st ctx ip).2 = .ok (ip', gens, k)) :
    SameButNote ip' ip ∧ ∀ g ∈ gens, g.generated = true := by
  rcases visit_ok h with ⟨_, rfl, rfl, _⟩ | ⟨_, _, rfl, _, hl⟩
  · exact ⟨SameButNote.refl ip', fun g hg => nomatch hg⟩
  · exact ⟨annotate_same r ip, (genLines_shape _ _ _ hl).2⟩

theorem loop_shape {σ : Type} (dec : σ → List FPost → FPost → Bool × σ) (env : PrecEnv) (r : Rule) (x : FXact) :
    ∀ (rest : List FPost) (st : σ) (done added : List FPost) (w : Nat) (o : LoopOut),
      (loop dec env r x st done rest added w).2 = .ok o →
      (∃ rest', o.origs = done ++ rest' ∧ Pointwise SameButNote rest' rest) ∧
      (∃ more, o.added = added ++ more ∧ ∀ g ∈ more, g.generated = true) := by
  intro rest
  induction rest with
  | nil =>
    intro st done added w o h
    rw [loop_nil] at h
    cases h
    exact ⟨⟨[], (List.append_nil _).symm, Pointwise.nil⟩, ⟨[], (List.append_nil _).symm, fun g hg => nomatch hg⟩⟩
  | cons ip rest ih =>
    intro st done added w o h
    rw [loop_visit] at h
    have hv := visit_shape dec env r x st (done ++ ip :: rest ++ added) ip
    generalize visit dec env r x st (done ++ ip :: rest ++ added) ip = v at h hv
    obtain ⟨st', res⟩ := v
    cases res with
    | error e => cases h
    | ok t =>
      obtain ⟨ip', gens, k⟩ := t
      obtain ⟨hs, hg⟩ := hv ip' gens k rfl
      obtain ⟨⟨rest', h1, h2⟩, ⟨more, h3, h4⟩⟩ := ih _ _ _ _ _ h
      refine ⟨⟨ip' :: rest', by rw [h1, List.append_assoc]; rfl, Pointwise.cons hs h2⟩,
        ⟨gens ++ more, by rw [h3, List.append_assoc], ?_⟩⟩
      intro g hgm
      rcases List.mem_append.mp hgm with hgm | hgm
      · exact hg g hgm
      · exact h4 g hgm

/-- posting `p` is an original (not generated) posting that satisfies the rule's
    (context-free) predicate. -/
def Rule.matches (m : Matcher) (r : Rule) (payee : String) (p : FPost) : Bool :=
  !p.generated && r.pred.eval m [] payee p

/-- the postings the rule's lines yield for matched posting `ip` (`[]` if a line
    raises — then the whole extension is an error anyway). -/
def gensOf (env : PrecEnv) (r : Rule) (x : FXact) (ip : FPost) : List FPost :=
  match genLines env r x (annotate r ip) 0 r.lines with
  | .ok gs => gs
  | .error _ => []

/-- the original postings after the pass: matched ones carry the rule-level notes. -/
def mark (m : Matcher) (r : Rule) (payee : String) (p : FPost) : FPost :=
  if r.matches m payee p then annotate r p else p

/-- what rule `r` adds for the posting list `ps`: for each matching posting in
    order, one posting per rule line in order. -/
def additions (m : Matcher) (env : PrecEnv) (r : Rule) (x : FXact) (ps : List FPost) : List FPost :=
  (ps.filter (r.matches m x.payee)).flatMap (gensOf env r x)

/-- the number of `check` warnings for matched posting `ip` (0 if a line raises). -/
def warnsOf (env : PrecEnv) (r : Rule) (ip : FPost) : Nat :=
  match runChecks env (annotate r ip) r.checks with
  | .ok k => k
  | .error _ => 0

theorem additions_cons (m : Matcher) (env : PrecEnv) (r : Rule) (x : FXact) (ip : FPost) (rest : List FPost) :
    additions m env r x (ip :: rest) =
      (if r.matches m x.payee ip then gensOf env r x ip else []) ++ additions m env r x rest := by
  unfold additions
  rw [List.filter_cons]
  split
  · rw [List.flatMap_cons]
  · rfl

theorem warns_cons (mt : FPost → Bool) (wf : FPost → Nat) (ip : FPost) (rest : List FPost) :
    (((ip :: rest).filter mt).map wf).sum = (if mt ip then wf ip else 0) + ((rest.filter mt).map wf).sum := by
  rw [List.filter_cons]
  split
  · rw [List.map_cons, List.sum_cons]
  · rw [Nat.zero_add]

/-- For a predicate without any()/all() the live posting list the decision reads is replaced by `[]`
    (`eval_anyFree_congr`), so a step depends on its posting alone: it stays or is marked, and yields
    `gensOf` and `warnsOf` exactly when `Rule.matches`. -/
theorem visit_closed (m : Matcher) (env : PrecEnv) (r : Rule) (x : FXact) (haf : r.pred.anyFree = true)
    (ctx : List FPost) (ip ip' : FPost) (gens : List FPost) (k : Nat)
    (h : (visit (decSpec m r x) env r x () ctx ip).2 = .ok (ip', gens, k)) :
    ip' = mark m r x.payee ip ∧
    gens = (if r.matches m x.payee ip then gensOf env r x ip else []) ∧
    k = (if r.matches m x.payee ip then warnsOf env r ip else 0) ∧
    (r.matches m x.payee ip = true →
      (∃ k, runChecks env (annotate r ip) r.checks = .ok k) ∧
      (∃ gs, genLines env r x (annotate r ip) 0 r.lines = .ok gs)) := by
  have hev : (decSpec m r x () ctx ip).1 = r.pred.eval m [] x.payee ip := eval_anyFree_congr m ctx [] x.payee ip ip rfl rfl r.pred haf
  rcases visit_ok h with ⟨hno, rfl, rfl, rfl⟩ | ⟨hg, hd, rfl, hc, hl⟩
  · have hm : r.matches m x.payee ip' = false := by
      rcases hno with hg | hd
      · simp only [Rule.matches, hg, Bool.not_true, Bool.false_and]
      · simp only [Rule.matches, ← hev, hd, Bool.and_false]
    simp only [mark, hm, Bool.false_eq_true, if_false, false_implies, and_self]
  · have hm : r.matches m x.payee ip = true := by simp only [Rule.matches, hg, ← hev, hd, Bool.not_false, Bool.and_self]
    simp only [mark, hm, if_true, gensOf, hl, warnsOf, hc, true_and]
    exact fun _ => ⟨⟨_, rfl⟩, ⟨_, rfl⟩⟩

theorem loop_closed (m : Matcher) (env : PrecEnv) (r : Rule) (x : FXact) (haf : r.pred.anyFree = true) :
    ∀ (rest : List FPost) (done added : List FPost) (w : Nat) (o : LoopOut),
      (loop (decSpec m r x) env r x () done rest added w).2 = .ok o →
      o.origs = done ++ rest.map (mark m r x.payee) ∧
      o.added = added ++ additions m env r x rest ∧
      o.warns = w + ((rest.filter (r.matches m x.payee)).map (warnsOf env r)).sum ∧
      ∀ ip ∈ rest, r.matches m x.payee ip = true →
        (∃ k, runChecks env (annotate r ip) r.checks = .ok k) ∧
        (∃ gs, genLines env r x (annotate r ip) 0 r.lines = .ok gs) := by
  intro rest
  induction rest with
  | nil =>
    intro done added w o h
    rw [loop_nil] at h
    cases h
    exact ⟨(List.append_nil _).symm, (List.append_nil _).symm, rfl, fun ip hip => nomatch hip⟩
  | cons ip rest ih =>
    intro done added w o h
    rw [loop_visit] at h
    have hv := visit_closed m env r x haf (done ++ ip :: rest ++ added) ip
    generalize visit (decSpec m r x) env r x () (done ++ ip :: rest ++ added) ip = v at h hv
    obtain ⟨u, res⟩ := v
    cases res with
    | error e => cases h
    | ok t =>
      obtain ⟨ip', gens, k⟩ := t
      obtain ⟨e1, e2, e3, e4⟩ := hv ip' gens k rfl
      obtain ⟨h1, h2, h3, h4⟩ := ih _ _ _ _ h
      refine ⟨by rw [h1, e1, List.append_assoc]; rfl, by rw [h2, e2, additions_cons, List.append_assoc],
        by rw [h3, e3, warns_cons, Nat.add_assoc], ?_⟩
      intro q hq hqm
      rcases List.mem_cons.mp hq with rfl | hq
      · exact e4 hqm
      · exact h4 q hq hqm

theorem specGo_closed (m : Matcher) (env : PrecEnv) (r : Rule) (x : FXact) (haf : r.pred.anyFree = true)
    (o : LoopOut) (h : specGo m env r x = .ok o) :
    o.origs = x.posts.map (mark m r x.payee) ∧ o.added = additions m env r x x.posts ∧
    o.warns = ((x.posts.filter (r.matches m x.payee)).map (warnsOf env r)).sum ∧
    ∀ ip ∈ x.posts, r.matches m x.payee ip = true →
      (∃ k, runChecks env (annotate r ip) r.checks = .ok k) ∧
      (∃ gs, genLines env r x (annotate r ip) 0 r.lines = .ok gs) := by
  have := loop_closed m env r x haf x.posts [] [] 0 o (specGo_eq m env r x ▸ h)
  rwa [List.nil_append, List.nil_append, Nat.zero_add] at this

theorem additions_append (m : Matcher) (env : PrecEnv) (r : Rule) (x : FXact) (ps qs : List FPost) :
    additions m env r x (ps ++ qs) = additions m env r x ps ++ additions m env r x qs := by
  unfold additions; simp [List.filter_append, List.flatMap_append]

theorem additions_generated (m : Matcher) (env : PrecEnv) (r : Rule) (x : FXact) (gs : List FPost)
    (h : ∀ g ∈ gs, g.generated = true) : additions m env r x gs = [] := by
  unfold additions
  have : gs.filter (r.matches m x.payee) = [] := by
    apply List.filter_eq_nil_iff.mpr
    intro g hg
    simp [Rule.matches, h g hg]
  simp [this]

theorem mem_gensOf_generated (env : PrecEnv) (r : Rule) (x : FXact) (ip g : FPost) (h : g ∈ gensOf env r x ip) :
    g.generated = true := by
  unfold gensOf at h
  split at h
  · rename_i gs hgs; exact (genLines_shape _ _ _ hgs).2 g h
  · cases h

theorem mem_additions_generated (m : Matcher) (env : PrecEnv) (r : Rule) (x : FXact) (ps : List FPost)
    (g : FPost) (h : g ∈ additions m env r x ps) : g.generated = true := by
  unfold additions at h
  simp only [List.mem_flatMap] at h
  obtain ⟨ip, _, hg⟩ := h
  exact mem_gensOf_generated env r x ip g hg

theorem genAmount_congr (env : PrecEnv) (a : RAmt) (p q : FPost) (h : p.amount = q.amount) :
    genAmount env a p = genAmount env a q := by
  unfold genAmount evalPostExpr; rw [h]

theorem genPost_congr (env : PrecEnv) (r : Rule) (x : FXact) (p q : FPost) (ha : p.amount = q.amount)
    (hc : p.account = q.account) (i : Nat) (l : RuleLine) : genPost env r x p i l = genPost env r x q i l := by
  unfold genPost; rw [genAmount_congr env l.amt p q ha, hc]

theorem matches_same (m : Matcher) (r : Rule) (payee : String) (p q : FPost) (h : SameButNote p q)
    (haf : r.pred.anyFree = true) : r.matches m payee p = r.matches m payee q := by
  unfold Rule.matches
  rw [eval_anyFree_congr m [] [] payee p q h.1 h.2.2.2.1 r.pred haf, h.2.2.2.2.2.2.1]

theorem finish_ok {env : PrecEnv} {x : FXact} {o : Except LErr LoopOut} {e : Ext} (h : finish env x o = .ok e) :
    ∃ lo, o = .ok lo ∧ e.xact = { x with posts := lo.origs ++ lo.added } ∧ e.added = lo.added ∧ e.warns = lo.warns ∧
      (lo.added.any FPost.mustBalance = true → verify env (lo.origs ++ lo.added) = .ok ()) := by
  unfold finish at h
  split at h
  · cases h
  · rename_i lo
    refine ⟨lo, rfl, ?_⟩
    simp only at h
    split at h
    · rename_i hmb
      split at h
      · cases h
      · rename_i hv
        cases h
        exact ⟨rfl, rfl, rfl, fun _ => hv⟩
    · rename_i hmb
      cases h
      exact ⟨rfl, rfl, rfl, fun hh => absurd hh hmb⟩

/-- every rule's matching state satisfies its invariant. -/
def AllOK (m : Matcher) (rs : List (Rule × RState)) : Prop := ∀ p ∈ rs, MemoOK m p.1.pred p.2

/-- The rules one after the other: each `extend` is its `extendSpec` (`extend_refines`), the rules
    themselves are untouched, and every matching state keeps its invariant. -/
theorem applyRules_spec (m : Matcher) (env : PrecEnv) :
    ∀ (rs : List (Rule × RState)) (x : FXact) (w : Nat), AllOK m rs →
      (applyRules m env rs x w).2 = applyRulesSpec m env (rs.map (·.1)) x w ∧
      (applyRules m env rs x w).1.map (·.1) = rs.map (·.1) ∧
      AllOK m (applyRules m env rs x w).1 := by
  intro rs
  induction rs with
  | nil => intro x w h; exact ⟨rfl, rfl, h⟩
  | cons p rs ih =>
    intro x w h
    obtain ⟨r, st⟩ := p
    have hst : MemoOK m r.pred st := h (r, st) (List.mem_cons_self ..)
    have hrs : AllOK m rs := fun q hq => h q (List.mem_cons_of_mem _ hq)
    have hc := extend_refines m env r st x hst
    rw [applyRules, List.map_cons, applyRulesSpec]
    generalize hec : extend m env r st x = ec at hc
    obtain ⟨st', res⟩ := ec
    obtain ⟨hres, hok⟩ := hc
    rw [← hres]
    cases res with
    | error e =>
      refine ⟨rfl, rfl, ?_⟩
      intro q hq
      rcases List.mem_cons.mp hq with rfl | hq
      · exact hok
      · exact hrs q hq
    | ok e =>
      have := ih e.xact (w + e.warns) hrs
      refine ⟨this.1, congrArg (r :: ·) this.2.1, ?_⟩
      intro q hq
      rcases List.mem_cons.mp hq with rfl | hq
      · exact hok
      · exact this.2.2 q hq

theorem rulesOf_append (a b : List Item) : rulesOf (a ++ b) = rulesOf a ++ rulesOf b := by
  induction a with
  | nil => rfl
  | cons i is ih => cases i <;> simp [rulesOf, ih]

theorem step_allOK (m : Matcher) (s : LState) (it : Item) (h : AllOK m s.rules) :
    AllOK m (step m s it).rules ∧
    (step m s it).rules.map (·.1) = s.rules.map (·.1) ++ rulesOf [it] := by
  cases it with
  | rule r =>
    refine ⟨fun p hp => ?_, List.map_append⟩
    rcases List.mem_append.mp hp with h1 | h1
    · exact h p h1
    · cases List.mem_singleton.mp h1; exact memoOK_init m r.pred
  | xact x =>
    simp only [step, rulesOf, List.append_nil]
    split
    · exact ⟨h, rfl⟩
    · rename_i fx _
      have := applyRules_spec m (PrecTable.get (s.prec.bumpAll (x.posts.filterMap (·.amount)))) s.rules fx 0 h
      split
      · exact ⟨this.2.2, this.2.1⟩
      · exact ⟨this.2.2, this.2.1⟩

theorem loadFrom_allOK (m : Matcher) :
    ∀ (items : List Item) (s : LState), AllOK m s.rules →
      AllOK m (loadFrom m s items).rules ∧
      (loadFrom m s items).rules.map (·.1) = s.rules.map (·.1) ++ rulesOf items := by
  intro items
  induction items with
  | nil => intro s h; simp [loadFrom, rulesOf, h]
  | cons it items ih =>
    intro s h
    have h1 := step_allOK m s it h
    have h2 := ih (step m s it) h1.1
    unfold loadFrom at h2 ⊢
    simp only [List.foldl_cons]
    refine ⟨h2.1, ?_⟩
    rw [h2.2, h1.2, List.append_assoc, ← rulesOf_append]
    rfl

theorem load_allOK (m : Matcher) (items : List Item) :
    AllOK m (load m items).rules ∧ (load m items).rules.map (·.1) = rulesOf items := by
  have := loadFrom_allOK m items LState.init (by intro p hp; simp [LState.init] at hp)
  simpa [load, LState.init] using this

theorem load_append (m : Matcher) (a b : List Item) :
    load m (a ++ b) = loadFrom m (load m a) b := by
  simp [load, loadFrom, List.foldl_append]

theorem load_snoc (m : Matcher) (a : List Item) (it : Item) :
    load m (a ++ [it]) = step m (load m a) it := by
  simp [load_append, loadFrom]

/-- a step only ever appends to the accepted transactions, to the errors and to the warnings. -/
theorem step_prefix (m : Matcher) (s : LState) (it : Item) :
    s.xacts <+: (step m s it).xacts ∧ s.errs <+: (step m s it).errs ∧ s.warns <+: (step m s it).warns := by
  cases it with
  | rule r => exact ⟨List.prefix_refl _, List.prefix_refl _, List.prefix_refl _⟩
  | xact x =>
    simp only [step]
    split
    · exact ⟨List.prefix_refl _, List.prefix_append _ _, List.prefix_refl _⟩
    · split
      · exact ⟨List.prefix_append _ _, List.prefix_refl _, List.prefix_append _ _⟩
      · exact ⟨List.prefix_refl _, List.prefix_append _ _, List.prefix_refl _⟩

theorem loadFrom_prefix (m : Matcher) :
    ∀ (items : List Item) (s : LState),
      s.xacts <+: (loadFrom m s items).xacts ∧ s.errs <+: (loadFrom m s items).errs ∧
      s.warns <+: (loadFrom m s items).warns := by
  intro items
  induction items with
  | nil => intro s; exact ⟨List.prefix_refl _, List.prefix_refl _, List.prefix_refl _⟩
  | cons it items ih =>
    intro s
    have h1 := step_prefix m s it
    have h2 := ih (step m s it)
    unfold loadFrom at h2 ⊢
    simp only [List.foldl_cons]
    exact ⟨h1.1.trans h2.1, h1.2.1.trans h2.2.1, h1.2.2.trans h2.2.2⟩

/-- the verdict of one check line on a posting: the expression's truth value, if it evaluates -/
def checkTruth (env : PrecEnv) (ip : FPost) (c : Check) : Option Bool :=
  match evalPostExpr env ip c.expr with
  | .ok v => some (v.truth env)
  | .error _ => none

/-- the first line fails an `assert`, or it passes and a later one fails. -/
theorem runChecks_cons_assertFailed (env : PrecEnv) (ip : FPost) (c : Check) (cs : List Check) :
    runChecks env ip (c :: cs) = .error .assertFailed ↔
      (c.kind = .assert ∧ checkTruth env ip c = some false) ∨
      ((∃ b, checkTruth env ip c = some b ∧ (c.kind = .assert → b = true)) ∧
        runChecks env ip cs = .error .assertFailed) := by
  unfold checkTruth
  rw [runChecks]
  cases evalPostExpr env ip c.expr with
  | error e => simp
  | ok v =>
    cases hk : c.kind with
    | general => simp
    | assert =>
      cases ht : v.truth env with
      | false => simp [ht]
      | true => simp [ht]
    | check =>
      cases runChecks env ip cs with
      | error e => simp
      | ok k => simp

end AutoXact
end Ledger
