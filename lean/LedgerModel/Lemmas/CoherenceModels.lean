/-
Each finalize model in the closed form `Coh.ref`, in file order: `FinX.finalize`
assembled from Lemmas/CoherenceFinX.lean and Lemmas/CoherenceExch.lean
(`finalize_eq_ref`), C08 `OF.finalize` (`of_eq_ref`), C16 `AutoXact.finalize`
(`auto_eq_ref`), C09 `Assert.finalize` (`assert_eq_ref`).
-/
import LedgerModel.Lemmas.CoherenceExch

namespace Ledger
namespace Coh

open OF (bamt vadd xbalance nullPosts isNullPost inferred)

theorem finalizeF_eq_ref (env : PrecEnv) (enum : Balance → Balance) (henum : ∀ b, (enum b).Perm b) (date : String)
    (ps : List Posting) (hk : noKeepAmt ps = true) (hvn : noVirtNull ps = true)
    (hco : costOtherComm ps = true) (hca : costHasAmount ps = true)
    (hla : noLotAmt ps = true) (hlc : noLotCost ps = true)
    (hg : exchangeGuard env ps = true) :
    verdictFin (FinX.finalizeF env none enum date (ps.map (fp env))) = ref env ps := by
  match hn : nullPosts ps with
  | [] =>
    cases hi : impliedCase env ps with
    | false => exact fin_noNull_plain env enum henum date ps hn hk hvn hco hca hla hi
    | true =>
      unfold exchangeGuard at hg
      rw [hi] at hg
      exact fin_noNull_implied env enum henum date ps hn hk hvn hla hi (by simpa using hg)
  | [n] => exact fin_oneNull env enum henum date ps n hn hk hvn hco hla hlc
  | a :: b :: r => exact fin_twoNulls env enum date ps a b r hn

theorem isZero_lift (env : PrecEnv) (a : Amount) (h : plain a.comm = true) :
    a.isZero (FinX.liftEnv env) = a.isZero env := by
  unfold Amount.isZero
  rw [liftEnv_plain env a.comm h]

theorem valueIsZero_lift (env : PrecEnv) (v : Value) (h : entriesP (fun c => plain c = true) v) :
    OF.valueIsZero (FinX.liftEnv env) v = OF.valueIsZero env v := by
  cases v with
  | amt a => exact isZero_lift env a h
  | bal b =>
    show b.all (Amount.isZero (FinX.liftEnv env)) = b.all (Amount.isZero env)
    rw [Bool.eq_iff_iff, List.all_eq_true, List.all_eq_true]
    exact forall_congr' fun x => imp_congr_right fun hx => by rw [isZero_lift env x (h x hx)]
  | void => rfl
  | int _ => rfl
  | bool _ => rfl

theorem acceptNoNull_lift (env : PrecEnv) (ps : List Posting) (v : Value)
    (h : entriesP (fun c => plain c = true) v) :
    OF.acceptNoNull (FinX.liftEnv env) ps v = OF.acceptNoNull env ps v := by
  unfold OF.acceptNoNull
  split
  · next x y =>
    rw [isZero_lift env x (h x List.mem_cons_self),
      isZero_lift env y (h y (List.mem_cons_of_mem _ List.mem_cons_self)), valueIsZero_lift env _ h]
  · exact valueIsZero_lift env _ h

theorem impliedCase_lift (env : PrecEnv) (ps : List Posting) (hla : noLotAmt ps = true)
    (hlc : noLotCost ps = true) : impliedCase (FinX.liftEnv env) ps = impliedCase env ps := by
  unfold impliedCase
  have h := xbalance_plain ps hla hlc
  split
  · next x y hB =>
    rw [hB] at h
    rw [isZero_lift env x (h x List.mem_cons_self),
      isZero_lift env y (h y (List.mem_cons_of_mem _ List.mem_cons_self))]
  · rfl

theorem exactAmts_lift (env : PrecEnv) (ps : List Posting) (hla : noLotAmt ps = true) :
    exactAmts (FinX.liftEnv env) ps = exactAmts env ps := by
  rw [Bool.eq_iff_iff, exactAmts, exactAmts, List.all_eq_true, List.all_eq_true]
  refine forall_congr' fun p => imp_congr_right fun hp => ?_
  cases ha : p.amount with
  | none => exact Iff.rfl
  | some a =>
    simp only
    unfold exactB
    rw [liftEnv_plain env a.comm (noLotAmt_iff.1 hla p hp a ha)]

/-- `FinX.finalize` of a plain transaction is the closed form, under the precision
    environment the other models are given: `finalize` keys display precisions by base
    symbol (`liftEnv`), which on unannotated commodities changes nothing. -/
theorem finalize_eq_ref (env : PrecEnv) (enum : Balance → Balance) (henum : ∀ b, (enum b).Perm b)
    (x : Xact) (hk : noKeepAmt x.posts = true) (hvn : noVirtNull x.posts = true)
    (hco : costOtherComm x.posts = true) (hca : costHasAmount x.posts = true)
    (hla : noLotAmt x.posts = true) (hlc : noLotCost x.posts = true)
    (hg : exchangeGuard env x.posts = true) :
    verdictFin (FinX.finalize env none enum (FinX.LXact.ofXact x)) = ref env x.posts := by
  have hg' : exchangeGuard (FinX.liftEnv env) x.posts = true := by
    unfold exchangeGuard at hg ⊢
    rw [impliedCase_lift env x.posts hla hlc, exactAmts_lift env x.posts hla]
    exact hg
  unfold FinX.finalize
  rw [ofXact_posts, finalizeF_eq_ref (FinX.liftEnv env) enum henum _ x.posts hk hvn hco hca hla hlc hg']
  unfold ref
  rw [acceptNoNull_lift env x.posts _ (xbalance_plain x.posts hla hlc)]

theorem postEntries_rows (date : Int) (inf : List Amount) (ps : List Posting) :
    OF.postEntries date inf ps = (rowsOf inf ps).map (Row.toOF date) := by
  induction ps with
  | nil => rfl
  | cons p ps ih =>
    unfold rowsOf at ih ⊢
    unfold OF.postEntries
    rw [List.filterMap_cons]
    unfold rowOf
    cases p.amount with
    | some a => exact congrArg (_ :: ·) ih
    | none =>
      cases p.mustBalance with
      | false => exact ih
      | true =>
        cases inf with
        | nil => exact ih
        | cons a _ => exact congrArg (_ :: ·) ih

theorem extraEntries_rows (date : Int) (n : Posting) (inf : List Amount) :
    OF.extraEntries date n inf = (extraRows n inf).map (Row.toOF date) := by
  unfold OF.extraEntries extraRows
  rw [List.map_map]
  rfl

theorem rowsOf_allNone (ps : List Posting) (h : ps.all (fun p => p.amount.isNone) = true) :
    rowsOf [] ps = [] :=
  List.filterMap_eq_nil_iff.2 fun p hp => by
    rw [rowOf_nil, Option.isNone_iff_eq_none.1 (List.all_eq_true.1 h p hp)]
    rfl

theorem of_eq_ref (env : PrecEnv) (date : Int) (ps : List Posting) (hvn : noVirtNull ps = true) :
    verdictOF (OF.finalize env date ps) = (ref env ps).map (Row.toOF date) := by
  -- `OF.finalize` is `ref` written over entries: only the rows need translating
  unfold OF.finalize
  have h0 : ps.any (fun p => !p.mustBalance && p.amount.isNone) = false :=
    List.any_eq_false.2 fun p hp h => by
      rw [Bool.and_eq_true, Bool.not_eq_true', Option.isNone_iff_eq_none] at h
      rw [noVirtNull_iff.1 hvn p hp h.2] at h
      cases h.1
  rw [h0, if_neg Bool.false_ne_true]
  unfold ref OF.fin0
  rcases nullPosts ps with _ | ⟨n, _ | _⟩
  · simp only
    cases OF.acceptNoNull env ps (xbalance ps) with
    | false => rfl
    | true => exact congrArg Verdict.accepted (postEntries_rows date [] ps)
  · simp only
    by_cases hi : inferred (xbalance ps) = []
    · rw [if_pos hi, if_pos hi]
      cases hall : ps.all (fun p => p.amount.isNone) with
      | false => rfl
      | true =>
        show Verdict.accepted (_ ++ _) = .accepted []
        rw [hi, postEntries_rows, rowsOf_allNone ps hall]
        rfl
    · rw [if_neg hi, if_neg hi]
      show Verdict.accepted (_ ++ _) = .accepted (List.map _ (_ ++ _))
      rw [List.map_append, postEntries_rows, extraEntries_rows]
  · rfl
theorem bamt_noCost (p : Posting) (hc : p.cost = none) :
    bamt p = if p.mustBalance then p.amount else none := by
  unfold bamt
  split
  · cases p.amount with
    | none => rfl
    | some a => simp only [hc]
  · rfl

theorem toPPost_noCost (env : PrecEnv) (p : Posting) (hc : p.cost = none) :
    AutoXact.toPPost env p = { src := p, amount := p.amount, cost := none } := by
  unfold AutoXact.toPPost
  rw [hc]
  cases p.amount <;> rfl

theorem balanceOf_eq (env : PrecEnv) (ps : List Posting) : ∀ (v : Value), VAB v →
    (∀ p ∈ ps, p.cost = none) → (∀ p ∈ ps, ∀ a, p.amount = some a → a.keep = false) →
    AutoXact.balanceOf v (ps.map (AutoXact.toPPost env)) = .ok ((ps.filterMap bamt).foldl vadd v) := by
  induction ps with
  | nil => intro _ _ _ _; rfl
  | cons p ps ih =>
    intro v hv hc hk
    obtain ⟨hcp, hcs⟩ := List.forall_mem_cons.1 hc
    obtain ⟨hkp, hks⟩ := List.forall_mem_cons.1 hk
    rw [List.map_cons, toPPost_noCost env p hcp]
    unfold AutoXact.balanceOf
    rcases bamt_cases p with ⟨hm, hb, _⟩ | ⟨hm, ha, hb, _⟩ | ⟨a, b, hm, ha, hb, _⟩
    · simp only [hm]
      rw [List.filterMap_cons_none hb]
      exact ih v hv hcs hks
    · simp only [hm, ha]
      rw [List.filterMap_cons_none hb]
      exact ih v hv hcs hks
    · rw [bamt_noCost p hcp, hm, ha] at hb
      obtain rfl : a = b := Option.some.inj hb
      simp only [hm, ha]
      rw [unkeep_id a (hkp a ha), add_eq_vadd v a hv, List.filterMap_cons_some (f := bamt)
        (by rw [bamt_noCost p hcp, hm, ha]; rfl), List.foldl_cons]
      exact ih _ (VAB_vadd v a hv) hcs hks

theorem nulls_auto (env : PrecEnv) (ps : List Posting) (hvn : noVirtNull ps = true) :
    (ps.map (AutoXact.toPPost env)).filter (fun p => p.amount.isNone)
      = (nullPosts ps).map (AutoXact.toPPost env) := by
  rw [List.filter_map]
  exact congrArg _ (List.filter_congr fun p hp => (isNullPost_eq_isNone hvn p hp).symm)

theorem mapExcept_annotate (env : PrecEnv) (date : Int) (ps : List Posting) (hc : ∀ p ∈ ps, p.cost = none) :
    AutoXact.mapExcept (AutoXact.annotateCost env date) (ps.map (AutoXact.toPPost env))
      = .ok (ps.map (AutoXact.toPPost env)) := by
  induction ps with
  | nil => rfl
  | cons p ps ih =>
    obtain ⟨hcp, hcs⟩ := List.forall_mem_cons.1 hc
    rw [List.map_cons, toPPost_noCost env p hcp]
    unfold AutoXact.mapExcept
    have : AutoXact.annotateCost env date { src := p, amount := p.amount, cost := none }
        = .ok { src := p, amount := p.amount, cost := none } := by
      unfold AutoXact.annotateCost
      cases p.amount <;> rfl
    rw [this]
    simp only
    rw [ih hcs]

theorem rowOfAuto_mk (xs : ItemState) (p : Posting) (a : Amount) (c : Option Amount) (f g : Bool) :
    rowOfAuto (AutoXact.mkFPost xs p a c f g) = ⟨p.account, p.kind, a⟩ := rfl

theorem rows_auto_nil (env : PrecEnv) (xs : ItemState) (ps : List Posting) :
    (((ps.map (AutoXact.toPPost env)).filterMap
        (fun p => p.amount.map (fun a => AutoXact.mkFPost xs p.src a p.cost false false))).map rowOfAuto)
      = rowsOf [] ps := by
  rw [List.filterMap_map, List.map_filterMap]
  refine filterMap_congr_mem fun p _ => ?_
  rw [rowOf_nil]
  show Option.map rowOfAuto (p.amount.map _) = _
  cases p.amount <;> rfl

theorem rows_auto_fill (env : PrecEnv) (xs : ItemState) (a : Amount) (more : List Amount)
    (ps : List Posting) (hvn : noVirtNull ps = true) :
    ((ps.map (AutoXact.toPPost env)).map (fun p => match p.amount with
                      | some b => AutoXact.mkFPost xs p.src b p.cost false false
                      | none => AutoXact.mkFPost xs p.src a none true false)).map rowOfAuto
      = rowsOf (a :: more) ps := by
  rw [List.map_map, List.map_map, ← List.filterMap_eq_map]
  refine filterMap_congr_mem fun p hp => ?_
  show some (rowOfAuto (match p.amount with
    | some b => AutoXact.mkFPost xs p b (AutoXact.toPPost env p).cost false false
    | none => AutoXact.mkFPost xs p a none true false)) = _
  cases ha : p.amount with
  | some b => unfold rowOf; rw [ha]; rfl
  | none => rw [rowOf_null (isNullPost_iff.2 ⟨noVirtNull_iff.1 hvn p hp ha, ha⟩)]; rfl

theorem fillAmounts_auto (v : Value) (hv : VAB v) (hl : entriesP (fun c => plain c = true) v) :
    (AutoXact.fillAmounts v).getD [] = inferred v := by
  cases v with
  | void => rfl
  | amt a => rfl
  | bal b =>
    simp only [AutoXact.fillAmounts, inferred, Option.getD_some]
    rw [sortByComm_AutoXact_eq_OF b hl]
  | int _ => cases hv
  | bool _ => cases hv

theorem impliedPrice_auto (env : PrecEnv) (ps : List Posting) (hn : nullPosts ps = [])
    (hc : noCost ps = true) : AutoXact.impliedPrice env (xbalance ps) = impliedCase env ps := by
  unfold impliedCase
  rw [hn, (cost_guards_of_noCost hc).2.2.2.2]
  simp only [List.isEmpty_nil, Bool.not_false, Bool.and_self, Bool.true_and]
  unfold AutoXact.impliedPrice
  rfl

theorem all_cost_none (env : PrecEnv) (ps : List Posting) (hc : noCost ps = true) :
    (ps.map (AutoXact.toPPost env)).all (fun p => p.cost.isNone) = true := by
  rw [List.all_eq_true]
  intro q hq
  obtain ⟨p, hp, rfl⟩ := List.mem_map.1 hq
  rw [toPPost_noCost env p (noCost_iff.1 hc p hp)]
  rfl

/-- `AutoXact.finalize` is the closed form on transactions with no cost, no assertion, no lot
    annotation and no implied exchange. -/
theorem auto_eq_ref (env : PrecEnv) (x : Xact) (hca : noCostAssert x.posts = true)
    (hk : noKeepAmt x.posts = true) (hlot : noLotAmt x.posts = true)
    (hvn : noVirtNull x.posts = true) (hsa : someAmount x.posts = true)
    (himp : impliedCase env x.posts = false) :
    verdictAuto (AutoXact.finalize env x) = ref env x.posts := by
  have hnc := noCost_of_noCostAssert hca
  have hasr : x.posts.any (fun p => p.assert.isSome) = false :=
    List.any_eq_false.2 fun p hp h => by rw [(noCostAssert_iff.1 hca p hp).2] at h; cases h
  have hbal : AutoXact.balanceOf .void (x.posts.map (AutoXact.toPPost env)) = .ok (xbalance x.posts) :=
    balanceOf_eq env x.posts .void trivial (noCost_iff.1 hnc) (noKeepAmt_iff.1 hk)
  have hann := mapExcept_annotate env x.date x.posts (noCost_iff.1 hnc)
  have hmb : ((nullPosts x.posts).map (AutoXact.toPPost env)).all (fun p => p.src.mustBalance) = true := by
    rw [List.all_map, List.all_eq_true]
    exact fun p hp => (mem_nullPosts hp).1
  unfold AutoXact.finalize
  simp only [hasr, Bool.false_eq_true, if_false, nulls_auto env x.posts hvn, hbal, hann, hmb, if_true]
  unfold ref
  rcases hn : nullPosts x.posts with _ | ⟨n, _ | _⟩
  · simp only [List.map_nil, impliedPrice_auto env x.posts hn hnc, himp, Bool.false_eq_true, false_and, if_false]
    rw [acceptNoNull_plain env x.posts hn himp, valueIsZero_AutoXact_eq_OF]
    cases OF.valueIsZero env (xbalance x.posts) with
    | false => rfl
    | true =>
      rw [if_pos rfl, if_pos rfl]
      exact congrArg Verdict.accepted (rows_auto_nil env x.state x.posts)
  · have hnm : (AutoXact.toPPost env n).src.mustBalance = true := (mem_nullPosts (hn ▸ List.mem_cons_self)).1
    simp only [List.map_cons, List.map_nil, hnm, not_true_eq_false, if_false]
    have hfa := fillAmounts_auto (xbalance x.posts) (VAB_xbalance x.posts)
      (xbalance_plain x.posts hlot (cost_guards_of_noCost hnc).1)
    have hnotall := not_allNone_of_someAmount hsa (fun e => by rw [e] at hn; cases hn)
    revert hfa
    cases AutoXact.fillAmounts (xbalance x.posts) with
    | none =>
      intro (hfa : [] = inferred (xbalance x.posts))
      rw [if_pos hfa.symm, hnotall]
      rfl
    | some l =>
      intro (hfa : l = inferred (xbalance x.posts))
      cases l with
      | nil =>
        rw [if_pos hfa.symm, hnotall]
        rfl
      | cons a more =>
        rw [← hfa, if_neg (List.cons_ne_nil a more)]
        simp only [verdictAuto, List.map_append]
        refine congrArg Verdict.accepted ?_
        refine congr (congrArg HAppend.hAppend ?_) ?_
        · exact rows_auto_fill env x.state a more x.posts hvn
        · simp only [extraRows, List.drop_one, List.tail_cons, List.map_map]
          rfl
  · rfl

theorem costTotal_eq (a : Amount) (c : Cost) (hk : c.amt.keep = false) :
    Assert.costTotal a c = OF.totalCost a c := by
  obtain ⟨⟨q, prec, keep, comm⟩, perUnit⟩ := c
  obtain rfl : keep = false := hk
  unfold Assert.costTotal OF.totalCost
  cases perUnit with
  | true => rfl
  | false =>
    rw [if_neg Bool.false_ne_true, if_neg Bool.false_ne_true]
    by_cases h : a.q < 0
    · rw [if_pos h, if_pos h]; rfl
    · rw [if_neg h, if_neg h]

theorem balancing_eq (p : Posting) (hm : p.mustBalance = true)
    (hk : ∀ c, p.cost = some c → c.amt.keep = false) : Assert.balancing p = bamt p := by
  unfold Assert.balancing bamt
  rw [if_pos hm]
  cases p.amount with
  | none => cases p.cost <;> rfl
  | some a =>
    cases hc : p.cost with
    | none => rfl
    | some c => simp only [costTotal_eq a c (hk c hc)]

/-- C09's residual scan xact.cc 164-200 in closed form, from any state: the fold of
    `vadd` over `bamt`, and the elided posting if there is exactly one. -/
theorem residual_eq (ps : List Posting) : ∀ (v : Value) (np : Option Posting), VAB v →
    (∀ p ∈ ps, ∀ c, p.cost = some c → c.amt.keep = false) →
    Assert.residual ps v np =
      match nullPosts ps, np with
      | [], np => .ok ((ps.filterMap bamt).foldl vadd v, np)
      | [n], none => .ok ((ps.filterMap bamt).foldl vadd v, some n)
      | _, _ => .error .twoNulls := by
  induction ps with
  | nil => intro _ _ _ _; rfl
  | cons p ps ih =>
    intro v np hv hk
    obtain ⟨hkp, hks⟩ := List.forall_mem_cons.1 hk
    unfold Assert.residual
    rw [nullPosts_cons]
    rcases bamt_cases p with ⟨hm, hb, hn⟩ | ⟨hm, _, hb, hn⟩ | ⟨_, b, hm, _, hb, hn⟩
    · rw [hm, hn, List.filterMap_cons_none hb]
      exact ih v np hv hks
    · rw [hm, hn, balancing_eq p hm hkp, hb, List.filterMap_cons_none hb]
      cases np with
      | some _ => cases nullPosts ps <;> rfl
      | none =>
        simp only [Bool.not_true, Bool.false_eq_true, if_false, if_true]
        rw [ih v (some p) hv hks]
        cases nullPosts ps with
        | nil => rfl
        | cons _ l => cases l <;> rfl
    · rw [hm, hn, balancing_eq p hm hkp, hb, List.filterMap_cons_some hb, List.foldl_cons]
      simp only [Bool.not_true, Bool.false_eq_true, if_false]
      rw [accAdd_eq_vadd v b hv]
      exact ih _ np (VAB_vadd v b hv) hks

theorem toAssert_row (p : Posting) (a : Amount) :
    Row.toAssert ⟨p.account, p.kind, a⟩ = Assert.entryOf p a := by
  unfold Row.toAssert Assert.entryOf Assert.virt Posting.isReal
  cases p.kind <;> rfl

theorem entriesOf_rows (ps : List Posting) : Assert.entriesOf ps = (rowsOf [] ps).map Row.toAssert := by
  induction ps with
  | nil => rfl
  | cons p ps ih =>
    unfold rowsOf at ih ⊢
    unfold Assert.entriesOf
    rw [List.filterMap_cons, rowOf_nil]
    cases p.amount with
    | some a => simp only [Option.map_some, List.map_cons, toAssert_row, ih]
    | none => exact ih

theorem balancingAmounts_eq (v : Value) (hv : VAB v) : Assert.balancingAmounts v = inferred v := by
  cases v with
  | void => rfl
  | amt a => rfl
  | bal b =>
    match b with
    | [] => rfl
    | [a] => rfl
    | a :: c :: r =>
      simp only [Assert.balancingAmounts, inferred]
      rw [assert_sort_generic]
  | int _ => cases hv
  | bool _ => cases hv

theorem impliedPrice_assert (env : PrecEnv) (ps : List Posting) (v : Value) (hv : VAB v) :
    (match Assert.impliedPrice env ps v with
     | some b => b
     | none => Assert.valueIsZero env v) = OF.acceptNoNull env ps v := by
  cases v with
  | void => rfl
  | amt a => rfl
  | int _ => cases hv
  | bool _ => cases hv
  | bal b =>
    rcases b with _ | ⟨x, _ | ⟨y, _ | _⟩⟩
    · rfl
    · rfl
    · unfold Assert.impliedPrice OF.acceptNoNull
      cases ps.any (fun p => p.cost.isSome) with
      | true => rfl
      | false =>
        simp only [Bool.false_eq_true, if_false]
        by_cases hnz : (!x.isZero env && !y.isZero env) = true
        · rw [if_pos hnz, if_pos hnz]
          rw [Bool.and_eq_true, Bool.not_eq_true', Bool.not_eq_true'] at hnz
          exact (mul_neg_iff_signs x.q y.q (Amount.isZero_false_ne hnz.1)
            (Amount.isZero_false_ne hnz.2)).symm
        · rw [if_neg hnz, if_neg hnz]; rfl
    · rfl

/-- `Assert.finalize` is the closed form, kinds reduced to POST_VIRTUAL, rows up to
    order (C09 appends the filled-in elided posting after the written ones). -/
theorem assert_eq_ref (cx : Assert.Ctx) (ps : List Posting) (hvn : noVirtNull ps = true)
    (hsa : someAmount ps = true) (hkc : noKeepCost ps = true) :
    (verdictAssert (Assert.finalize cx ps)).PermEq ((ref cx.env ps).map Row.toAssert) := by
  have hres : Assert.residual ps .void none = _ := residual_eq ps .void none trivial (noKeepCost_iff.1 hkc)
  unfold Assert.finalize ref
  rw [hres]
  rcases hn : nullPosts ps with _ | ⟨n, _ | _⟩
  · have hnone : ps.any (fun p => p.amount.isNone) = false :=
      List.any_eq_false.2 fun p hp h => by
        rw [Option.isNone_iff_eq_none] at h
        have := allSome_of hvn hn p hp
        rw [h] at this
        cases this
    simp only
    rw [show List.foldl vadd Value.void (List.filterMap bamt ps) = xbalance ps from rfl]
    have key : ∀ acc : Bool,
        (verdictAssert (if (!acc) = true then .error .unbalanced
          else if ps.any (fun p => p.amount.isNone) = true then .error .nullAfter
          else .ok (Assert.entriesOf ps))).PermEq
        (Verdict.map Row.toAssert (if acc = true then Verdict.accepted (rowsOf [] ps) else Verdict.unbalanced)) := by
      intro acc
      cases acc with
      | false => trivial
      | true =>
        rw [hnone, entriesOf_rows]
        exact List.Perm.refl _
    -- the matches on `impliedPrice` in `impliedPrice_assert` and in `Assert.finalize` are different
    -- constants; both reduce once `impliedPrice` is cased on
    rw [← impliedPrice_assert cx.env ps _ (VAB_xbalance ps)]
    cases Assert.impliedPrice cx.env ps (xbalance ps) with
    | none => exact key _
    | some b => exact key _
  · simp only
    rw [show List.foldl vadd Value.void (List.filterMap bamt ps) = xbalance ps from rfl]
    show (verdictAssert (match Assert.balancingAmounts (xbalance ps) with
        | [] => _
        | extra => _)).PermEq _
    rw [balancingAmounts_eq _ (VAB_xbalance ps)]
    have hnotall := not_allNone_of_someAmount hsa (fun e => by rw [e] at hn; cases hn)
    cases hi : inferred (xbalance ps) with
    | nil =>
      rw [hnotall]
      trivial
    | cons a more =>
      have hvirt : ps.any (fun p => p.amount.isNone && !p.mustBalance) = false :=
        List.any_eq_false.2 fun p hp h => by
          rw [Bool.and_eq_true, Bool.not_eq_true', Option.isNone_iff_eq_none] at h
          rw [noVirtNull_iff.1 hvn p hp h.1] at h
          cases h.2
      rw [hvirt]
      show (Assert.entriesOf ps ++ (a :: more).map (Assert.entryOf n)).Perm
        ((rowsOf (a :: more) ps ++ extraRows n (a :: more)).map Row.toAssert)
      obtain ⟨pre, post, e, hpre, hnn, hpost⟩ := nullPosts_eq_cons.1 hn
      have hvn' := List.forall_mem_append.1 (e ▸ noVirtNull_iff.1 hvn)
      have hpreS := allSome_of (noVirtNull_iff.2 hvn'.1) hpre
      have hpostS := allSome_of (noVirtNull_iff.2 (List.forall_mem_cons.1 hvn'.2).2) hpost
      rw [entriesOf_rows, e, rowsOf_split hpreS hpostS (a :: more), rowOf_null hnn,
        rowsOf_split hpreS hpostS [], rowOf_nil, (isNullPost_iff.1 hnn).2]
      simp only [List.map_append, List.map_cons, extraRows, List.drop_one, List.tail_cons, List.map_map,
        toAssert_row, List.append_assoc, Option.map_none, Option.toList_none, Option.toList_some,
        List.nil_append, List.cons_append]
      apply List.Perm.append_left
      have : (List.map (Row.toAssert ∘ fun a => ({ account := n.account, kind := n.kind, amt := a } : Row)) more)
          = more.map (Assert.entryOf n) :=
        List.map_congr_left fun x _ => toAssert_row n x
      rw [this]
      exact List.perm_middle (a := Assert.entryOf n a)
        (l₁ := List.map Row.toAssert (rowsOf [] post)) (l₂ := more.map (Assert.entryOf n))
  · trivial

end Coh
end Ledger
