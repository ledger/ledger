/-
Helper lemmas behind Props/C17: what subtotal_posts, by_payee_posts,
day_of_week_posts and collapse_posts emit, as "group sums" of their input, for
any valuation of the postings, and how such stages compose.  In file order:
`GroupSums` and its algebra (`of_each`: totals from the per-row sums;
`groupSums_of_accum`: the rows of a keyed accumulation; `groupSums_classes`,
`.lift`, `.comp`: classes side by side, a refined key, two stages in a row);
subtotal_posts (`subState_report`); day_of_week_posts and by_payee_posts, one
subtotal per class; collapse_posts as a report per run (`collapse_eq_runs`,
`collapseGroup_groups`); two stages in a row (`stage_then_subtotal`,
`blocks_depth_groups`); the grand total through all stages; the sample of the
examples in Props/C17.
-/
import LedgerModel.Lemmas.RegroupSums
import LedgerModel.Lemmas.RegroupRuns
import LedgerModel.Lemmas.Calendar

namespace Ledger
namespace Regroup

open List

/-- `rows` replaces the groups of `posts` (postings with equal `grp`) by their
    exact per-commodity sums: one row per group (`rowKey` names the group a row
    stands for), every group present, nothing else, and the totals agree.
    `vin` is the value a posting contributes, `vout` the value a row carries. -/
structure GroupSums {K : Type} [DecidableEq K] (vin vout : RPost → Value) (grp rowKey : RPost → K)
    (posts rows : List RPost) : Prop where
  each : ∀ r ∈ rows, ∀ c, (vout r).den c = sumDenBy vin (posts.filter (fun p => grp p = rowKey r)) c
  covered : ∀ p ∈ posts, ∃ r ∈ rows, rowKey r = grp p
  noExtra : ∀ r ∈ rows, ∃ p ∈ posts, grp p = rowKey r
  nodup : (rows.map rowKey).Nodup
  total : ∀ c, sumDenBy vout rows c = sumDenBy vin posts c
  qty : ∀ r ∈ rows, isQty (vout r) = true

theorem sumDenBy_congr {v v' : RPost → Value} {ps : List RPost} (h : ∀ p ∈ ps, v p = v' p) (c : Comm) :
    sumDenBy v ps c = sumDenBy v' ps c :=
  wsum_congr (fun p hp => by rw [h p hp])

theorem GroupSums.congr_vin {K : Type} [DecidableEq K] {vin vin' vout : RPost → Value} {grp rowKey : RPost → K}
    {posts rows : List RPost} (h : GroupSums vin vout grp rowKey posts rows) (he : ∀ p ∈ posts, vin p = vin' p) :
    GroupSums vin' vout grp rowKey posts rows :=
  ⟨fun r hr c => by
      rw [h.each r hr c]
      exact sumDenBy_congr (fun p hp => he p (List.mem_filter.mp hp).1) c,
   h.covered, h.noExtra, h.nodup, fun c => by rw [h.total c]; exact sumDenBy_congr he c, h.qty⟩

theorem GroupSums.congr_vout {K : Type} [DecidableEq K] {vin vout vout' : RPost → Value} {grp rowKey : RPost → K}
    {posts rows : List RPost} (h : GroupSums vin vout grp rowKey posts rows) (he : ∀ r ∈ rows, vout r = vout' r) :
    GroupSums vin vout' grp rowKey posts rows :=
  ⟨fun r hr c => by rw [← he r hr]; exact h.each r hr c,
   h.covered, h.noExtra, h.nodup, fun c => by rw [← h.total c]; exact (sumDenBy_congr he c).symm,
   fun r hr => by rw [← he r hr]; exact h.qty r hr⟩

theorem groupSums_nil {K : Type} [DecidableEq K] (vin vout : RPost → Value) (grp rowKey : RPost → K) :
    GroupSums vin vout grp rowKey [] [] :=
  ⟨by simp, by simp, by simp, by simp, fun _ => rfl, by simp⟩

/-- no rows, no postings -/
theorem GroupSums.posts_eq_nil {K : Type} [DecidableEq K] {vin vout : RPost → Value} {grp rowKey : RPost → K}
    {posts : List RPost} (h : GroupSums vin vout grp rowKey posts []) : posts = [] := by
  cases posts with
  | nil => rfl
  | cons p ps => obtain ⟨r, hr, _⟩ := h.covered p List.mem_cons_self; cases hr

/-- a filter in front of a finer one does nothing -/
theorem filter_filter_of_imp {α : Type} (q r : α → Bool) (l : List α) (h : ∀ x ∈ l, r x = true → q x = true) :
    (l.filter q).filter r = l.filter r := by
  rw [List.filter_filter]
  apply List.filter_congr
  intro x hx
  cases hr : r x with
  | false => rfl
  | true => exact h x hx hr

/-- the postings whose group has a row, summed row by row -/
theorem wsum_filter_classes {K : Type} [DecidableEq K] (w : RPost → Rat) (grp rowKey : RPost → K) (rows : List RPost)
    (hn : (rows.map rowKey).Nodup) (posts : List RPost) :
    wsum w (posts.filter (fun p => decide (grp p ∈ rows.map rowKey))) =
      wsum (fun r => wsum w (posts.filter (fun p => grp p = rowKey r))) rows := by
  induction rows with
  | nil =>
    have : posts.filter (fun p => decide (grp p ∈ ([] : List RPost).map rowKey)) = [] := by
      apply List.filter_eq_nil_iff.mpr; simp
    rw [this]; rfl
  | cons r rows ih =>
    rw [List.map_cons, List.nodup_cons] at hn
    rw [wsum, ← ih hn.2,
      wsum_filter_split w (fun p => decide (grp p = rowKey r)) (posts.filter (fun p => decide (grp p ∈ (r :: rows).map rowKey)))]
    congr 2
    · apply filter_filter_of_imp
      intro p _ h
      rw [of_decide_eq_true h]
      exact decide_eq_true List.mem_cons_self
    · rw [List.filter_filter]
      apply List.filter_congr
      intro p _
      by_cases h : grp p = rowKey r
      · simp [h, hn.1]
      · simp [h]

/-- the grand totals agree once every row is the sum of its group, every group has a row and no two rows
    stand for the same group -/
theorem GroupSums.of_each {K : Type} [DecidableEq K] {vin vout : RPost → Value} {grp rowKey : RPost → K}
    {posts rows : List RPost}
    (each : ∀ r ∈ rows, ∀ c, (vout r).den c = sumDenBy vin (posts.filter (fun p => grp p = rowKey r)) c)
    (covered : ∀ p ∈ posts, ∃ r ∈ rows, rowKey r = grp p) (noExtra : ∀ r ∈ rows, ∃ p ∈ posts, grp p = rowKey r)
    (nodup : (rows.map rowKey).Nodup) (qty : ∀ r ∈ rows, isQty (vout r) = true) :
    GroupSums vin vout grp rowKey posts rows := by
  refine ⟨each, covered, noExtra, nodup, fun c => ?_, qty⟩
  have hall : posts.filter (fun p => decide (grp p ∈ rows.map rowKey)) = posts := by
    apply List.filter_eq_self.mpr
    intro p hp
    obtain ⟨r, hr, he⟩ := covered p hp
    exact decide_eq_true (List.mem_map.mpr ⟨r, hr, he⟩)
  unfold sumDenBy
  rw [← hall, wsum_filter_classes _ grp rowKey rows nodup posts]
  exact wsum_congr (fun r hr => each r hr c)

/-- The rows made of the entries of a keyed accumulation (in any order `m` of the map) are the group sums of
    the postings by their key, when each step adds the posting's contribution to the entry's measure. -/
theorem groupSums_of_accum {V : Type} {ok : V → Prop} {good : RPost → Prop} {den : Comm → V → Rat}
    {vin vout : RPost → Value} {step : Option V → RPost → V} {key : RPost → String}
    (hs : StepOK ok good den (fun c p => (vin p).den c) step) (ps : List RPost) (hg : ∀ p ∈ ps, good p)
    (m : AMap V) (hm : m.Perm (accum key step [] ps)) (mk : String × V → RPost)
    (hacct : ∀ e, (mk e).account = e.1) (hden : ∀ e c, (vout (mk e)).den c = den c e.2)
    (hqty : ∀ e, ok e.2 → isQty (vout (mk e)) = true) :
    GroupSums vin vout key (fun r => r.account) ps (m.map mk) := by
  have hkeys : (m.map mk).map (fun r => r.account) = amapKeys m := by
    rw [List.map_map]; exact List.map_congr_left (fun e _ => hacct e)
  apply GroupSums.of_each
  · intro r hr c
    obtain ⟨e, he, rfl⟩ := List.mem_map.mp hr
    rw [hden, (mem_accum_stepOK hs key ps hg (hm.subset he)).2 c, hacct]
    rfl
  · intro p hp
    have hk := (mem_keys_accum key step [] ps (key p)).mpr (Or.inr ⟨p, hp, rfl⟩)
    obtain ⟨e, he, hek⟩ := List.mem_map.mp hk
    exact ⟨mk e, List.mem_map.mpr ⟨e, hm.symm.subset he, rfl⟩, (hacct e).trans hek⟩
  · intro r hr
    obtain ⟨e, he, rfl⟩ := List.mem_map.mp hr
    rcases (mem_keys_accum key step [] ps e.1).mp (List.mem_map.mpr ⟨e, hm.subset he, rfl⟩) with h0 | ⟨p, hp, hk⟩
    · cases h0
    · exact ⟨p, hp, hk.trans (hacct e).symm⟩
  · rw [hkeys]
    exact (hm.map _).nodup_iff.mpr (keys_accum_nodup key step [] ps List.nodup_nil)
  · intro r hr
    obtain ⟨e, he, rfl⟩ := List.mem_map.mp hr
    exact hqty e (mem_accum_stepOK hs key ps hg (hm.subset he)).1

/-- group sums of the classes `js` of a partition `cls`, reported class by class -/
theorem groupSums_classes {K J : Type} [DecidableEq K] [DecidableEq J] (vin vout : RPost → Value)
    (grp rowKey : RPost → K) (proj : K → J) (cls : RPost → J) (hcls : ∀ p, proj (grp p) = cls p)
    (posts : List RPost) (js : List J) (hn : js.Nodup) (rowsOf : J → List RPost)
    (hg : ∀ j ∈ js, GroupSums vin vout grp rowKey (posts.filter (fun p => cls p = j)) (rowsOf j))
    (hall : ∀ p ∈ posts, cls p ∈ js) :
    GroupSums vin vout grp rowKey posts (js.flatMap rowsOf) := by
  have hproj : ∀ j ∈ js, ∀ r ∈ rowsOf j, proj (rowKey r) = j := by
    intro j hj r hr
    obtain ⟨p, hp, he⟩ := (hg j hj).noExtra r hr
    rw [← he, hcls]
    simpa using (List.mem_filter.mp hp).2
  apply GroupSums.of_each
  · intro r hr c
    obtain ⟨j, hj, hrj⟩ := List.mem_flatMap.mp hr
    rw [(hg j hj).each r hrj c, filter_filter_of_imp]
    intro p _ h
    rw [← hcls, of_decide_eq_true h]
    exact decide_eq_true (hproj j hj r hrj)
  · intro p hp
    have hj := hall p hp
    obtain ⟨r, hr, he⟩ := (hg (cls p) hj).covered p (List.mem_filter.mpr ⟨hp, by simp⟩)
    exact ⟨r, List.mem_flatMap.mpr ⟨cls p, hj, hr⟩, he⟩
  · intro r hr
    obtain ⟨j, hj, hrj⟩ := List.mem_flatMap.mp hr
    obtain ⟨p, hp, he⟩ := (hg j hj).noExtra r hrj
    exact ⟨p, (List.mem_filter.mp hp).1, he⟩
  · rw [List.Nodup, List.pairwise_map, List.flatMap_def, List.pairwise_flatten]
    constructor
    · intro l hl
      obtain ⟨j, hj, rfl⟩ := List.mem_map.mp hl
      have := (hg j hj).nodup
      rwa [List.Nodup, List.pairwise_map] at this
    · rw [List.pairwise_map]
      have hn' : js.Pairwise (· ≠ ·) := hn
      exact hn'.imp_of_mem (fun {j j'} hj hj' hne x hx y hy e => by
        apply hne
        rw [← hproj j hj x hx, ← hproj j' hj' y hy, e])
  · intro r hr
    obtain ⟨j, hj, hrj⟩ := List.mem_flatMap.mp hr
    exact (hg j hj).qty r hrj

/-- refine the group key by a component that is constant on the postings and on the rows -/
theorem GroupSums.lift {K J : Type} [DecidableEq K] [DecidableEq J] {vin vout : RPost → Value} {g g' : RPost → K}
    {posts rows : List RPost} (h : GroupSums vin vout g g' posts rows) (f f' : RPost → J) (j : J)
    (hp : ∀ p ∈ posts, f p = j) (hr : ∀ r ∈ rows, f' r = j) :
    GroupSums vin vout (fun p => (f p, g p)) (fun r => (f' r, g' r)) posts rows := by
  refine ⟨?_, ?_, ?_, ?_, h.total, h.qty⟩
  · intro r hr' c
    rw [h.each r hr' c]
    congr 1
    apply List.filter_congr
    intro p hp'
    simp [hp p hp', hr r hr']
  · intro p hp'
    obtain ⟨r, hr', he⟩ := h.covered p hp'
    exact ⟨r, hr', by simp [hp p hp', hr r hr', he]⟩
  · intro r hr'
    obtain ⟨p, hp', he⟩ := h.noExtra r hr'
    exact ⟨p, hp', by simp [hp p hp', hr r hr', he]⟩
  · have := h.nodup
    rw [List.Nodup, List.pairwise_map] at this ⊢
    exact this.imp (fun hne e => hne (by simpa using (Prod.ext_iff.mp e).2))

/-- Two regrouping stages in a row: when the second stage's key is a function `f`
    of the group a first-stage row stands for, the result is the regrouping of
    the original postings by `f ∘ grp`. -/
theorem GroupSums.comp {K1 K2 : Type} [DecidableEq K1] [DecidableEq K2] {v0 v1 v2 : RPost → Value}
    {k1 rk1 : RPost → K1} {k2 rk2 : RPost → K2} {posts rows1 rows2 : List RPost}
    (G1 : GroupSums v0 v1 k1 rk1 posts rows1) (G2 : GroupSums v1 v2 k2 rk2 rows1 rows2)
    (f : K1 → K2) (hf : ∀ r ∈ rows1, k2 r = f (rk1 r)) :
    GroupSums v0 v2 (fun p => f (k1 p)) rk2 posts rows2 := by
  refine ⟨?_, ?_, ?_, G2.nodup, fun c => (G2.total c).trans (G1.total c), G2.qty⟩
  · intro r2 hr2 c
    rw [G2.each r2 hr2 c]
    -- S: the first-stage rows that go into r2, P: the postings that do
    let S := rows1.filter (fun r1 => k2 r1 = rk2 r2)
    let P := posts.filter (fun p => f (k1 p) = rk2 r2)
    have hSn : (S.map rk1).Nodup := (G1.nodup.sublist ((List.filter_sublist).map rk1))
    have hall : P.filter (fun p => decide (k1 p ∈ S.map rk1)) = P := by
      apply List.filter_eq_self.mpr
      intro p hp
      have hp' := List.mem_filter.mp hp
      obtain ⟨r1, hr1, he⟩ := G1.covered p hp'.1
      refine decide_eq_true (List.mem_map.mpr ⟨r1, List.mem_filter.mpr ⟨hr1, ?_⟩, he⟩)
      rw [hf r1 hr1, he]; simpa using hp'.2
    show sumDenBy v1 S c = sumDenBy v0 P c
    unfold sumDenBy
    rw [← hall, wsum_filter_classes _ k1 rk1 S hSn P]
    apply wsum_congr
    intro r1 hr1S
    have hr1 := List.mem_filter.mp hr1S
    rw [G1.each r1 hr1.1 c]
    show sumDenBy v0 _ c = sumDenBy v0 (P.filter _) c
    rw [filter_filter_of_imp]
    intro p _ hk
    rw [of_decide_eq_true hk, ← hf r1 hr1.1]
    exact hr1.2
  · intro p hp
    obtain ⟨r1, hr1, he1⟩ := G1.covered p hp
    obtain ⟨r2, hr2, he2⟩ := G2.covered r1 hr1
    exact ⟨r2, hr2, by rw [he2, hf r1 hr1, he1]⟩
  · intro r2 hr2
    obtain ⟨r1, hr1, he1⟩ := G2.noExtra r2 hr2
    obtain ⟨p, hp, he⟩ := G1.noExtra r1 hr1
    exact ⟨p, hp, by rw [he, ← hf r1 hr1, he1]⟩

/-- what subtotal_posts adds for a posting (`post.amount`; 0 stands for a null amount) -/
def rawAmt (p : RPost) : Value := (subAmt p).getD (.int 0)

/-- subtotal_posts can read every posting's amount (`subAmt`) and reads a quantity -/
def GoodAmts (ps : List RPost) : Prop := ∀ p ∈ ps, ∃ v, subAmt p = some v ∧ isQty v = true

/-- decidable form of the first half of `GoodAmts` -/
def noCompound (ps : List RPost) : Bool := ps.all (fun p => (subAmt p).isSome)

/-- a journal posting's single amount is read the same way under either shape of the source -/
theorem subAmt_amt {p : RPost} {a : Amount} (h : p.amount = .amt a) : subAmt p = some (.amt a) := by
  unfold subAmt subAmtWith
  cases Gen.Regroup.subtotalReadsCompound <;> simp [h]

theorem subAmt_some {p : RPost} {v : Value} (h : subAmt p = some v) : p.amount = v := by
  unfold subAmt subAmtWith at h
  generalize Gen.Regroup.subtotalReadsCompound = rc at h
  cases rc with
  | true => simpa using h
  | false =>
    simp only [Bool.false_eq_true, if_false] at h
    split at h <;> simp_all

/-- when subtotal_posts reads the compound value, every posting has a readable amount -/
theorem noCompound_of_flag (hf : Gen.Regroup.subtotalReadsCompound = true) (ps : List RPost) :
    noCompound ps = true := by
  apply List.all_eq_true.mpr
  intro p _
  simp [subAmt, subAmtWith, hf]

theorem addAll_accum (ps : List RPost) (st st' : SubState) (h : st.addAll ps = .ok st') :
    st'.values = accum (fun p => p.account) acctStep st.values ps ∧ st'.posts = st.posts ++ ps := by
  induction ps generalizing st with
  | nil => cases h; exact ⟨rfl, (List.append_nil _).symm⟩
  | cons p ps ih =>
    obtain ⟨st1, hadd, h⟩ := Except.bind_eq_ok h
    obtain ⟨h1, h2⟩ := ih st1 h
    unfold SubState.add at hadd
    split at hadd
    · cases hadd
    · split at hadd
      · cases hadd
      · cases hadd
        exact ⟨h1, by rw [h2, List.append_assoc]; rfl⟩

theorem acctStep_ok :
    StepOK (fun av : AcctVal => isQty av.value = true ∧ (av.null = true → av.value = .int 0))
      (fun p => ∃ v, subAmt p = some v ∧ isQty v = true)
      (fun c av => av.value.den c) (fun c p => (rawAmt p).den c) acctStep := by
  -- what `acctStep` adds is `rawAmt p` by definition
  have hraw : ∀ p, (∃ v, subAmt p = some v ∧ isQty v = true) → isQty (rawAmt p) = true ∧ (subAmt p).isNone = false :=
    fun p ⟨v, hv, hq⟩ => by rw [rawAmt, hv]; exact ⟨hq, rfl⟩
  constructor
  · intro p hp
    have h1 : acctStep none p = { value := rawAmt p, virt := p.virt, null := (subAmt p).isNone } := rfl
    rw [h1, (hraw p hp).2]
    exact ⟨⟨(hraw p hp).1, fun h => nomatch h⟩, fun _ => rfl⟩
  · intro av p ⟨hv, hn⟩ hp
    have hq := (hraw p hp).1
    by_cases hnull : av.null = true
    · have h1 : acctStep (some av) p = { av with value := vplus (.bal []) (rawAmt p), null := false } :=
        if_pos hnull
      rw [h1]
      refine ⟨⟨vplus_isQty _ _ rfl hq, fun h => nomatch h⟩, fun c => ?_⟩
      show (vplus (.bal []) (rawAmt p)).den c = av.value.den c + (rawAmt p).den c
      have h0 : (Value.int 0).den c = 0 := Amount.den_of_q_zero (a := Amount.ofInt 0) rfl c
      rw [vplus_den _ _ rfl hq c, hn hnull, h0]
      rfl
    · have h1 : acctStep (some av) p = { av with value := vplus av.value (rawAmt p) } := if_neg hnull
      rw [h1]
      exact ⟨⟨vplus_isQty _ _ (isAcc_of_isQty hv) hq, fun h => absurd h hnull⟩,
             fun c => vplus_den _ _ (isAcc_of_isQty hv) hq c⟩

theorem minDate_mem (ps : List RPost) (h : ps ≠ []) : ∃ p ∈ ps, p.date = minDate ps := by
  induction ps with
  | nil => exact absurd rfl h
  | cons p ps ih =>
    cases ps with
    | nil => exact ⟨p, by simp, rfl⟩
    | cons q qs =>
      obtain ⟨r, hr, he⟩ := ih (List.cons_ne_nil _ _)
      show ∃ x ∈ p :: q :: qs, x.date = min p.date (minDate (q :: qs))
      rw [Int.min_def]
      by_cases hle : p.date ≤ minDate (q :: qs)
      · rw [if_pos hle]; exact ⟨p, List.mem_cons_self, rfl⟩
      · rw [if_neg hle]; exact ⟨r, List.mem_cons_of_mem _ hr, he⟩

/-- the shape of the rows one subtotal_posts object reports -/
structure Generated (title : String) (xid : Nat) (date : Int) (r : RPost) : Prop where
  payee : r.payee = title
  xid : r.xid = xid
  date : r.date = date
  same : r.amount = r.value
  line : r.line = 0

/-- what one subtotal_posts object reports after being fed `ps` -/
theorem subState_report (ps : List RPost) (hq : GoodAmts ps) (st : SubState)
    (h : SubState.empty.addAll ps = .ok st) (title : String) (xid : Nat) (hasReal : String → Bool) :
    GroupSums rawAmt (fun r => r.value) (fun p => p.account) (fun r => r.account) ps (st.report title xid hasReal) ∧
    (∀ r ∈ st.report title xid hasReal, Generated title xid (minDate ps) r) := by
  obtain ⟨hv, hp⟩ := addAll_accum ps _ _ h
  simp only [SubState.empty, List.nil_append] at hv hp
  cases ps with
  | nil =>
    have : st.report title xid hasReal = [] := by simp [SubState.report, hp]
    rw [this]
    exact ⟨groupSums_nil _ _ _ _, by simp⟩
  | cons p0 ps0 =>
    have hrep : st.report title xid hasReal = st.values.map (fun kv =>
        { line := 0, xid := xid, date := minDate st.posts, payee := title, account := kv.1,
          virt := !hasReal kv.1, amount := kv.2.value, value := kv.2.value, vdate := maxDate st.posts }) := by
      simp [SubState.report, hp]
    rw [hrep]
    constructor
    · exact groupSums_of_accum acctStep_ok (p0 :: ps0) hq st.values (hv ▸ List.Perm.refl _) _
        (fun _ => rfl) (fun _ _ => rfl) (fun _ h => h.1)
    · intro r hr
      obtain ⟨kv, _, rfl⟩ := List.mem_map.mp hr
      exact ⟨rfl, rfl, by rw [hp], rfl, rfl⟩

theorem subtotal_groups (posts rows : List RPost) (hq : GoodAmts posts) (h : subtotal posts = .ok rows) :
    GroupSums rawAmt (fun r => r.value) (fun p => p.account) (fun r => r.account) posts rows ∧
    ∀ r ∈ rows, r.xid = 0 ∧ r.amount = r.value := by
  obtain ⟨st, hst, h⟩ := Except.bind_eq_ok h
  cases h
  have := subState_report posts hq st hst ("- " ++ fmtPrinted (maxDate st.posts)) 0 (hasRealIn posts)
  exact ⟨this.1, fun r hr => ⟨(this.2 r hr).xid, (this.2 r hr).same⟩⟩

def dowRowsOf (posts : List RPost) (i : Int) : List RPost :=
  match SubState.empty.addAll (dowBucket i posts) with
  | .ok st => st.report (dayName i ++ "s") (i.toNat + 1) (hasRealIn (posts.filter (fun p => Cal.weekday p.date ≤ i)))
  | .error _ => []

theorem dowDays_eq (posts : List RPost) (is : List Int) (rows : List RPost)
    (h : dowDays posts is = .ok rows) :
    rows = is.flatMap (dowRowsOf posts) ∧
    ∀ i ∈ is, ∃ st, SubState.empty.addAll (dowBucket i posts) = .ok st := by
  induction is generalizing rows with
  | nil => simp only [dowDays, Except.ok.injEq] at h; subst h; simp
  | cons i is ih =>
    obtain ⟨st, hst, h⟩ := Except.bind_eq_ok h
    obtain ⟨rest, hrest, h⟩ := Except.bind_eq_ok h
    obtain ⟨h1, h2⟩ := ih rest hrest
    cases h
    constructor
    · simp only [List.flatMap_cons, dowRowsOf, hst, h1]
    · intro j hj
      rcases List.mem_cons.mp hj with rfl | hj
      · exact ⟨st, hst⟩
      · exact h2 j hj

theorem weekday_mem (n : Int) : Cal.weekday n ∈ [(0 : Int), 1, 2, 3, 4, 5, 6] := by
  have h := Cal.weekday_range n
  have all : ∀ k : Fin 7, ((k : Nat) : Int) ∈ [(0 : Int), 1, 2, 3, 4, 5, 6] := by decide +kernel
  rw [← Int.toNat_of_nonneg h.1]
  exact all ⟨_, (Int.toNat_lt h.1).mpr h.2⟩

theorem goodAmts_filter {ps : List RPost} (h : GoodAmts ps) (q : RPost → Bool) : GoodAmts (ps.filter q) :=
  fun p hp => h p (List.mem_filter.mp hp).1

theorem dowRowsOf_groups (posts : List RPost) (hq : GoodAmts posts) (j : Int)
    (hst : ∃ st, SubState.empty.addAll (dowBucket j posts) = .ok st) :
    GroupSums rawAmt (fun r => r.value) (fun p => (Cal.weekday p.date, p.account)) (fun r => (Cal.weekday r.date, r.account))
      (posts.filter (fun p => Cal.weekday p.date = j)) (dowRowsOf posts j) ∧
    ∀ r ∈ dowRowsOf posts j, Generated (dayName j ++ "s") (j.toNat + 1) (minDate (dowBucket j posts)) r := by
  obtain ⟨st, hst⟩ := hst
  have hb : dowBucket j posts = posts.filter (fun p => decide (Cal.weekday p.date = j)) := rfl
  obtain ⟨hg, hd⟩ := subState_report (dowBucket j posts) (goodAmts_filter hq _) st hst (dayName j ++ "s") (j.toNat + 1)
    (hasRealIn (posts.filter (fun p => Cal.weekday p.date ≤ j)))
  simp only [dowRowsOf, hst]
  refine ⟨?_, hd⟩
  rw [← hb]
  apply hg.lift (fun p => Cal.weekday p.date) (fun r => Cal.weekday r.date) j
  · intro p hp; simpa [dowBucket] using (List.mem_filter.mp hp).2
  · intro r hr
    obtain ⟨p, hp, _⟩ := hg.noExtra r hr
    have hne : dowBucket j posts ≠ [] := List.ne_nil_of_mem hp
    obtain ⟨q, hq', hqd⟩ := minDate_mem _ hne
    rw [(hd r hr).date, ← hqd]
    simpa [dowBucket] using (List.mem_filter.mp hq').2

theorem dow_groups (posts rows : List RPost) (hq : GoodAmts posts) (h : dow posts = .ok rows) :
    GroupSums rawAmt (fun r => r.value) (fun p => (Cal.weekday p.date, p.account)) (fun r => (Cal.weekday r.date, r.account))
      posts rows := by
  obtain ⟨h1, h2⟩ := dowDays_eq posts _ rows h
  rw [h1]
  apply groupSums_classes _ _ _ _ Prod.fst (fun p => Cal.weekday p.date) (fun _ => rfl) posts _ (by decide +kernel)
  · intro j hj; exact (dowRowsOf_groups posts hq j (h2 j hj)).1
  · intro p _; exact weekday_mem p.date

theorem byPayeeAll_spec (ps : List RPost) (m m' : AMap SubState) (hn : (amapKeys m).Nodup)
    (h : byPayeeAll m ps = .ok m') :
    (amapKeys m').Nodup ∧
    (∀ k, k ∈ amapKeys m' ↔ k ∈ amapKeys m ∨ ∃ p ∈ ps, p.payee = k) ∧
    (∀ k, ((m.get? k).getD SubState.empty).addAll (ps.filter (fun p => p.payee = k)) =
            .ok ((m'.get? k).getD SubState.empty)) := by
  -- read key by key: the entry of payee `k` is the subtotal_posts object fed with `k`'s postings, in order
  induction ps generalizing m with
  | nil =>
    cases h
    exact ⟨hn, by simp, fun k => rfl⟩
  | cons p ps ih =>
    obtain ⟨m1, hm1, h⟩ := Except.bind_eq_ok h
    simp only [byPayeeAdd] at hm1
    split at hm1
    · rename_i st1 hst1
      simp only [Except.ok.injEq] at hm1
      have hst1' : ((m.get? p.payee).getD SubState.empty).add p = .ok st1 := by
        cases hg : m.get? p.payee <;> rw [hg] at hst1 <;> exact hst1
      have hn1 : (amapKeys m1).Nodup := by rw [← hm1]; exact AMap.keys_upd_nodup m _ _ hn
      obtain ⟨i1, i2, i3⟩ := ih m1 hn1 h
      refine ⟨i1, ?_, ?_⟩
      · intro k
        rw [i2 k, ← hm1, AMap.mem_keys_upd, or_exists_mem_cons (fun p : RPost => p.payee)]
      · intro k
        rw [← i3 k]
        by_cases hk : p.payee = k
        · subst hk
          simp only [List.filter_cons, decide_true, if_true]
          rw [← hm1, AMap.get?_upd_same]
          rw [SubState.addAll, hst1']; rfl
        · have hk' : k ≠ p.payee := fun e => hk e.symm
          simp only [List.filter_cons, hk, decide_false, Bool.false_eq_true, if_false]
          rw [← hm1, AMap.get?_upd_other m p.payee k _ hk']
    · cases hm1

/-- rows `--by-payee` reports for payee `k` out of the map `m` -/
def payeeRowsOf (posts : List RPost) (m : AMap SubState) (k : String) : List RPost :=
  ((m.get? k).getD SubState.empty).report k ((amapKeys m).idxOf k + 1) (hasRealIn posts)

theorem byPayee_eq (posts rows : List RPost) (h : byPayee posts = .ok rows) :
    ∃ m, byPayeeAll [] posts = .ok m ∧ rows = (amapKeys m).flatMap (payeeRowsOf posts m) := by
  obtain ⟨m, hm, h⟩ := Except.bind_eq_ok h
  exact ⟨m, hm, (Except.ok.inj h).symm⟩

theorem payeeRowsOf_groups (posts : List RPost) (hq : GoodAmts posts) (m : AMap SubState)
    (hm : byPayeeAll [] posts = .ok m) (k : String) :
    GroupSums rawAmt (fun r => r.value) (fun p => (p.payee, p.account)) (fun r => (r.payee, r.account))
      (posts.filter (fun p => p.payee = k)) (payeeRowsOf posts m k) ∧
    ∀ r ∈ payeeRowsOf posts m k,
      Generated k ((amapKeys m).idxOf k + 1) (minDate (posts.filter (fun p => p.payee = k))) r := by
  obtain ⟨_, _, hs⟩ := byPayeeAll_spec posts [] m (by simp [amapKeys]) hm
  have hst := hs k
  simp only [AMap.get?, Option.getD_none] at hst
  obtain ⟨hg, hd⟩ := subState_report _ (goodAmts_filter hq _) _ hst k ((amapKeys m).idxOf k + 1) (hasRealIn posts)
  refine ⟨?_, hd⟩
  apply hg.lift (fun p => p.payee) (fun r => r.payee) k
  · intro p hp; simpa using (List.mem_filter.mp hp).2
  · intro r hr; exact (hd r hr).payee

theorem byPayee_groups (posts rows : List RPost) (hq : GoodAmts posts) (h : byPayee posts = .ok rows) :
    GroupSums rawAmt (fun r => r.value) (fun p => (p.payee, p.account)) (fun r => (r.payee, r.account)) posts rows := by
  obtain ⟨m, hm, rfl⟩ := byPayee_eq posts rows h
  obtain ⟨hn, hk, _⟩ := byPayeeAll_spec posts [] m (by simp [amapKeys]) hm
  apply groupSums_classes _ _ _ _ Prod.fst (fun p => p.payee) (fun _ => rfl) posts _ hn
  · intro k _; exact (payeeRowsOf_groups posts hq m hm k).1
  · intro p hp
    exact (hk p.payee).mpr (Or.inr ⟨p, hp, rfl⟩)

theorem collapseGroup_nil (depth : Nat) (pass : Bool) (σ : AMap Value → AMap Value) :
    collapseGroup depth pass σ [] = [] := rfl

theorem collapse_fold (depth : Nat) (pass : Bool) (σ : AMap Value → AMap Value) (posts : List RPost) :
    ∀ st : CollapseState, (runs pxid st.group).length ≤ 1 →
      (posts.foldl (collapseStep depth pass σ) st).out ++
          collapseGroup depth pass σ (posts.foldl (collapseStep depth pass σ) st).group =
        st.out ++ ((runs pxid (st.group ++ posts)).map (collapseGroup depth pass σ)).flatten := by
  -- `st.group` is at most one run; what is out plus the report of `group` is the report of every run met so far
  have one : ∀ l : List RPost, (runs pxid l).length ≤ 1 →
      ((runs pxid l).map (collapseGroup depth pass σ)).flatten = collapseGroup depth pass σ l := by
    intro l hl
    have hf := runs_flatten pxid l
    rcases hr : runs pxid l with _ | ⟨g, _ | ⟨g', gs⟩⟩
    · rw [hr] at hf; rw [← hf]; rfl
    · rw [hr, List.flatten_singleton] at hf; rw [hf]; exact List.append_nil _
    · rw [hr] at hl; exact absurd (Nat.le_of_succ_le_succ hl) (Nat.not_succ_le_zero _)
  induction posts with
  | nil => intro st hst; rw [List.foldl_nil, List.append_nil, one _ hst]
  | cons p ps ih =>
    intro st hst
    rw [List.foldl_cons]
    cases hq : st.group.getLast? with
    | none =>
      have hg : st.group = [] := List.getLast?_eq_none_iff.mp hq
      have hstep : collapseStep depth pass σ st p = { st with group := [p] } := by
        unfold collapseStep; rw [hq]
      rw [hstep, ih _ (by exact Nat.le_refl 1), hg]
      rfl
    | some q =>
      by_cases hx : q.xid = p.xid
      · have hstep : collapseStep depth pass σ st p = { st with group := st.group ++ [p] } := by
          unfold collapseStep; rw [hq]; exact if_neg (fun h => h hx)
        have hsnoc := (runs_length_snoc pxid st.group p).trans (if_pos (by rw [hq]; exact congrArg some hx))
        rw [hstep, ih _ (hsnoc ▸ hst), List.append_assoc]
        rfl
      · have hstep : collapseStep depth pass σ st p =
            { group := [p], out := st.out ++ collapseGroup depth pass σ st.group } := by
          unfold collapseStep; rw [hq]; exact if_pos hx
        have hb : runs pxid (st.group ++ p :: ps) = runs pxid st.group ++ runs pxid (p :: ps) :=
          runs_append_boundary pxid st.group (p :: ps) (fun x hx' y hy' => by
            cases hq.symm.trans hx'
            cases hy'
            exact hx)
        rw [hstep, ih _ (by exact Nat.le_refl 1), hb, List.map_append, List.flatten_append, one _ hst,
          List.append_assoc]
        rfl

theorem collapse_eq_runs (depth : Nat) (pass : Bool) (σ : AMap Value → AMap Value) (posts : List RPost) :
    collapse depth pass σ posts = ((runs pxid posts).map (collapseGroup depth pass σ)).flatten := by
  have := collapse_fold depth pass σ posts { group := [], out := [] } (by simp [runs])
  simpa [collapse] using this

theorem castInt_den (v : Value) (c : Comm) : (castInt v).den c = v.den c := by
  cases v <;> simp [castInt, Value.den, Amount.den, Amount.ofInt]

theorem castInt_isQty (v : Value) (h : isQty v = true) : isQty (castInt v) = true := by
  cases v <;> simp_all [castInt, isQty]

theorem totalsStep_ok :
    StepOK (fun v : Value => isQty v = true) (fun p => isQty p.value = true)
      (fun c v => v.den c) (fun c p => p.value.den c) totalsStep := by
  constructor
  · intro p hp
    have h2 : totalsStep none p = p.value := by simp [totalsStep, vplus, Value.add]
    rw [h2]
    exact ⟨hp, fun _ => rfl⟩
  · intro v p hv hp
    simp only [totalsStep, Option.getD_some]
    exact ⟨vplus_isQty _ _ (isAcc_of_isQty hv) hp, fun c => vplus_den _ _ (isAcc_of_isQty hv) hp c⟩

/-- unless `--collapse` passes a single posting through, a transaction becomes one row per entry of its totals map -/
theorem collapseGroup_rows {depth : Nat} {pass : Bool} {σ : AMap Value → AMap Value} {g : List RPost} {lastp : RPost}
    (hl : g.getLast? = some lastp) (hs : ¬ (depth = 0 ∧ pass = true ∧ g.length = 1)) :
    collapseGroup depth pass σ g = (σ (totalsOf depth g)).map (fun kv =>
      { line := 0, xid := lastp.xid, date := minDate g, payee := lastp.payee, account := kv.1, virt := false,
        amount := castInt kv.2, value := castInt kv.2, vdate := maxDate g }) := by
  simp only [collapseGroup, hl]
  rw [if_neg]
  intro h; exact hs ⟨h.1, by simpa using h.2.1, h.2.2⟩

theorem collapseGroup_row {depth : Nat} {pass : Bool} {σ : AMap Value → AMap Value} {g : List RPost} {r : RPost}
    (hs : ¬ (depth = 0 ∧ pass = true ∧ g.length = 1)) (hr : r ∈ collapseGroup depth pass σ g) :
    ∃ lastp, g.getLast? = some lastp ∧ r.xid = lastp.xid ∧ r.payee = lastp.payee ∧ r.date = minDate g := by
  cases hl : g.getLast? with
  | none => rw [collapseGroup, hl] at hr; cases hr
  | some lastp =>
    rw [collapseGroup_rows hl hs] at hr
    obtain ⟨kv, _, rfl⟩ := List.mem_map.mp hr
    exact ⟨lastp, rfl, rfl, rfl, rfl⟩

/-- what collapse_posts reports for one transaction -/
theorem collapseGroup_groups (depth : Nat) (pass : Bool) (σ : AMap Value → AMap Value)
    (hσ : ∀ m, (σ m).Perm m) (g : List RPost) (hq : AllQty g) (hg : g ≠ []) :
    (depth = 0 ∧ pass = true ∧ g.length = 1 ∧ collapseGroup depth pass σ g = g) ∨
    GroupSums (fun p => p.value) (fun r => r.value) (totalsKey depth) (fun r => r.account) g
      (collapseGroup depth pass σ g) := by
  by_cases hs : depth = 0 ∧ pass = true ∧ g.length = 1
  · left
    obtain ⟨a, rfl⟩ := List.length_eq_one_iff.mp hs.2.2
    obtain ⟨rfl, rfl, _⟩ := hs
    exact ⟨rfl, rfl, rfl, rfl⟩
  · right
    rw [collapseGroup_rows (List.getLast?_eq_some_getLast hg) hs]
    exact groupSums_of_accum totalsStep_ok g hq _ (hσ (totalsOf depth g)) _ (fun _ => rfl)
      (fun e c => castInt_den e.2 c) (fun e h => castInt_isQty e.2 h)

theorem collapse_total (depth : Nat) (pass : Bool) (σ : AMap Value → AMap Value)
    (hσ : ∀ m, (σ m).Perm m) (posts : List RPost) (hq : AllQty posts) (c : Comm) :
    sumDen (collapse depth pass σ posts) c = sumDen posts c ∧ AllQty (collapse depth pass σ posts) := by
  rw [collapse_eq_runs]
  have hsub : ∀ g ∈ runs pxid posts, AllQty g ∧ g ≠ [] :=
    fun g hg => ⟨fun p hp => hq p (runs_mem_subset posts g hg p hp), runs_mem_nonempty posts g hg⟩
  have heach : ∀ g ∈ runs pxid posts, sumDen (collapseGroup depth pass σ g) c = sumDen g c ∧
      AllQty (collapseGroup depth pass σ g) := by
    intro g hg
    rcases collapseGroup_groups depth pass σ hσ g (hsub g hg).1 (hsub g hg).2 with ⟨_, _, _, h1⟩ | h1
    · rw [h1]; exact ⟨rfl, (hsub g hg).1⟩
    · exact ⟨h1.total c, h1.qty⟩
  constructor
  · conv => rhs; rw [← runs_flatten pxid posts]
    simp only [sumDen, sumDenBy, wsum_flatten, List.map_map]
    congr 1
    apply List.map_congr_left
    intro g hg
    exact (heach g hg).1
  · intro r hr
    obtain ⟨l, hl, hrl⟩ := List.mem_flatten.mp hr
    obtain ⟨g, hg, rfl⟩ := List.mem_map.mp hl
    exact (heach g hg).2 r hrl


/-- the rows collapse_posts reports for one transaction under `--depth N` come in strictly ascending account order -/
theorem collapseGroup_rows_sorted (depth : Nat) (g : List RPost) :
    ((collapseGroup depth false id g).map (fun r => r.account)).Pairwise (· < ·) := by
  unfold collapseGroup
  cases g.getLast? with
  | none => simp
  | some lastp =>
    have hne : ¬ (depth = 0 ∧ false = true ∧ g.length = 1) := by simp
    simp only [hne, if_false, id, List.map_map]
    have : totalsOf depth g = accum (totalsKey depth) totalsStep [] g := rfl
    have hs := accum_sorted (totalsKey depth) totalsStep g ([] : AMap Value) (by simp [amapKeys])
    rw [← this] at hs
    exact hs

/-- key of collapse's totals map as a function of the account name -/
def totalsKeyOf (depth : Nat) (a : String) : String := if depth = 0 then "<Total>" else depthAccount depth a

theorem totalsKey_eq_totalsKeyOf (depth : Nat) (p : RPost) : totalsKey depth p = totalsKeyOf depth p.account := rfl

/-- rows that are the output of a subtotal-family stage and carry no compound value can be fed to the next one -/
theorem goodAmts_of_generated {rows : List RPost} (hsame : ∀ r ∈ rows, r.amount = r.value)
    (hq : ∀ r ∈ rows, isQty r.value = true) (hnc : noCompound rows = true) :
    GoodAmts rows ∧ ∀ r ∈ rows, rawAmt r = r.value := by
  have h : ∀ r ∈ rows, ∃ v, subAmt r = some v := by
    intro r hr
    have := List.all_eq_true.mp hnc r hr
    exact Option.isSome_iff_exists.mp this
  constructor
  · intro r hr
    obtain ⟨v, hv⟩ := h r hr
    exact ⟨v, hv, by rw [← subAmt_some hv, hsame r hr]; exact hq r hr⟩
  · intro r hr
    obtain ⟨v, hv⟩ := h r hr
    rw [rawAmt, hv, Option.getD_some, ← hsame r hr, subAmt_some hv]

theorem byPayee_same (posts rows : List RPost) (hq : GoodAmts posts) (h : byPayee posts = .ok rows) :
    ∀ r ∈ rows, r.amount = r.value := by
  obtain ⟨m, hm, rfl⟩ := byPayee_eq posts rows h
  intro r hr
  obtain ⟨k, _, hrk⟩ := List.mem_flatMap.mp hr
  exact ((payeeRowsOf_groups posts hq m hm k).2 r hrk).same

theorem dow_same (posts rows : List RPost) (hq : GoodAmts posts) (h : dow posts = .ok rows) :
    ∀ r ∈ rows, r.amount = r.value := by
  obtain ⟨h1, h2⟩ := dowDays_eq posts _ rows h
  subst h1
  intro r hr
  obtain ⟨j, hj, hrj⟩ := List.mem_flatMap.mp hr
  exact ((dowRowsOf_groups posts hq j (h2 j hj)).2 r hrj).same

/-- `--by-payee` (or `--dow`) followed by `--subtotal`: when no row handed over is a
    compound one, the result is the plain `--subtotal` grouping of the original postings -/
theorem stage_then_subtotal {K : Type} [DecidableEq K] {k1 rk1 : RPost → K} (acc : K → String)
    (posts r1 r2 : List RPost)
    (G1 : GroupSums rawAmt (fun r => r.value) k1 rk1 posts r1)
    (hacc : ∀ r ∈ r1, r.account = acc (rk1 r))
    (hsame : ∀ r ∈ r1, r.amount = r.value) (hnc : noCompound r1 = true) (h2 : subtotal r1 = .ok r2) :
    GroupSums rawAmt (fun r => r.value) (fun p => acc (k1 p)) (fun r => r.account) posts r2 := by
  obtain ⟨hg1, hraw⟩ := goodAmts_of_generated hsame G1.qty hnc
  have G2 := ((subtotal_groups r1 r2 hg1 h2).1).congr_vin hraw
  exact G1.comp G2 acc hacc

theorem flatten_map_filter_nonempty (cg : List RPost → List RPost) (hcg : cg [] = []) (l : List (List RPost)) :
    ((l.filter (fun g => !g.isEmpty)).map cg).flatten = (l.map cg).flatten := by
  induction l with
  | nil => rfl
  | cons g l ih =>
    cases g with
    | nil => simp [hcg, ih]
    | cons a g => simp [ih]

/-- blocks of rows, one transaction per class `j` (as --by-payee and --dow emit them), through
    collapse_posts with `--depth N`, N ≥ 1: every class is regrouped by the ancestor account at depth N -/
theorem blocks_depth_groups {J : Type} [DecidableEq J] (n : Nat) (hn : n ≠ 0) (posts : List RPost)
    (js : List J) (hnd : js.Nodup) (rowsOf : J → List RPost) (idf : J → Nat) (cls rcls : RPost → J)
    (hG : ∀ j ∈ js, GroupSums rawAmt (fun r => r.value) (fun p => (cls p, p.account)) (fun r => (rcls r, r.account))
            (posts.filter (fun p => cls p = j)) (rowsOf j))
    (hx : ∀ j ∈ js, ∀ r ∈ rowsOf j, r.xid = idf j)
    (hinj : js.Pairwise (fun a b => idf a ≠ idf b))
    (hcls : ∀ j g, (∀ r ∈ g, rcls r = j) → ∀ r ∈ collapseGroup n false id g, rcls r = j)
    (hall : ∀ p ∈ posts, cls p ∈ js) :
    GroupSums rawAmt (fun r => r.value) (fun p => (cls p, depthAccount n p.account)) (fun r => (rcls r, r.account))
      posts (collapse n false id (js.flatMap rowsOf)) := by
  have hcol : collapse n false id (js.flatMap rowsOf) = js.flatMap (fun j => collapseGroup n false id (rowsOf j)) := by
    rw [collapse_eq_runs, runs_flatMap_blocks js rowsOf idf hx hinj,
      flatten_map_filter_nonempty _ (collapseGroup_nil n false id), List.map_map, List.flatMap_def]
    rfl
  rw [hcol]
  apply groupSums_classes _ _ _ _ Prod.fst cls (fun _ => rfl) posts js hnd
  · intro j hj
    have G1 := hG j hj
    cases hb : rowsOf j with
    | nil =>
      rw [hb] at G1
      rw [G1.posts_eq_nil, collapseGroup_nil]
      exact groupSums_nil _ _ _ _
    | cons a g =>
      have hq1 : AllQty (a :: g) := by rw [← hb]; exact G1.qty
      rcases collapseGroup_groups n false id (fun _ => List.Perm.refl _) (a :: g) hq1 (List.cons_ne_nil _ _) with
        ⟨_, hp, _⟩ | G2
      · cases hp
      · have hblock : ∀ r ∈ a :: g, rcls r = j := by
          intro r hr
          rw [← hb] at hr
          obtain ⟨p, hp, he⟩ := G1.noExtra r hr
          have : cls p = rcls r := (Prod.ext_iff.mp he).1
          rw [← this]; simpa using (List.mem_filter.mp hp).2
        have G2' := G2.lift rcls rcls j hblock (hcls j _ hblock)
        rw [hb] at G1
        have G := G1.comp G2' (fun pa => (pa.1, totalsKeyOf n pa.2))
          (fun r _ => congrArg (Prod.mk (rcls r)) (totalsKey_eq_totalsKeyOf n r))
        have hkey : (fun p : RPost => (fun pa : J × String => (pa.1, totalsKeyOf n pa.2)) (cls p, p.account)) =
            (fun p => (cls p, depthAccount n p.account)) := by
          funext p; simp [totalsKeyOf, hn]
        rw [hkey] at G
        exact G
  · exact hall

/-- Whatever subset of --dow | --by-payee, --subtotal, --collapse / --depth N is
    given, the per-commodity sum of the rows equals that of the postings, provided
    subtotal_posts is handed amounts it reads correctly: `hfirst` – the first
    subtotal-family stage sees single amounts whose valuation is the amount
    itself; `hmid` – no compound row goes from --dow or --by-payee to --subtotal. -/
theorem regroup_sumDen (o : Opts) (posts rows : List RPost) (h : regroup o posts = .ok rows)
    (hq : AllQty posts)
    (hfirst : (o.pre ≠ .none ∨ o.subtotal = true) → GoodAmts posts ∧ ∀ p ∈ posts, rawAmt p = p.value)
    (hmid : o.pre ≠ .none → o.subtotal = true → ∀ s1, preStage o posts = .ok s1 → noCompound s1 = true)
    (c : Comm) : sumDen rows c = sumDen posts c ∧ AllQty rows := by
  unfold regroup at h
  cases h1 : preStage o posts with
  | error e => simp [h1] at h
  | ok s1 =>
    simp only [h1] at h
    cases h2 : subStage o s1 with
    | error e => simp [h2] at h
    | ok s2 =>
      simp only [h2, Except.ok.injEq] at h
      subst h
      have st1 : sumDen s1 c = sumDen posts c ∧ AllQty s1 ∧
          (o.pre ≠ .none → ∀ r ∈ s1, r.amount = r.value) := by
        unfold preStage at h1
        cases hp : o.pre with
        | none => simp only [hp, Except.ok.injEq] at h1; subst h1; exact ⟨rfl, hq, fun h => absurd rfl h⟩
        | dow =>
          simp only [hp] at h1
          obtain ⟨hg, hraw⟩ := hfirst (Or.inl (by simp [hp]))
          have G := dow_groups posts s1 hg h1
          exact ⟨(G.total c).trans (sumDenBy_congr hraw c), G.qty, fun _ => dow_same posts s1 hg h1⟩
        | byPayee =>
          simp only [hp] at h1
          obtain ⟨hg, hraw⟩ := hfirst (Or.inl (by simp [hp]))
          have G := byPayee_groups posts s1 hg h1
          exact ⟨(G.total c).trans (sumDenBy_congr hraw c), G.qty, fun _ => byPayee_same posts s1 hg h1⟩
      have st2 : sumDen s2 c = sumDen s1 c ∧ AllQty s2 := by
        unfold subStage at h2
        by_cases hs : o.subtotal = true
        · simp only [hs, if_true] at h2
          have hgood : GoodAmts s1 ∧ ∀ r ∈ s1, rawAmt r = r.value := by
            by_cases hp : o.pre = .none
            · have : s1 = posts := by
                unfold preStage at h1; simp only [hp, Except.ok.injEq] at h1; exact h1.symm
              rw [this]; exact hfirst (Or.inr hs)
            · exact goodAmts_of_generated (st1.2.2 hp) st1.2.1 (hmid hp hs s1 h1)
          have G := (subtotal_groups s1 s2 hgood.1 h2).1
          exact ⟨(G.total c).trans (sumDenBy_congr hgood.2 c), G.qty⟩
        · simp only [hs, Bool.false_eq_true, if_false, Except.ok.injEq] at h2
          subst h2; exact ⟨rfl, st1.2.1⟩
      unfold colStage
      split
      · have := collapse_total (o.depth.getD 0) (o.collapse && o.depth.isNone) id (fun _ => List.Perm.refl _) s2 st2.2 c
        exact ⟨this.1.trans (st2.1.trans st1.1), this.2⟩
      · exact ⟨st2.1.trans st1.1, st2.2⟩

/-- three transactions, two commodities, ties on date and payee -/
def sample : List RPost :=
  let mk (line xid : Nat) (d : Int) (payee acct : String) (q : Rat) (comm : String) : RPost :=
    { line := line, xid := xid, date := d, payee := payee, account := acct, virt := false,
      amount := .amt { q := q, prec := 2, keep := false, comm := comm },
      value := .amt { q := q, prec := 2, keep := false, comm := comm }, vdate := d }
  [mk 2 1 18263 "b" "Expenses:Food" 10 "$", mk 3 1 18263 "b" "Assets:Cash" (-10) "$",
   mk 6 5 18262 "a" "Expenses:Food" 5 "EUR", mk 7 5 18262 "a" "Expenses:Rent" 7 "$",
   mk 8 5 18262 "a" "Assets:Cash" (-5) "EUR", mk 9 5 18262 "a" "Assets:Cash" (-7) "$",
   mk 12 11 18263 "a" "Expenses:Food" 10 "$", mk 13 11 18263 "a" "Assets:Bank:Checking" (-10) "$"]

theorem sample_allQty : AllQty sample := by
  intro p hp
  simp only [sample, List.mem_cons, List.not_mem_nil, or_false] at hp
  rcases hp with rfl | rfl | rfl | rfl | rfl | rfl | rfl | rfl <;> rfl

theorem sample_goodAmts : GoodAmts sample := by
  intro p hp
  simp only [sample, List.mem_cons, List.not_mem_nil, or_false] at hp
  rcases hp with rfl | rfl | rfl | rfl | rfl | rfl | rfl | rfl <;> exact ⟨_, rfl, rfl⟩

end Regroup
end Ledger
