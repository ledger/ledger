/-
Lemmas for C15.param_scope_partial: renaming the parameter of a lambda whose
compiled body is an operator tree does not change a call's value, as long as the body
does not already look up the new name and no definition it refers to mentions the old or the
new name.
-/
import LedgerModel.Lemmas.ExprScope

namespace Ledger

/-- a compiled lambda body that is an operator tree over literals and identifiers -/
def Expr.isOpBody : Expr → Bool
  | .val _ => true
  | .ident _ _ => true
  | .un _ e => e.isOpBody
  | .bin _ l r => l.isOpBody && r.isOpBody
  | .query c a b => c.isOpBody && a.isOpBody && b.isOpBody
  | _ => false

/-- rename the parameter `p` to `q` in a body: the identifiers that are looked up
    at run time (unresolved or PLUG) and are named `p` -/
def renameParam (p q : String) : Expr → Expr
  | .ident n d => if (d.isNil || d.isPlug) && n = p then .ident q d else .ident n d
  | .un op e => .un op (renameParam p q e)
  | .bin op l r => .bin op (renameParam p q l) (renameParam p q r)
  | .query c a b => .query (renameParam p q c) (renameParam p q a) (renameParam p q b)
  | e => e

/-- is some identifier that the body looks up at run time called `q`? -/
def lookedUp (q : String) : Expr → Bool
  | .ident n d => (d.isNil || d.isPlug) && n = q
  | .un _ e => lookedUp q e
  | .bin _ l r => lookedUp q l || lookedUp q r
  | .query c a b => lookedUp q c || lookedUp q a || lookedUp q b
  | _ => false

/-- the definitions compiled into the body do not mention the names `B` unresolved -/
def defsOff (B : List String) : Expr → Bool
  | .ident _ d => (d.isNil || d.isPlug) || noFree B d
  | .un _ e => defsOff B e
  | .bin _ l r => defsOff B l && defsOff B r
  | .query c a b => defsOff B c && defsOff B a && defsOff B b
  | _ => true

theorem frame_single_lookup (p : String) (d : Expr) (n : String) :
    List.lookup n [(p, d)] = if n = p then some d else none := by
  simp only [List.lookup]
  by_cases h : n = p
  · subst h; simp
  · have : (n == p) = false := by simpa using h
    simp [this, h]

theorem scopeNoFree_param (p q x : String) (v : Value) (σ : Scope) (hσ : ScopeNoFree [p, q] σ) :
    ScopeNoFree [p, q] ([(x, .val v)] :: σ) := by
  refine hσ.cons (fun n d hd => ?_)
  rw [frame_single_lookup] at hd
  split at hd
  · cases hd; rfl
  · cases hd

theorem agree_param (p q : String) (v : Value) (σ : Scope) (hσ : ScopeNoFree [p, q] σ) :
    AgreeOff [p, q] ([(p, .val v)] :: σ) ([(q, .val v)] :: σ) := by
  refine ⟨fun n hn => ?_, scopeNoFree_param p q p v σ hσ, scopeNoFree_param p q q v σ hσ⟩
  have hnp : n ≠ p ∧ n ≠ q := by
    simp only [List.contains_cons, List.contains_nil, Bool.or_false, Bool.or_eq_false_iff, beq_eq_false_iff_ne] at hn
    exact ⟨hn.1, hn.2⟩
  rw [Scope.lookup_cons, Scope.lookup_cons, frame_single_lookup, frame_single_lookup]
  simp [hnp.1, hnp.2]

/-- Renaming the parameter of a lambda whose (compiled) body is an operator tree
    does not change the value of a call, PROVIDED the body does not already look up the
    new name and no definition the body refers to (and none in the enclosing scope)
    mentions the old or the new name unresolved. -/
theorem param_rename_opbody (env : PrecEnv) (p q : String) (v : Value) (σ : Scope)
    (hσ : ScopeNoFree [p, q] σ) (g : Nat) :
    ∀ body : Expr, body.isOpBody = true → lookedUp q body = false → defsOff [p, q] body = true →
      calcStep env (calcF env g) ([(p, .val v)] :: σ) body =
        calcStep env (calcF env g) ([(q, .val v)] :: σ) (renameParam p q body) := by
  have hag := agree_param p q v σ hσ
  intro body
  induction body with
  | val w => intro _ _ _; rfl
  | ident n d _ =>
    intro _ hq hd
    simp only [lookedUp, Bool.and_eq_false_iff, decide_eq_false_iff_not] at hq
    simp only [defsOff] at hd
    by_cases hdn : (d.isNil || d.isPlug) = true
    · have hid := identDef_unres hdn
      have hnq : n ≠ q := by
        rcases hq with h | h
        · rw [hdn] at h; cases h
        · exact h
      by_cases hnp : n = p
      · subst hnp
        simp only [renameParam, hdn, Bool.true_and, decide_true, if_true, calcStep_ident, hid]
        rw [Scope.lookup_cons, Scope.lookup_cons, frame_single_lookup, frame_single_lookup]
        simp only [if_true]
        exact calcF_val env g _ _ v
      · simp only [renameParam, hdn, Bool.true_and, hnp, decide_false, Bool.false_eq_true, if_false, calcStep_ident, hid]
        have hoff : List.contains [p, q] n = false := by simp [hnp, hnq]
        rw [← hag.1 n hoff]
        cases hl : Scope.lookup ([(p, Expr.val v)] :: σ) n with
        | none => rfl
        | some d' => exact (calcF_noFree env [p, q] g d' _ _ (hag.2.1 n d' hl) hag).1
    · have hd' : noFree [p, q] d = true := by
        simp only [Bool.not_eq_true] at hdn
        simpa [hdn] using hd
      simp only [Bool.not_eq_true] at hdn
      have hid := identDef_res hdn
      simp only [renameParam, hdn, Bool.false_and, Bool.false_eq_true, if_false, calcStep_ident, hid]
      exact (calcF_noFree env [p, q] g d _ _ hd' hag).1
  | un op e ih =>
    intro ho hq hd
    simp only [renameParam, calcStep_un, ih ho hq hd]
  | bin op l r ihl ihr =>
    intro ho hq hd
    obtain ⟨ho1, ho2⟩ := Bool.and_eq_true_iff.1 ho
    obtain ⟨hq1, hq2⟩ := Bool.or_eq_false_iff.1 hq
    obtain ⟨hd1, hd2⟩ := Bool.and_eq_true_iff.1 hd
    simp only [renameParam, calcStep_bin, ihl ho1 hq1 hd1, ihr ho2 hq2 hd2]
  | query c a b ihc iha ihb =>
    intro ho hq hd
    simp only [Expr.isOpBody, Bool.and_eq_true] at ho
    simp only [lookedUp, Bool.or_eq_false_iff] at hq
    simp only [defsOff, Bool.and_eq_true] at hd
    simp only [renameParam, calcStep_query, ihc ho.1.1 hq.1.1 hd.1.1, iha ho.1.2 hq.1.2 hd.1.2, ihb ho.2 hq.2 hd.2]
  | _ => intro ho; simp [Expr.isOpBody] at ho

/-- … as a call: `(p -> body)(v)` and `(q -> body[p := q])(v)` evaluate alike -/
theorem param_rename_call (env : PrecEnv) (p q : String) (v : Value) (σ : Scope) (hσ : ScopeNoFree [p, q] σ)
    (body : Expr) (ho : body.isOpBody = true) (hq : lookedUp q body = false) (hd : defsOff [p, q] body = true) (f : Nat) :
    calcF env f σ (.call (.lambda (.ident p .nil) (.scope body)) (.val v)) =
      calcF env f σ (.call (.lambda (.ident q .nil) (.scope (renameParam p q body))) (.val v)) := by
  cases f with
  | zero => rfl
  | succ f =>
    cases f with
    | zero => rfl
    | succ g =>
      have hb := param_rename_opbody env p q v σ hσ g body ho hq hd
      simp only [calcF] at hb ⊢
      simp only [calcStep_call, calcStep_lambda, calcStep_val, Except.bind, callLambda, paramNames, splitCons, bindArgs, RVal.toExpr, Except.map]
      exact hb

end Ledger
