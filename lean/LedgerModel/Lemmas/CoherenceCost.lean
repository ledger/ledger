/-
MODEL COHERENCE — postings with costs: what ONE posting contributes to the
residual of its transaction, per commodity, is the same rational in C01/C02
(`FinX.FPost.bal` of the parsed posting: `parseCost`), C08 (`OF.bamt`:
`totalCost`) and C09 (`Assert.balancing`: `costTotal`); hence the three residual
balances denote the same function of the commodity.  No guard is needed for these:
the three cost computations differ only in the keep-precision flag and the
precision counter, which the denotation does not see.  Last, the lot a posting with a
cost is annotated with agrees between C01/C02 and C16 (`cost_lot_agree`, under its guards:
plain commodities, an amount that is not display-zero, a cost in another commodity).
-/
import LedgerModel.Lemmas.CoherenceModels

namespace Ledger
namespace Coh

open OF (bamt vadd xbalance)

def contribFin (env : PrecEnv) (c : Comm) (p : Posting) : Rat := (fp env p).bal c

def contribOF (c : Comm) (p : Posting) : Rat :=
  match bamt p with
  | some b => b.den c
  | none => 0

def contribAssert (c : Comm) (p : Posting) : Rat :=
  if p.mustBalance then
    (match Assert.balancing p with
     | some b => b.den c
     | none => 0)
  else 0

theorem parseCost_den (env : PrecEnv) (a : Amount) (k : Cost) (c : Comm) :
    (FinX.parseCost env a k).den c = (OF.totalCost a k).den c := by
  rw [← parseCost_unkeep env a k]
  rfl

theorem costTotal_den (a : Amount) (k : Cost) (c : Comm) :
    (Assert.costTotal a k).den c = (OF.totalCost a k).den c := by
  unfold Assert.costTotal OF.totalCost
  cases k.perUnit with
  | true => rfl
  | false =>
    rw [if_neg Bool.false_ne_true, if_neg Bool.false_ne_true]
    by_cases hq : a.q < 0
    · rw [if_pos hq, if_pos hq]; rfl
    · rw [if_neg hq, if_neg hq]; rfl

theorem contribFin_eq_contribOF (env : PrecEnv) (c : Comm) (p : Posting) : contribFin env c p = contribOF c p := by
  unfold contribFin contribOF FinX.FPost.bal bamt
  rw [fp_mustBalance]
  cases hm : p.mustBalance with
  | false => simp
  | true =>
    rw [if_pos rfl, if_pos rfl, fp_eq]
    unfold FinX.costOrAmt
    cases p.amount with
    | none => rfl
    | some a =>
      cases p.cost with
      | none => rfl
      | some k =>
        simp only
        exact parseCost_den env a k c

theorem contribAssert_eq_contribOF (c : Comm) (p : Posting) : contribAssert c p = contribOF c p := by
  unfold contribAssert contribOF Assert.balancing bamt
  cases hm : p.mustBalance with
  | false => simp
  | true =>
    rw [if_pos rfl, if_pos rfl]
    cases p.amount with
    | none => cases p.cost <;> rfl
    | some a =>
      cases p.cost with
      | none => rfl
      | some k =>
        simp only
        exact costTotal_den a k c

theorem bsum_cons (c : Comm) (p : Posting) (ps : List Posting) :
    OF.bsum c (p :: ps) = contribOF c p + OF.bsum c ps := by
  unfold OF.bsum contribOF
  simp only [OF.sumBy_cons]
  cases bamt p <;> rfl

theorem residual_fin_eq (env : PrecEnv) (ps : List Posting) (c : Comm) :
    FinX.residual (ps.map (fp env)) c = (xbalance ps).den c := by
  rw [OF.xbalance_den]
  induction ps with
  | nil => rfl
  | cons p ps ih =>
    rw [bsum_cons, ← contribFin_eq_contribOF env c p]
    simp only [List.map_cons, FinX.residual, ih]
    rfl

/-- C09's residual scan, whatever it returns, denotes the same sums. -/
theorem residual_assert_den (c : Comm) (ps : List Posting) : ∀ (v : Value) (np : Option Posting)
    (v' : Value) (np' : Option Posting), Assert.residual ps v np = .ok (v', np') → Assert.Num v →
    v'.den c = v.den c + OF.bsum c ps := by
  induction ps with
  | nil =>
    intro v np v' np' h _
    cases h
    exact (Rat.add_zero _).symm
  | cons p ps ih =>
    intro v np v' np' h hv
    rw [bsum_cons, ← contribAssert_eq_contribOF c p]
    unfold contribAssert
    unfold Assert.residual at h
    cases hm : p.mustBalance with
    | false =>
      rw [hm, Bool.not_false, if_pos rfl] at h
      rw [ih v np v' np' h hv, if_neg Bool.false_ne_true, Rat.zero_add]
    | true =>
      rw [hm, Bool.not_true, if_neg Bool.false_ne_true] at h
      rw [if_pos rfl]
      cases hb : Assert.balancing p with
      | some a =>
        rw [hb] at h
        obtain ⟨h1, h2, _⟩ := Assert.accAdd_spec (env := fun _ => 0) v a hv c
        rw [ih _ np v' np' h h2, h1, Rat.add_assoc]
      | none =>
        rw [hb] at h
        cases np with
        | some _ => cases h
        | none => rw [ih v _ v' np' h hv, Rat.zero_add]

/-- C16's encoding `BASE{num/den:COMM}[day]` has base symbol `BASE` -/
theorem baseComm_lotComm (base : Comm) (price : Amount) (date : Int) (h : plain base = true) :
    AutoXact.baseComm (AutoXact.lotComm base price date) = base := by
  unfold AutoXact.baseComm AutoXact.lotComm
  -- `base ++ ("{" ++ …)`: the symbol is read up to the brace
  simp only [String.append_assoc]
  rw [String.toList_append, takeWhile_plain h, String.toList_append, show "{".toList = ['{'] from rfl,
    List.cons_append, List.takeWhile_cons_of_neg (by decide), List.append_nil, String.ofList_toList]

theorem abs_q_ratAbs (r : Amount) : r.abs.q = AutoXact.ratAbs r.q := by
  unfold Amount.abs AutoXact.ratAbs
  split <;> rfl

/-- the per-unit price C16 puts into the lot: `|total cost / quantity|` in the cost's commodity -/
def autoPrice (env : PrecEnv) (a : Amount) (k : Cost) : Amount :=
  Amount.mk (AutoXact.ratAbs ((FinX.parseCost env a k).q / a.q)) (FinX.parseCost env a k).prec true
    (FinX.parseCost env a k).comm

/-- xact.cc 334-343 / pool.cc 263-309 for a posting `a @ k` without lot:
    C01/C02 (`FinX.lotStep` on the parsed posting) and C16 (`AutoXact.annotateCost`)
    both keep quantity and total cost, and annotate the amount with a lot whose
    per-unit price has the same exact quantity `|cost / amount|` and the same
    commodity, and whose base symbol is the posting's commodity.  (The encodings of
    the lot differ: `BASE{n/d SYM}[YYYY/MM/DD]()` vs `BASE{n/d:SYM}[day]`; so does the
    precision counter of the price — C01/C02: that of `amount_t` division, C16: the
    cost's — which nothing observes: the key carries the exact ratio.) -/
theorem cost_lot_agree (env : PrecEnv) (ds : String) (day : Int) (p : Posting) (a : Amount) (k : Cost)
    (ha : p.amount = some a) (hk : p.cost = some k) (hz : a.isZero env = false)
    (hpa : plain a.comm = true) (hpk : plain k.amt.comm = true) (hne : a.comm ≠ k.amt.comm) :
    ∃ pu p1 p2,
      FinX.lotStep env ds (fp env p) = .ok (p1, none) ∧
      AutoXact.annotateCost env day (AutoXact.toPPost env p) = .ok p2 ∧
      p1.amount = some { a with comm := FinX.annotate a.comm pu ds } ∧
      p2.amount = some { a with comm := AutoXact.lotComm a.comm (autoPrice env a k) day } ∧
      p1.cost = some (FinX.parseCost env a k) ∧ p2.cost = some (FinX.parseCost env a k) ∧
      pu.q = (autoPrice env a k).q ∧ pu.comm = (autoPrice env a k).comm ∧
      FinX.lotBase (FinX.annotate a.comm pu ds) = a.comm ∧
      AutoXact.baseComm (AutoXact.lotComm a.comm (autoPrice env a k) day) = a.comm := by
  have hcc := FinX.parseCost_comm env a k
  cases hdiv : Amount.div env (FinX.parseCost env a k) a with
  | error e =>
    rw [Amount.div, hz, if_neg Bool.false_ne_true] at hdiv
    cases hdiv
  | ok r =>
    have hrq : r.q = (FinX.parseCost env a k).q / a.q := Amount.div_q hdiv
    obtain ⟨pu, hpu, hpuq, hpuc⟩ : ∃ pu, FinX.perUnitCost env a (FinX.parseCost env a k) = .ok pu ∧
        pu.q = r.abs.q ∧ pu.comm = (FinX.decodeLot (FinX.parseCost env a k).comm).1 := by
      unfold FinX.perUnitCost
      rw [hz, if_neg Bool.false_ne_true, hdiv]
      exact ⟨_, rfl, rfl, rfl⟩
    have h1 : ∃ p1, FinX.lotStep env ds (fp env p) = .ok (p1, none) ∧
        p1.amount = some { a with comm := FinX.annotate a.comm pu ds } ∧
        p1.cost = some (FinX.parseCost env a k) := by
      rw [fp_eq]
      unfold FinX.lotStep
      simp only [ha, hk, hpu]
      exact ⟨_, rfl, rfl, rfl⟩
    have h2 : ∃ p2, AutoXact.annotateCost env day (AutoXact.toPPost env p) = .ok p2 ∧
        p2.amount = some { a with comm := AutoXact.lotComm a.comm (autoPrice env a k) day } ∧
        p2.cost = some (FinX.parseCost env a k) := by
      unfold AutoXact.toPPost AutoXact.annotateCost
      simp only [ha, hk]
      rw [hasLot_eq, hpa, Bool.not_true, if_neg Bool.false_ne_true, if_neg (hcc ▸ hne), hz,
        if_neg Bool.false_ne_true]
      exact ⟨_, rfl, rfl, rfl⟩
    obtain ⟨p1, e1, e2, e3⟩ := h1
    obtain ⟨p2, f1, f2, f3⟩ := h2
    refine ⟨pu, p1, p2, e1, f1, e2, f2, e3, f3, ?_, ?_, ?_, ?_⟩
    · rw [hpuq]; simp only [abs_q_ratAbs, hrq, autoPrice]
    · rw [hpuc]; simp only [hcc, decodeLot_plain k.amt.comm hpk, autoPrice]
    · exact lotBase_annotate a.comm _ ds hpa
    · exact baseComm_lotComm a.comm _ day hpa

end Coh
end Ledger
