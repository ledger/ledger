/-
What the amount and balance operations of Model/Value.lean do to the exact content
of a value.  In file order: the definitions (`den`, the denotation as a finitely
supported function Comm → Rat; `tot`, the sum of all quantities; `scalar?`; `comms`,
the keys of a balance); amounts (`den` of `+ - neg *`, `/` is exact, `compare`
followed by its sign test); `den` of the balance operations and of `simplify`;
keys of a balance (`comms` under `+=`/`-=`, `find?`, one entry per commodity
`comms.Nodup` and its preservation); `tot` of balance `*=` and `/=`.
-/
import LedgerModel.Model.Value
import LedgerModel.Lemmas.ExceptBind

namespace Ledger

def Amount.den (a : Amount) (c : Comm) : Rat := if a.comm = c then a.q else 0

def Balance.den : Balance → Comm → Rat
  | [], _ => 0
  | x :: xs, c => x.den c + Balance.den xs c

def Value.den : Value → Comm → Rat
  | .void, _ => 0
  | .bool _, _ => 0
  | .int n, c => if "" = c then (n : Rat) else 0
  | .amt a, c => a.den c
  | .bal b, c => b.den c

/-- The single quantity carried by an integer, an amount or a one-entry balance. -/
def Value.qty : Value → Option Rat
  | .int n => some (n : Rat)
  | .amt a => some a.q
  | .bal [a] => some a.q
  | _ => none

/-- Sum of all component quantities, whatever their commodity. -/
def Balance.tot : Balance → Rat
  | [] => 0
  | x :: xs => x.q + Balance.tot xs

def Value.tot : Value → Rat
  | .void => 0
  | .bool _ => 0
  | .int n => (n : Rat)
  | .amt a => a.q
  | .bal b => b.tot

/-- An integer or a single amount, with its commodity. -/
def Value.scalar? : Value → Option (Rat × Comm)
  | .int n => some ((n : Rat), "")
  | .amt a => some (a.q, a.comm)
  | _ => none

def Balance.comms (b : Balance) : List Comm := b.map (·.comm)

private theorem add_right_comm (a b c : Rat) : a + b + c = a + c + b := by
  rw [Rat.add_assoc, Rat.add_comm b, ← Rat.add_assoc]

theorem Amount.not_hasComm_iff {a : Amount} : ¬ a.hasComm = true ↔ a.comm = "" :=
  (not_congr decide_eq_true_iff).trans Decidable.not_not

theorem Amount.den_eq_q {a : Amount} {c : Comm} (h : a.comm = c) : a.den c = a.q := if_pos h

theorem Amount.den_eq_zero {a : Amount} {c : Comm} (h : ¬ a.comm = c) : a.den c = 0 := if_neg h

theorem Amount.den_of_q_zero {a : Amount} (h : a.q = 0) (c : Comm) : a.den c = 0 := by
  unfold Amount.den; split
  · exact h
  · rfl

@[simp] theorem Amount.den_ofInt (n : Int) (c : Comm) :
    (Amount.ofInt n).den c = if "" = c then (n : Rat) else 0 := rfl

/-- The denotation sees only the commodity and the quantity; quantities of one commodity add. -/
theorem Amount.den_mk_add (x a : Amount) (p : Nat) (k : Bool) (h : x.comm = a.comm) (c : Comm) :
    Amount.den ⟨x.q + a.q, p, k, x.comm⟩ c = x.den c + a.den c := by
  unfold Amount.den; rw [← h]; split
  · rfl
  · exact (Rat.add_zero 0).symm

theorem Amount.den_mk_sub (x a : Amount) (p : Nat) (k : Bool) (h : x.comm = a.comm) (c : Comm) :
    Amount.den ⟨x.q - a.q, p, k, x.comm⟩ c = x.den c - a.den c := by
  unfold Amount.den; rw [← h]; split
  · rfl
  · exact Rat.sub_self.symm

theorem Amount.den_neg (a : Amount) (c : Comm) : a.neg.den c = - a.den c := by
  unfold Amount.den Amount.neg; split
  · rfl
  · exact Rat.neg_zero.symm

theorem Amount.add_den {a b r : Amount} (h : Amount.add a b = .ok r)
    (hc : a.comm = b.comm) (c : Comm) : r.den c = a.den c + b.den c := by
  unfold Amount.add at h
  split at h
  · cases h
  · cases h; exact Amount.den_mk_add a b _ _ hc c

theorem Amount.sub_den {a b r : Amount} (h : Amount.sub a b = .ok r)
    (hc : a.comm = b.comm) (c : Comm) : r.den c = a.den c - b.den c := by
  unfold Amount.sub at h
  split at h
  · cases h
  · cases h; exact Amount.den_mk_sub a b _ _ hc c

theorem Amount.compat_ofInt (p : Amount) (n : Int) :
    ¬ (p.hasComm = true ∧ (Amount.ofInt n).hasComm = true ∧ p.comm ≠ (Amount.ofInt n).comm) :=
  fun h => Bool.false_ne_true h.2.1

theorem Amount.compat_of {p q : Amount}
    (h : p.comm = q.comm ∨ ¬ p.hasComm = true ∨ ¬ q.hasComm = true) :
    ¬ (p.hasComm = true ∧ q.hasComm = true ∧ p.comm ≠ q.comm) :=
  fun ⟨hp, hq, hne⟩ => h.elim hne fun h => h.elim (· hp) (· hq)

theorem Amount.clampPrec_q (env : PrecEnv) (a : Amount) : (a.clampPrec env).q = a.q := by
  unfold Amount.clampPrec; split <;> rfl

theorem Amount.clampPrec_comm (env : PrecEnv) (a : Amount) : (a.clampPrec env).comm = a.comm := by
  unfold Amount.clampPrec; split <;> rfl

@[simp] theorem Amount.mul_q (env : PrecEnv) (a b : Amount) : (Amount.mul env a b).q = a.q * b.q :=
  Amount.clampPrec_q env _

theorem Amount.mul_comm_of_hasComm (env : PrecEnv) (a b : Amount) (h : a.hasComm = true) :
    (Amount.mul env a b).comm = a.comm :=
  (Amount.clampPrec_comm env _).trans (if_pos h)

theorem Amount.mul_den (env : PrecEnv) (a b : Amount) (hb : b.hasComm = false) (c : Comm) :
    (Amount.mul env a b).den c = a.den c * b.q := by
  have hcomm : (Amount.mul env a b).comm = a.comm := by
    by_cases ha : a.hasComm = true
    · exact Amount.mul_comm_of_hasComm env a b ha
    · refine (Amount.clampPrec_comm env _).trans ((if_neg ha).trans ?_)
      rw [Amount.not_hasComm_iff.mp (Bool.eq_false_iff.mp hb), Amount.not_hasComm_iff.mp ha]
  unfold Amount.den; rw [hcomm, Amount.mul_q]; split
  · rfl
  · exact (Rat.zero_mul _).symm

theorem Amount.div_q {env : PrecEnv} {a b r : Amount} (h : Amount.div env a b = .ok r) :
    r.q = a.q / b.q := by
  unfold Amount.div at h
  split at h
  · cases h
  · cases h; exact Amount.clampPrec_q env _

theorem Amount.isZero_false_ne {env : PrecEnv} {a : Amount} (h : a.isZero env = false) : a.q ≠ 0 := by
  intro hq
  unfold Amount.isZero at h
  simp [hq] at h

theorem Amount.div_ok_ne {env : PrecEnv} {a b r : Amount} (h : Amount.div env a b = .ok r) :
    b.q ≠ 0 := by
  unfold Amount.div at h
  split at h
  · cases h
  · rename_i hz
    exact Amount.isZero_false_ne (Bool.eq_false_iff.mpr hz)

theorem Amount.div_mul_cancel {env : PrecEnv} {a b r : Amount} (h : Amount.div env a b = .ok r) :
    r.q * b.q = a.q := by
  rw [Amount.div_q h]; exact Rat.div_mul_cancel (Amount.div_ok_ne h)

section cmp
variable {p q : Amount} (h : ¬ (p.hasComm = true ∧ q.hasComm = true ∧ p.comm ≠ q.comm))
include h

theorem Amount.cmp_of_compat :
    Amount.cmp p q = .ok (if p.q < q.q then .lt else if p.q = q.q then .eq else .gt) := if_neg h

/- `amount_t::compare` followed by the test its callers apply to the sign. -/

theorem Amount.cmp_map_lt : (Amount.cmp p q).map (· == .lt) = .ok (decide (p.q < q.q)) := by
  rw [Amount.cmp_of_compat h]
  by_cases h1 : p.q < q.q
  · rw [if_pos h1, decide_eq_true h1]; rfl
  · rw [if_neg h1, decide_eq_false h1]; split <;> rfl

theorem Amount.cmp_map_eq : (Amount.cmp p q).map (· == .eq) = .ok (decide (p.q = q.q)) := by
  rw [Amount.cmp_of_compat h]
  by_cases h1 : p.q < q.q
  · rw [if_pos h1, decide_eq_false (Rat.ne_of_lt h1)]; rfl
  · by_cases h2 : p.q = q.q
    · rw [if_neg h1, if_pos h2, decide_eq_true h2]; rfl
    · rw [if_neg h1, if_neg h2, decide_eq_false h2]; rfl

theorem Amount.cmp_map_gt : (Amount.cmp p q).map (· == .gt) = .ok (decide (q.q < p.q)) := by
  rw [Amount.cmp_of_compat h]
  by_cases h1 : p.q < q.q
  · rw [if_pos h1, decide_eq_false (Rat.not_lt.mpr (Rat.le_of_lt h1))]; rfl
  · by_cases h2 : p.q = q.q
    · rw [if_neg h1, if_pos h2, h2, decide_eq_false Rat.lt_irrefl]; rfl
    · rw [if_neg h1, if_neg h2,
        decide_eq_true (Rat.lt_of_le_of_ne (Rat.not_lt.mp h1) (Ne.symm h2))]; rfl

end cmp

theorem Value.lt_amt_amt {x y : Amount}
    (h : x.comm = y.comm ∨ ¬ x.hasComm = true ∨ ¬ y.hasComm = true) :
    Value.lt (.amt x) (.amt y) = .ok (decide (x.q < y.q)) :=
  (if_pos h).trans (Amount.cmp_map_lt (Amount.compat_of h))

/-- `<` between integers and amounts never fails: two amounts of different commodities are ordered by
    commodity instead of being compared -/
theorem Value.lt_scalar {v w : Value} (hv : (∃ n, v = .int n) ∨ ∃ a, v = .amt a)
    (hw : (∃ n, w = .int n) ∨ ∃ a, w = .amt a) : ∃ b, Value.lt v w = .ok b := by
  rcases hv with ⟨x, rfl⟩ | ⟨x, rfl⟩ <;> rcases hw with ⟨y, rfl⟩ | ⟨y, rfl⟩
  · exact ⟨_, rfl⟩
  · exact ⟨_, Amount.cmp_map_gt (Amount.compat_ofInt y x)⟩
  · exact ⟨_, Amount.cmp_map_lt (Amount.compat_ofInt x y)⟩
  · by_cases hc : x.comm = y.comm ∨ ¬ x.hasComm = true ∨ ¬ y.hasComm = true
    · exact ⟨_, Value.lt_amt_amt hc⟩
    · exact ⟨_, if_neg hc⟩

@[simp] theorem Balance.den_nil (c : Comm) : Balance.den [] c = 0 := rfl
@[simp] theorem Balance.den_cons (x : Amount) (xs : Balance) (c : Comm) :
    Balance.den (x :: xs) c = x.den c + Balance.den xs c := rfl

theorem Balance.den_singleton (x : Amount) (c : Comm) : Balance.den [x] c = x.den c :=
  Rat.add_zero _

theorem Balance.den_perm {b₁ b₂ : Balance} (h : b₁.Perm b₂) (c : Comm) : b₁.den c = b₂.den c := by
  induction h with
  | nil => rfl
  | cons x _ ih => rw [Balance.den_cons, Balance.den_cons, ih]
  | swap x y l => exact Rat.add_left_comm _ _ _
  | trans _ _ ih1 ih2 => exact ih1.trans ih2

theorem Balance.den_ofAmt (a : Amount) (c : Comm) : (Balance.ofAmt a).den c = a.den c := by
  unfold Balance.ofAmt
  split
  · rename_i h; exact (Amount.den_of_q_zero h c).symm
  · exact Balance.den_singleton a c

theorem Balance.addGo_den (b : Balance) (a : Amount) (c : Comm) :
    (Balance.addGo b a).den c = b.den c + a.den c := by
  induction b with
  | nil => exact (Balance.den_singleton a c).trans (Rat.zero_add _).symm
  | cons x xs ih =>
    unfold Balance.addGo
    split
    · rename_i h
      rw [Balance.den_cons, Balance.den_cons, Amount.den_mk_add x a _ _ h c, add_right_comm]
    · rw [Balance.den_cons, Balance.den_cons, ih, Rat.add_assoc]

theorem Balance.addAmt_den (b : Balance) (a : Amount) (c : Comm) :
    (Balance.addAmt b a).den c = b.den c + a.den c := by
  unfold Balance.addAmt
  split
  · rename_i h; rw [Amount.den_of_q_zero h, Rat.add_zero]
  · exact Balance.addGo_den b a c

theorem Balance.subGo_cons_of_ne {x a : Amount} (h : ¬ x.comm = a.comm) (xs : Balance) :
    Balance.subGo (x :: xs) a = x :: Balance.subGo xs a := if_neg h

theorem Balance.subGo_cons_erase {x a : Amount} (h : x.comm = a.comm) (hz : x.q - a.q = 0)
    (xs : Balance) : Balance.subGo (x :: xs) a = xs := (if_pos h).trans (if_pos hz)

theorem Balance.subGo_cons_update {x a : Amount} (h : x.comm = a.comm) (hz : ¬ x.q - a.q = 0)
    (xs : Balance) :
    Balance.subGo (x :: xs) a = { x with q := x.q - a.q, prec := max x.prec a.prec } :: xs :=
  (if_pos h).trans (if_neg hz)

theorem Balance.subGo_den (b : Balance) (a : Amount) (c : Comm) :
    (Balance.subGo b a).den c = b.den c - a.den c := by
  induction b with
  | nil =>
    rw [Balance.subGo, Balance.den_singleton, Amount.den_neg, Balance.den_nil, Rat.sub_eq_add_neg,
      Rat.zero_add]
  | cons x xs ih =>
    by_cases h : x.comm = a.comm
    · have hr := Amount.den_mk_sub x a (max x.prec a.prec) x.keep h c
      have e : x.den c + Balance.den xs c - a.den c = x.den c - a.den c + Balance.den xs c := by
        rw [Rat.sub_eq_add_neg, Rat.sub_eq_add_neg, add_right_comm]
      rw [Balance.den_cons, e, ← hr]
      by_cases hz : x.q - a.q = 0
      · rw [Balance.subGo_cons_erase h hz, Amount.den_of_q_zero hz, Rat.zero_add]
      · rw [Balance.subGo_cons_update h hz]; rfl
    · rw [Balance.subGo_cons_of_ne h, Balance.den_cons, Balance.den_cons, ih, Rat.sub_eq_add_neg,
        Rat.sub_eq_add_neg, Rat.add_assoc]

theorem Balance.subAmt_den (b : Balance) (a : Amount) (c : Comm) :
    (Balance.subAmt b a).den c = b.den c - a.den c := by
  unfold Balance.subAmt
  split
  · rename_i h; rw [Amount.den_of_q_zero h, Rat.sub_eq_add_neg, Rat.neg_zero, Rat.add_zero]
  · exact Balance.subGo_den b a c

theorem Balance.den_foldl {f : Balance → Amount → Balance} {k : Rat} {c : Comm}
    (hf : ∀ b a, (f b a).den c = b.den c + k * a.den c) (l : List Amount) (b : Balance) :
    (l.foldl f b).den c = b.den c + k * Balance.den l c := by
  induction l generalizing b with
  | nil => rw [List.foldl_nil, Balance.den_nil, Rat.mul_zero, Rat.add_zero]
  | cons x xs ih => rw [List.foldl_cons, ih, hf, Balance.den_cons, Rat.mul_add, Rat.add_assoc]

theorem Balance.add_den (a b : Balance) (c : Comm) :
    (Balance.add a b).den c = a.den c + b.den c := by
  have := Balance.den_foldl (f := Balance.addAmt) (k := 1) (c := c)
    (fun b a => by rw [Balance.addAmt_den, Rat.one_mul]) b a
  rwa [Rat.one_mul] at this

theorem Balance.sub_den (a b : Balance) (c : Comm) :
    (Balance.sub a b).den c = a.den c - b.den c := by
  have := Balance.den_foldl (f := Balance.subAmt) (k := -1) (c := c)
    (fun b a => by rw [Balance.subAmt_den, Rat.neg_mul, Rat.one_mul, Rat.sub_eq_add_neg]) b a
  rwa [Rat.neg_mul, Rat.one_mul, ← Rat.sub_eq_add_neg] at this

theorem Balance.den_neg (b : Balance) (c : Comm) : (Balance.neg b).den c = - b.den c := by
  unfold Balance.neg
  induction b with
  | nil => exact Rat.neg_zero.symm
  | cons x xs ih => rw [List.map_cons, Balance.den_cons, Balance.den_cons, ih, Amount.den_neg, Rat.neg_add]

theorem Balance.isRealZero_iff {b : Balance} : b.isRealZero = true ↔ ∀ x ∈ b, x.q = 0 := by
  simp only [Balance.isRealZero, List.all_eq_true, Amount.isRealZero, decide_eq_true_eq]

theorem Balance.den_of_isRealZero (b : Balance) (h : b.isRealZero = true) (c : Comm) :
    b.den c = 0 := by
  rw [Balance.isRealZero_iff] at h
  induction b with
  | nil => rfl
  | cons x xs ih =>
    rw [Balance.den_cons, Amount.den_of_q_zero (h x List.mem_cons_self),
      ih (fun y hy => h y (List.mem_cons_of_mem _ hy)), Rat.add_zero]

theorem Balance.den_map_mul (env : PrecEnv) (b : Balance) (a : Amount) (ha : a.hasComm = false)
    (c : Comm) : Balance.den (b.map (fun x => Amount.mul env x a)) c = b.den c * a.q := by
  induction b with
  | nil => exact (Rat.zero_mul _).symm
  | cons x xs ih =>
    rw [List.map_cons, Balance.den_cons, Balance.den_cons, ih, Amount.mul_den env x a ha, Rat.add_mul]

theorem Value.den_of_isRealZero (v : Value) (h : v.isRealZero = true) (c : Comm) :
    v.den c = 0 := by
  cases v with
  | void => rfl
  | bool b => rfl
  | int n =>
    have : n = 0 := of_decide_eq_true h
    rw [this]; exact ite_self _
  | amt a => exact Amount.den_of_q_zero (of_decide_eq_true h) c
  | bal b => exact Balance.den_of_isRealZero b h c

theorem Value.simplify_den (v : Value) (c : Comm) : v.simplify.den c = v.den c := by
  unfold Value.simplify
  split
  · rename_i h
    rw [Value.den_of_isRealZero v h c]; exact ite_self _
  · split
    · exact (Balance.den_singleton _ c).symm
    · rfl

theorem Balance.comms_cons (x : Amount) (xs : Balance) :
    Balance.comms (x :: xs) = x.comm :: Balance.comms xs := rfl

theorem Balance.den_eq_zero_of_not_mem (b : Balance) (c : Comm) (h : c ∉ b.comms) : b.den c = 0 := by
  induction b with
  | nil => rfl
  | cons x xs ih =>
    rw [Balance.comms_cons, List.mem_cons, not_or] at h
    rw [Balance.den_cons, Amount.den_eq_zero (fun e => h.1 e.symm), ih h.2, Rat.add_zero]

theorem Balance.mem_comms_addGo (b : Balance) (x : Amount) (c : Comm) :
    c ∈ (Balance.addGo b x).comms ↔ c ∈ b.comms ∨ c = x.comm := by
  induction b with
  | nil => exact List.mem_singleton.trans ⟨.inr, fun h => h.elim (fun h => nomatch h) id⟩
  | cons y ys ih =>
    unfold Balance.addGo
    split
    · rename_i hy
      exact ⟨.inl, fun h => h.elim id fun e => e ▸ hy ▸ List.mem_cons_self⟩
    · rw [Balance.comms_cons, Balance.comms_cons, List.mem_cons, List.mem_cons, ih, or_assoc]

theorem Balance.mem_comms_foldl_addAmt (ps : List Amount) {b : Balance} {c : Comm} (h : c ∈ b.comms) :
    c ∈ (ps.foldl Balance.addAmt b).comms := by
  induction ps generalizing b with
  | nil => exact h
  | cons p ps ih =>
    refine ih ?_
    unfold Balance.addAmt
    split
    · exact h
    · exact (Balance.mem_comms_addGo b p c).mpr (.inl h)

/-- `-=` may erase a key; it adds at most the amount's commodity. -/
theorem Balance.mem_comms_subGo (b : Balance) (a : Amount) (c : Comm)
    (h : c ∈ (Balance.subGo b a).comms) : c ∈ b.comms ∨ c = a.comm := by
  induction b with
  | nil => exact .inr (List.mem_singleton.mp h)
  | cons x xs ih =>
    by_cases hc : x.comm = a.comm
    · by_cases hz : x.q - a.q = 0
      · rw [Balance.subGo_cons_erase hc hz] at h
        exact .inl (List.mem_cons_of_mem _ h)
      · rw [Balance.subGo_cons_update hc hz] at h
        exact .inl h
    · rw [Balance.subGo_cons_of_ne hc] at h
      rcases List.mem_cons.mp h with rfl | hmem
      · exact .inl List.mem_cons_self
      · exact (ih hmem).imp_left (List.mem_cons_of_mem _)

theorem Balance.find?_some_comm {b : Balance} {c : Comm} {x : Amount} (h : b.find? c = some x) :
    x.comm = c :=
  of_decide_eq_true (List.find?_some (p := fun a : Amount => decide (a.comm = c)) h)

theorem Balance.find?_some_mem {b : Balance} {c : Comm} {x : Amount} (h : b.find? c = some x) :
    x ∈ b := List.mem_of_find?_eq_some h

theorem Balance.mem_comms_of_find? {b : Balance} {c : Comm} {x : Amount} (h : b.find? c = some x) :
    c ∈ b.comms :=
  Balance.find?_some_comm h ▸ List.mem_map_of_mem (Balance.find?_some_mem h)

theorem Balance.find?_none_iff (b : Balance) (c : Comm) : b.find? c = none ↔ c ∉ b.comms := by
  refine List.find?_eq_none.trans ⟨fun h hc => ?_, fun h x hx e => h ?_⟩
  · obtain ⟨x, hx, rfl⟩ := List.mem_map.mp hc
    exact h x hx (decide_eq_true rfl)
  · exact of_decide_eq_true e ▸ List.mem_map_of_mem hx

/-! One entry per commodity, `b.comms.Nodup`, is what `amounts_map` guarantees; `+=` and `-=` keep it. -/

theorem Balance.nodup_comms_ofAmt (a : Amount) : (Balance.ofAmt a).comms.Nodup := by
  unfold Balance.ofAmt
  split
  · exact List.nodup_nil
  · exact List.pairwise_singleton _ _

theorem Balance.nodup_comms_addGo {b : Balance} (h : b.comms.Nodup) (a : Amount) :
    (Balance.addGo b a).comms.Nodup := by
  induction b with
  | nil => exact List.pairwise_singleton _ _
  | cons x xs ih =>
    have hn := List.nodup_cons.mp h
    unfold Balance.addGo
    split
    · exact h
    · rename_i hne
      exact List.nodup_cons.mpr
        ⟨fun hm => ((Balance.mem_comms_addGo xs a _).mp hm).elim hn.1 hne, ih hn.2⟩

theorem Balance.nodup_comms_addAmt {b : Balance} (h : b.comms.Nodup) (a : Amount) :
    (Balance.addAmt b a).comms.Nodup := by
  unfold Balance.addAmt
  split
  · exact h
  · exact Balance.nodup_comms_addGo h a

theorem Balance.nodup_comms_subGo {b : Balance} (h : b.comms.Nodup) (a : Amount) :
    (Balance.subGo b a).comms.Nodup := by
  induction b with
  | nil => exact List.pairwise_singleton _ _
  | cons x xs ih =>
    have hn := List.nodup_cons.mp h
    by_cases hc : x.comm = a.comm
    · by_cases hz : x.q - a.q = 0
      · rw [Balance.subGo_cons_erase hc hz]; exact hn.2
      · rw [Balance.subGo_cons_update hc hz]; exact h
    · rw [Balance.subGo_cons_of_ne hc]
      exact List.nodup_cons.mpr
        ⟨fun hm => (Balance.mem_comms_subGo xs a _ hm).elim hn.1 hc, ih hn.2⟩

theorem Balance.nodup_comms_subAmt {b : Balance} (h : b.comms.Nodup) (a : Amount) :
    (Balance.subAmt b a).comms.Nodup := by
  unfold Balance.subAmt
  split
  · exact h
  · exact Balance.nodup_comms_subGo h a

theorem Balance.nodup_comms_sub {d : Balance} (h : d.comms.Nodup) (b : Balance) :
    (Balance.sub d b).comms.Nodup := by
  unfold Balance.sub
  induction b generalizing d with
  | nil => exact h
  | cons x xs ih => exact ih (Balance.nodup_comms_subAmt h x)

theorem Balance.nodup_comms_perm {b₁ b₂ : Balance} (h : b₁.Perm b₂) (hw : b₁.comms.Nodup) :
    b₂.comms.Nodup :=
  (h.map _).nodup_iff.mp hw

/-- With one entry per commodity, an entry's quantity is the denotation at its commodity. -/
theorem Balance.den_of_mem {b : Balance} (hw : b.comms.Nodup) {x : Amount} (hx : x ∈ b) :
    b.den x.comm = x.q := by
  induction b with
  | nil => cases hx
  | cons y ys ih =>
    have hn : y.comm ∉ Balance.comms ys ∧ (Balance.comms ys).Nodup := List.nodup_cons.mp hw
    rw [Balance.den_cons]
    rcases List.mem_cons.mp hx with rfl | hx'
    · rw [Balance.den_eq_zero_of_not_mem ys _ hn.1, Rat.add_zero]; exact if_pos rfl
    · rw [ih hn.2 hx',
        Amount.den_eq_zero fun e : y.comm = x.comm => hn.1 (e ▸ List.mem_map_of_mem hx'), Rat.zero_add]

theorem Balance.tot_singleton (x : Amount) : Balance.tot [x] = x.q := Rat.add_zero _

theorem Value.tot_bal_singleton (x : Amount) : (Value.bal [x]).tot = x.q := Balance.tot_singleton x

theorem Balance.tot_of_isRealZero (b : Balance) (h : b.isRealZero = true) : b.tot = 0 := by
  rw [Balance.isRealZero_iff] at h
  induction b with
  | nil => rfl
  | cons x xs ih =>
    rw [Balance.tot, h x List.mem_cons_self, ih (fun y hy => h y (List.mem_cons_of_mem _ hy)),
      Rat.add_zero]

theorem Balance.tot_ofAmt (a : Amount) : (Balance.ofAmt a).tot = a.q := by
  unfold Balance.ofAmt
  split
  · rename_i h; exact h.symm
  · exact Balance.tot_singleton a

theorem Balance.tot_map_mul (env : PrecEnv) (b : Balance) (a : Amount) :
    Balance.tot (b.map (fun x => Amount.mul env x a)) = b.tot * a.q := by
  induction b with
  | nil => exact (Rat.zero_mul _).symm
  | cons x xs ih => rw [List.map_cons, Balance.tot, Balance.tot, ih, Amount.mul_q, Rat.add_mul]

/-- The cells of balance_t::operator*=(amount_t) that succeed; the annotated one-entry cell is
    the scaling of a one-entry list. -/
theorem Balance.mulAmt_ok {env : PrecEnv} {b r : Balance} {a : Amount}
    (h : Balance.mulAmt env b a = .ok r) :
    (b.isRealZero = true ∧ r = b) ∨ (a.q = 0 ∧ r = Balance.ofAmt a) ∨
      r = b.map (fun x => Amount.mul env x a) := by
  unfold Balance.mulAmt at h
  by_cases hz : b.isRealZero = true
  · rw [if_pos hz] at h; cases h; exact .inl ⟨hz, rfl⟩
  rw [if_neg hz] at h
  by_cases hq : a.q = 0
  · rw [if_pos hq] at h; cases h; exact .inr (.inl ⟨hq, rfl⟩)
  rw [if_neg hq] at h
  by_cases hc : ¬ a.hasComm = true
  · rw [if_pos hc] at h; cases h; exact .inr (.inr rfl)
  rw [if_neg hc] at h
  cases b with
  | nil => cases h
  | cons x xs =>
    cases xs with
    | cons _ _ => cases h
    | nil =>
      dsimp only at h
      split at h
      · cases h; exact .inr (.inr rfl)
      · cases h

theorem Balance.mulAmt_tot {env : PrecEnv} {b r : Balance} {a : Amount}
    (h : Balance.mulAmt env b a = .ok r) : r.tot = b.tot * a.q := by
  rcases Balance.mulAmt_ok h with ⟨hz, rfl⟩ | ⟨hq, rfl⟩ | rfl
  · rw [Balance.tot_of_isRealZero _ hz, Rat.zero_mul]
  · rw [Balance.tot_ofAmt, hq, Rat.mul_zero]
  · exact Balance.tot_map_mul env b a

theorem Balance.mulAmt_den {env : PrecEnv} {b r : Balance} {a : Amount} (ha : a.hasComm = false)
    (h : Balance.mulAmt env b a = .ok r) (c : Comm) : r.den c = b.den c * a.q := by
  rcases Balance.mulAmt_ok h with ⟨hz, rfl⟩ | ⟨hq, rfl⟩ | rfl
  · rw [Balance.den_of_isRealZero _ hz, Rat.zero_mul]
  · rw [Balance.den_ofAmt, Amount.den_of_q_zero hq, hq, Rat.mul_zero]
  · exact Balance.den_map_mul env b a ha c

theorem Balance.mapM'_cons_ok {f : Amount → Res Amount} {x : Amount} {xs r : Balance}
    (h : Balance.mapM' f (x :: xs) = .ok r) :
    ∃ y ys, f x = .ok y ∧ Balance.mapM' f xs = .ok ys ∧ r = y :: ys := by
  unfold Balance.mapM' at h
  cases hx : f x with
  | error e => rw [hx] at h; cases h
  | ok y =>
    cases hxs : Balance.mapM' f xs with
    | error e => rw [hx, hxs] at h; cases h
    | ok ys => rw [hx, hxs] at h; cases h; exact ⟨y, ys, rfl, rfl, rfl⟩

theorem Balance.mapM'_div_tot {env : PrecEnv} {b r : Balance} {a : Amount}
    (h : Balance.mapM' (fun x => Amount.div env x a) b = .ok r) : r.tot * a.q = b.tot := by
  induction b generalizing r with
  | nil => cases h; exact Rat.zero_mul _
  | cons x xs ih =>
    obtain ⟨y, ys, hy, hys, rfl⟩ := Balance.mapM'_cons_ok h
    rw [Balance.tot, Balance.tot, Rat.add_mul, Amount.div_mul_cancel hy, ih hys]

/-- balance_t::operator/=(amount_t): the annotated one-entry cell is the componentwise
    division of a one-entry list.  A real-zero balance is returned as it is, whatever the
    divisor — hence `b.tot ≠ 0 →` in front of `a.q ≠ 0`. -/
theorem Balance.divAmt_tot {env : PrecEnv} {b r : Balance} {a : Amount}
    (h : Balance.divAmt env b a = .ok r) : r.tot * a.q = b.tot ∧ (b.tot ≠ 0 → a.q ≠ 0) := by
  unfold Balance.divAmt at h
  by_cases hz : b.isRealZero = true
  · rw [if_pos hz] at h; cases h
    rw [Balance.tot_of_isRealZero _ hz]; exact ⟨Rat.zero_mul _, fun h0 => absurd rfl h0⟩
  rw [if_neg hz] at h
  by_cases hq : a.q = 0
  · rw [if_pos hq] at h; cases h
  rw [if_neg hq] at h
  refine ⟨Balance.mapM'_div_tot (env := env) ?_, fun _ => hq⟩
  by_cases hc : ¬ a.hasComm = true
  · rw [if_pos hc] at h; exact h
  rw [if_neg hc] at h
  cases b with
  | nil => cases h
  | cons x xs =>
    cases xs with
    | cons _ _ => cases h
    | nil =>
      dsimp only at h
      split at h
      · obtain ⟨y, hy, rfl⟩ := Except.map_eq_ok h
        simp only [Balance.mapM', hy]; rfl
      · cases h

end Ledger
