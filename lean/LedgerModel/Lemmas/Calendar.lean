/-
The proleptic Gregorian day-number functions of `Model/Calendar.lean`, for all integers.
`ofYMD` is written in March-based coordinates (`ofMarch`), where a month step is uniform
and only the step out of February sees the leap rule.  Month starts (`PCal.fom`) are then
strictly increasing, which gives the order and injectivity of `ofYMD`; Hinnant's
civil-from-days is analysed once (`toYMD_valid_and_inverse`), and `toYMD ∘ ofYMD = id`
follows from injectivity; then `addMonths` and `weekday`.  Linear arithmetic with `/`
and `%` by literals is left to `omega`.

Namespace `Ledger.PCal` holds the month-start index `fom` with its lemmas (in the middle of
the file, where the order of `ofYMD` needs them) and, after the weekday, the calendar facts as the
period lemmas cite them; `validYMD_other_year` and `addYears_ofYMD` (year steps away from the end
of February) close the file.
-/
import LedgerModel.Model.Calendar

namespace Ledger.Cal

theorem isLeap_iff (y : Int) :
    isLeap y = true ↔ ((y % 4 = 0 ∧ y % 100 ≠ 0) ∨ y % 400 = 0) := by
  simp [isLeap]

theorem isLeap_false_iff (y : Int) :
    isLeap y = false ↔ ¬ ((y % 4 = 0 ∧ y % 100 ≠ 0) ∨ y % 400 = 0) := by
  rw [← isLeap_iff]; simp

theorem validYMD_def {y m d : Int} :
    validYMD y m d = true ↔ 1 ≤ m ∧ m ≤ 12 ∧ 1 ≤ d ∧ d ≤ daysInMonth y m := by
  simp only [validYMD, decide_eq_true_eq]

theorem daysInMonth_feb (y : Int) : daysInMonth y 2 = if isLeap y then 29 else 28 := rfl

theorem daysInMonth_of_ne_two (y m : Int) (h : m ≠ 2) :
    daysInMonth y m = if m = 4 ∨ m = 6 ∨ m = 9 ∨ m = 11 then 30 else 31 := by
  rw [daysInMonth, if_neg h]

theorem daysInMonth_eq_of_ne_two {m : Int} (h : m ≠ 2) (y y' : Int) :
    daysInMonth y m = daysInMonth y' m := by
  rw [daysInMonth_of_ne_two y m h, daysInMonth_of_ne_two y' m h]

/-- The month table.  The leap rule stays folded in `isLeap`, so no case sees `%`. -/
theorem le_daysInMonth_iff (y m d : Int) :
    d ≤ daysInMonth y m ↔
      (d ≤ 31 ∧ ((m = 4 ∨ m = 6 ∨ m = 9 ∨ m = 11) → d ≤ 30) ∧ (m = 2 → d ≤ 29) ∧
        (m = 2 → d = 29 → isLeap y = true)) := by
  by_cases h2 : m = 2
  · have e : daysInMonth y m = if isLeap y then 29 else 28 := by rw [h2, daysInMonth_feb]
    rw [e]
    cases hl : isLeap y
    · simp only [Bool.false_eq_true, if_false]
      refine ⟨fun h => ⟨Int.le_trans h (by decide), fun _ => Int.le_trans h (by decide),
          fun _ => Int.le_trans h (by decide), fun _ e => absurd (e ▸ h) (by decide)⟩,
        fun ⟨_, _, h, h'⟩ => ?_⟩
      have h29 : d ≠ 29 := h' h2
      have := h h2
      omega
    · simp only [if_true]
      exact ⟨fun h => ⟨Int.le_trans h (by decide), fun _ => Int.le_trans h (by decide), fun _ => h,
        fun _ _ => trivial⟩, fun h => h.2.2.1 h2⟩
  · rw [daysInMonth_of_ne_two y m h2]
    by_cases h30 : m = 4 ∨ m = 6 ∨ m = 9 ∨ m = 11
    · rw [if_pos h30]
      exact ⟨fun h => ⟨Int.le_trans h (by decide), fun _ => h, fun e => absurd e h2, fun e => absurd e h2⟩,
        fun h => h.2.1 h30⟩
    · rw [if_neg h30]
      exact ⟨fun h => ⟨h, fun e => absurd e h30, fun e => absurd e h2, fun e => absurd e h2⟩,
        fun h => h.1⟩

/-- `validYMD` as a proposition `omega` can use (month by month). -/
theorem validYMD_iff (y m d : Int) :
    validYMD y m d = true ↔
      (1 ≤ m ∧ m ≤ 12 ∧ 1 ≤ d ∧ d ≤ 31 ∧
       ((m = 4 ∨ m = 6 ∨ m = 9 ∨ m = 11) → d ≤ 30) ∧
       (m = 2 → d ≤ 29) ∧
       (m = 2 → d = 29 → ((y % 4 = 0 ∧ y % 100 ≠ 0) ∨ y % 400 = 0))) := by
  rw [validYMD_def, le_daysInMonth_iff, isLeap_iff]

theorem ofYMD_lin (y m d : Int) : ofYMD y m d = ofYMD y m 1 + (d - 1) := by
  simp only [ofYMD]; omega

/-- Day number of day `d` of month `mp` (0 = March … 11 = February) of the March-based year `yp`:
    `(153 * mp + 2) / 5` days of the year lie before month `mp`. -/
def ofMarch (yp mp d : Int) : Int :=
  365 * yp + yp / 4 - yp / 100 + yp / 400 + (153 * mp + 2) / 5 + d - 719469

theorem ofYMD_eq_ofMarch (y m d : Int) :
    ofYMD y m d = ofMarch (if m ≤ 2 then y - 1 else y) (if m > 2 then m - 3 else m + 9) d := by
  simp only [ofYMD, ofMarch]
  generalize (if m ≤ 2 then y - 1 else y) = yp
  generalize (153 * (if m > 2 then m - 3 else m + 9) + 2) / 5 = k
  omega

theorem ofYMD_of_le_two (y m d : Int) (h : m ≤ 2) : ofYMD y m d = ofMarch (y - 1) (m + 9) d := by
  rw [ofYMD_eq_ofMarch, if_pos h, if_neg (by omega)]

theorem ofYMD_of_two_lt (y m d : Int) (h : 2 < m) : ofYMD y m d = ofMarch y (m - 3) d := by
  rw [ofYMD_eq_ofMarch, if_neg (by omega), if_pos h]

/-- The month offsets encode the lengths of the months other than February. -/
theorem mstart_step (y m mp : Int) (hm1 : 1 ≤ m) (hm12 : m ≤ 12) (h2 : m ≠ 2)
    (hmp : mp = if m > 2 then m - 3 else m + 9) :
    (153 * (mp + 1) + 2) / 5 = (153 * mp + 2) / 5 + daysInMonth y m := by
  have : m = 1 ∨ m = 3 ∨ m = 4 ∨ m = 5 ∨ m = 6 ∨ m = 7 ∨ m = 8 ∨ m = 9 ∨ m = 10 ∨ m = 11 ∨
      m = 12 := by omega
  rcases this with h | h | h | h | h | h | h | h | h | h | h <;> subst h <;> subst hmp <;> rfl

/-- The month computed from a day of the March-based year is one of the twelve and contains
    that day. -/
theorem mstart_bracket (doy mp : Int) (h : mp = (5 * doy + 2) / 153) (h0 : 0 ≤ doy) (h1 : doy ≤ 365) :
    0 ≤ mp ∧ mp ≤ 11 ∧ (153 * mp + 2) / 5 ≤ doy ∧ doy < (153 * (mp + 1) + 2) / 5 := by
  omega

/-- The quotient by `k` steps exactly at the multiples of `k`. -/
theorem ediv_step (y k : Int) (hk : 0 < k) : y / k = (y - 1) / k + if y % k = 0 then 1 else 0 := by
  have hy := Int.mul_ediv_add_emod y k
  have hr := Int.emod_nonneg y (Int.ne_of_gt hk)
  have hr' := Int.emod_lt_of_pos y hk
  split
  · have := (Int.ediv_emod_unique (a := y - 1) (q := y / k - 1) (r := k - 1) hk).2
      ⟨by rw [Int.mul_sub, Int.mul_one]; omega, by omega, by omega⟩
    omega
  · have := (Int.ediv_emod_unique (a := y - 1) (q := y / k) (r := y % k - 1) hk).2
      ⟨by omega, by omega, by omega⟩
    omega

/-- One more leap day has passed at the end of year `y` exactly when `y` is a leap year: each of
    the three quotients steps at the multiples of its divisor, and `400 ∣ y → 100 ∣ y → 4 ∣ y`. -/
theorem leapDays_step (y : Int) :
    y / 4 - y / 100 + y / 400 =
      (y - 1) / 4 - (y - 1) / 100 + (y - 1) / 400 + (if isLeap y then 1 else 0) := by
  rw [ediv_step y 4 (by decide), ediv_step y 100 (by decide), ediv_step y 400 (by decide)]
  generalize (y - 1) / 4 = a, (y - 1) / 100 = b, (y - 1) / 400 = c
  have d1 : y % 400 = 0 → y % 100 = 0 := fun h => by
    rw [← Int.emod_emod_of_dvd y (show (100 : Int) ∣ 400 by decide), h]; rfl
  have d2 : y % 100 = 0 → y % 4 = 0 := fun h => by
    rw [← Int.emod_emod_of_dvd y (show (4 : Int) ∣ 100 by decide), h]; rfl
  cases hl : isLeap y
  · have h := (isLeap_false_iff y).1 hl
    have c400 : ¬ y % 400 = 0 := fun c => h (Or.inr c)
    by_cases c4 : y % 4 = 0
    · have c100 : y % 100 = 0 := Decidable.byContradiction fun c => h (Or.inl ⟨c4, c⟩)
      rw [if_pos c4, if_pos c100, if_neg c400, if_neg Bool.false_ne_true]; omega
    · rw [if_neg c4, if_neg (mt d2 c4), if_neg c400, if_neg Bool.false_ne_true]; omega
  · rcases (isLeap_iff y).1 hl with ⟨c4, c100⟩ | c400
    · rw [if_pos c4, if_neg c100, if_neg (mt d1 c100), if_pos rfl]; omega
    · rw [if_pos (d2 (d1 c400)), if_pos (d1 c400), if_pos c400, if_pos rfl]; omega

theorem ofMarch_month_end (yp mp len : Int)
    (h : (153 * (mp + 1) + 2) / 5 = (153 * mp + 2) / 5 + len) :
    ofMarch yp mp len + 1 = ofMarch yp (mp + 1) 1 := by
  simp only [ofMarch]; omega

/-- The day after the last day of a month is the first day of the next month
    (incl. leap February and the turn of the year). -/
theorem next_month_first (y m : Int) (hm1 : 1 ≤ m) (hm12 : m ≤ 12) :
    ofYMD y m (daysInMonth y m) + 1 =
      (if m = 12 then ofYMD (y + 1) 1 1 else ofYMD y (m + 1) 1) := by
  by_cases h2 : m = 2
  · -- February → March: the March-based year changes; its length is the leap rule
    subst h2
    rw [if_neg (by decide), ofYMD_of_le_two y 2 _ (by decide), ofYMD_of_two_lt y (2 + 1) 1 (by decide),
      daysInMonth_feb]
    have := leapDays_step y
    simp only [ofMarch]
    generalize y / 4 = a, y / 100 = b, y / 400 = c, (y - 1) / 4 = a', (y - 1) / 100 = b',
      (y - 1) / 400 = c' at this ⊢
    cases hl : isLeap y <;> simp only [hl, if_true, if_false, Bool.false_eq_true] at this ⊢ <;> omega
  · -- otherwise the successor is month `mp + 1` of the same March-based year
    by_cases h12 : m = 12
    · subst h12
      rw [if_pos rfl, ofYMD_of_two_lt y 12 _ (by decide), ofYMD_of_le_two (y + 1) 1 1 (by decide)]
      rw [Int.add_sub_cancel]; exact ofMarch_month_end y (12 - 3) _ (mstart_step y 12 _ hm1 hm12 h2 rfl)
    · rw [if_neg h12]
      by_cases h1 : m ≤ 2
      · have e : m = 1 := by omega
        subst e
        rw [ofYMD_of_le_two y 1 _ h1, ofYMD_of_le_two y (1 + 1) 1 (by decide)]
        exact ofMarch_month_end (y - 1) (1 + 9) _ (mstart_step y 1 _ hm1 hm12 h2 rfl)
      · have h3 : 2 < m := Int.not_le.1 h1
        rw [ofYMD_of_two_lt y m _ h3, ofYMD_of_two_lt y (m + 1) 1 (Int.lt_trans h3 (Int.lt_succ m))]
        have := ofMarch_month_end y (m - 3) _ (mstart_step y m _ hm1 hm12 h2 (if_pos h3).symm)
        have e : m + 1 - 3 = m - 3 + 1 := by omega
        rw [e]; exact this

theorem daysInMonth_ge (y m : Int) : 28 ≤ daysInMonth y m :=
  (le_daysInMonth_iff y m 28).2
    ⟨by decide, fun _ => by decide, fun _ => by decide, fun _ h => absurd h (by decide)⟩

end Ledger.Cal

namespace Ledger.PCal
open Ledger.Cal

theorem daysInMonth_le (y m : Int) : daysInMonth y m ≤ 31 :=
  ((le_daysInMonth_iff y m _).1 (Int.le_refl _)).1

/-- day number of the first day of month index `t = 12*y + (m-1)` -/
def fom (t : Int) : Int := ofYMD (t / 12) (t % 12 + 1) 1

/-- Year and month of the month index `t = 12 * y + (m - 1)`. -/
theorem index_div_mod {t y m : Int} (ht : t = 12 * y + (m - 1)) (h1 : 1 ≤ m) (h2 : m ≤ 12) :
    t / 12 = y ∧ t % 12 + 1 = m := by
  subst ht
  obtain ⟨a, b⟩ := (Int.ediv_emod_unique (show (0 : Int) < 12 by decide)).2
    ⟨Int.add_comm (m - 1) (12 * y), Int.sub_nonneg_of_le h1, by omega⟩
  exact ⟨a, by rw [b]; omega⟩

theorem fom_eq (y m0 : Int) (h0 : 0 ≤ m0) (h1 : m0 ≤ 11) : fom (12 * y + m0) = ofYMD y (m0 + 1) 1 := by
  obtain ⟨a, b⟩ := index_div_mod (t := 12 * y + m0) (y := y) (m := m0 + 1) (by omega) (by omega) (by omega)
  rw [fom, a, b]

theorem ofYMD_fom (y m d : Int) (h1 : 1 ≤ m) (h2 : m ≤ 12) :
    ofYMD y m d = fom (12 * y + (m - 1)) + (d - 1) := by
  rw [fom_eq y (m - 1) (by omega) (by omega), Int.sub_add_cancel]
  exact ofYMD_lin y m d

theorem fom_step (t : Int) : fom (t + 1) = fom t + daysInMonth (t / 12) (t % 12 + 1) := by
  have hr := Int.emod_nonneg t (show (12 : Int) ≠ 0 by decide)
  have hr' := Int.emod_lt_of_pos t (show (0 : Int) < 12 by decide)
  have h1 : 1 ≤ t % 12 + 1 := Int.le_add_of_nonneg_left hr
  have h := next_month_first (t / 12) (t % 12 + 1) h1 (Int.add_one_le_of_lt hr')
  rw [ofYMD_lin, Int.add_assoc, Int.sub_add_cancel] at h
  have e : t + 1 = 12 * (t / 12) + (t % 12 + 1) := by rw [← Int.add_assoc, Int.mul_ediv_add_emod]
  by_cases h11 : t % 12 + 1 = 12
  · rw [if_pos h11] at h
    have e' : t + 1 = 12 * (t / 12 + 1) + 0 := by rw [e, h11, Int.mul_add, Int.mul_one, Int.add_zero]
    rw [e', fom_eq _ 0 (Int.le_refl 0) (by decide), Int.zero_add, fom]; exact h.symm
  · rw [if_neg h11] at h
    rw [e, fom_eq _ _ (Int.le_trans (by decide) h1) (by omega), fom]; exact h.symm

theorem fom_add_nat (t : Int) (k : Nat) : fom t + 28 * (k : Int) ≤ fom (t + k) := by
  induction k with
  | zero => simp
  | succ k ih =>
    have := daysInMonth_ge ((t + k) / 12) ((t + k) % 12 + 1)
    have e : t + ((k + 1 : Nat) : Int) = t + (k : Int) + 1 := by rw [Int.natCast_add, Int.add_assoc]; rfl
    rw [e, fom_step]; omega

theorem fom_spacing {t t' : Int} (h : t ≤ t') : fom t + 28 * (t' - t) ≤ fom t' := by
  have := fom_add_nat t (t' - t).toNat
  have e : ((t' - t).toNat : Int) = t' - t := Int.toNat_of_nonneg (Int.sub_nonneg_of_le h)
  rw [e] at this
  have e2 : t + (t' - t) = t' := by omega
  rw [e2] at this
  exact this

theorem fom_strict_mono {t t' : Int} (h : t < t') : fom t < fom t' := by
  have := fom_spacing (Int.le_of_lt h); omega

end Ledger.PCal

namespace Ledger.Cal
open Ledger.PCal

theorem validYMD_bounds {y m d : Int} (h : validYMD y m d = true) :
    1 ≤ m ∧ m ≤ 12 ∧ 1 ≤ d ∧ d ≤ 31 := by
  have := daysInMonth_le y m
  rw [validYMD_def] at h
  omega

theorem day_in_month (t d : Int) (h1 : 1 ≤ d) (h2 : d ≤ daysInMonth (t / 12) (t % 12 + 1)) :
    fom t ≤ ofYMD (t / 12) (t % 12 + 1) d ∧ ofYMD (t / 12) (t % 12 + 1) d < fom (t + 1) := by
  rw [ofYMD_lin, fom_step, fom]; omega

theorem valid_in_month (y m d : Int) (hv : validYMD y m d = true) :
    fom (12 * y + (m - 1)) ≤ ofYMD y m d ∧ ofYMD y m d < fom (12 * y + (m - 1) + 1) := by
  obtain ⟨h1, h2, h3, h4⟩ := validYMD_def.1 hv
  obtain ⟨a, b⟩ := index_div_mod (t := 12 * y + (m - 1)) rfl h1 h2
  have := day_in_month (12 * y + (m - 1)) d h3 (by rw [a, b]; exact h4)
  rw [a, b] at this
  exact this

theorem ofYMD_strict_mono (y m d y' m' d' : Int)
    (hv : validYMD y m d = true) (hv' : validYMD y' m' d' = true)
    (hlt : y < y' ∨ (y = y' ∧ (m < m' ∨ (m = m' ∧ d < d')))) :
    ofYMD y m d < ofYMD y' m' d' := by
  obtain ⟨_, hm12, _⟩ := validYMD_def.1 hv
  obtain ⟨hm1', _⟩ := validYMD_def.1 hv'
  have i := (valid_in_month y m d hv).2
  have i' := (valid_in_month y' m' d' hv').1
  -- an earlier month ends before the later one starts
  have key : 12 * y + (m - 1) + 1 ≤ 12 * y' + (m' - 1) → ofYMD y m d < ofYMD y' m' d' := by
    intro hle
    have := fom_spacing hle
    clear hlt
    omega
  rcases hlt with hy | ⟨rfl, hm | ⟨rfl, hd⟩⟩
  · exact key (by omega)
  · exact key (by omega)
  · rw [ofYMD_lin y m d, ofYMD_lin y m d']; exact Int.add_lt_add_left (Int.sub_lt_sub_right hd 1) _

theorem ofYMD_inj (y m d y' m' d' : Int) (hv : validYMD y m d = true) (hv' : validYMD y' m' d' = true)
    (h : ofYMD y m d = ofYMD y' m' d') : y = y' ∧ m = m' ∧ d = d' := by
  have lt := ofYMD_strict_mono y m d y' m' d' hv hv'
  have gt := ofYMD_strict_mono y' m' d' y m d hv' hv
  have hy : y = y' := by
    rcases Int.lt_trichotomy y y' with h' | h' | h'
    · exact (Int.ne_of_lt (lt (Or.inl h')) h).elim
    · exact h'
    · exact (Int.ne_of_lt (gt (Or.inl h')) h.symm).elim
  subst hy
  have hm : m = m' := by
    rcases Int.lt_trichotomy m m' with h' | h' | h'
    · exact (Int.ne_of_lt (lt (Or.inr ⟨rfl, Or.inl h'⟩)) h).elim
    · exact h'
    · exact (Int.ne_of_lt (gt (Or.inr ⟨rfl, Or.inl h'⟩)) h.symm).elim
  subst hm
  rw [ofYMD_lin y m d, ofYMD_lin y m d'] at h
  exact ⟨rfl, rfl, by omega⟩

theorem toYMD_unfold (n era doe yoe doy mp : Int)
    (hera : (n + 719468) / 146097 = era) (hdoe : n + 719468 - era * 146097 = doe)
    (hyoe : (doe - doe / 1460 + doe / 36524 - doe / 146096) / 365 = yoe)
    (hdoy : doe - (365 * yoe + yoe / 4 - yoe / 100) = doy)
    (hmp : (5 * doy + 2) / 153 = mp) :
    toYMD n =
      (if (if mp < 10 then mp + 3 else mp - 9) ≤ 2 then yoe + era * 400 + 1 else yoe + era * 400,
       if mp < 10 then mp + 3 else mp - 9,
       doy - (153 * mp + 2) / 5 + 1) := by
  simp only [toYMD, hera, hdoe, hyoe, hdoy, hmp]

/-- Back from March-based coordinates to year and month, as `toYMD` does it. -/
theorem ofYMD_march (yp mp d : Int) (h0 : 0 ≤ mp) (h1 : mp ≤ 11) :
    ofYMD (if (if mp < 10 then mp + 3 else mp - 9) ≤ 2 then yp + 1 else yp)
      (if mp < 10 then mp + 3 else mp - 9) d = ofMarch yp mp d := by
  by_cases h : mp < 10
  · rw [if_pos h, if_neg (by omega), ofYMD_of_two_lt _ _ _ (by omega), Int.add_sub_cancel]
  · rw [if_neg h, if_pos (by omega), ofYMD_of_le_two _ _ _ (by omega), Int.add_sub_cancel,
      Int.sub_add_cancel]

/-- A day inside month `mp` of the March-based year `yp` is a real date; February (`mp = 11`)
    ends the year, so its length is the leap rule of the following January-based year. -/
theorem validYMD_march (yp mp d : Int) (h0 : 0 ≤ mp) (h1 : mp ≤ 11) (hd : 1 ≤ d)
    (hlen : (153 * mp + 2) / 5 + d ≤ (153 * (mp + 1) + 2) / 5)
    (hfeb : mp = 11 → d ≤ 28 ∨ (d = 29 ∧ isLeap (yp + 1) = true)) :
    validYMD (if (if mp < 10 then mp + 3 else mp - 9) ≤ 2 then yp + 1 else yp)
      (if mp < 10 then mp + 3 else mp - 9) d = true := by
  rw [validYMD_def]
  by_cases h11 : mp = 11
  · subst h11
    rw [if_neg (by decide), if_pos (by decide)]
    refine ⟨by decide, by decide, hd, ?_⟩
    rw [show (11 : Int) - 9 = 2 from rfl, daysInMonth_feb]
    rcases hfeb rfl with h | ⟨h, hl⟩
    · split <;> omega
    · rw [hl, if_pos rfl]; omega
  · by_cases h : mp < 10
    · have h3 : 2 < mp + 3 := by omega
      rw [if_pos h, if_neg (Int.not_le.2 h3)]
      have := mstart_step yp (mp + 3) mp (Int.le_trans (by decide) (Int.le_of_lt h3)) (by omega) (Int.ne_of_gt h3)
        (by rw [if_pos h3, Int.add_sub_cancel])
      omega
    · have h10 : mp = 10 := by omega
      subst h10
      rw [if_neg (by decide), if_pos (by decide)]
      have := mstart_step (yp + 1) (10 - 9) 10 (by decide) (by decide) (by decide) rfl
      omega

theorem era_shift (yoe era : Int) (h0 : 0 ≤ yoe) (h1 : yoe ≤ 399) :
    365 * (yoe + era * 400) + (yoe + era * 400) / 4 - (yoe + era * 400) / 100 +
        (yoe + era * 400) / 400 =
      era * 146097 + (365 * yoe + yoe / 4 - yoe / 100) := by
  omega

/-- The two century terms of Hinnant's year formula add up to the century `c`, also on the last
    day of the era (where both are one too large). -/
theorem century_terms (c doe : Int) (hc0 : 0 ≤ c) (hc : c ≤ 3) (hr0 : 0 ≤ doe - 36524 * c)
    (hr : doe - 36524 * c < 36524 ∨ (c = 3 ∧ doe - 36524 * c = 36524)) :
    doe / 36524 - doe / 146096 = c := by
  omega

/-- On day `r` of 4-year cycle `q` of century `c`, `doe / 1460` exceeds the number `25 c + q` of
    whole cycles by one exactly on the last `24 c + q + 1` days of the (1461-day) cycle. -/
theorem div_1460 (c q r doe : Int) (hc0 : 0 ≤ c) (hc : c ≤ 3) (hq0 : 0 ≤ q) (hq : q ≤ 24)
    (hr0 : 0 ≤ r) (hr : r ≤ 1460) (hdoe : doe = 36524 * c + 1461 * q + r) :
    (24 * c + q + r < 1460 ∧ doe / 1460 = 25 * c + q) ∨
      (1460 ≤ 24 * c + q + r ∧ doe / 1460 = 25 * c + q + 1) := by
  omega

/-- So the dividend of the year formula is `365 * year + day of year`, or one less: never on
    day 0 of a year and always on day 365. -/
theorem yoe_of_cycle (c q s r A : Int) (hc0 : 0 ≤ c) (hc : c ≤ 3) (hq0 : 0 ≤ q) (hq : q ≤ 24)
    (hs0 : 0 ≤ s) (hs : s ≤ 3) (hd0 : 0 ≤ r - 365 * s)
    (hd : r - 365 * s < 365 ∨ (r - 365 * s = 365 ∧ s = 3))
    (hA : (24 * c + q + r < 1460 ∧ A = 25 * c + q) ∨ (1460 ≤ 24 * c + q + r ∧ A = 25 * c + q + 1)) :
    (36524 * c + 1461 * q + r - A + c) / 365 = 100 * c + 4 * q + s := by
  omega

/-- Every day of a 400-year era lies in century `c`, 4-year cycle `q` of the century, on day `r`
    of the cycle and in year `s` of it; a 366th day ends a cycle, and the last cycle of a century
    has one only when the century ends the era. -/
theorem doe_decomp (doe : Int) (h0 : 0 ≤ doe) (h1 : doe < 146097) :
    ∃ c q s r : Int, 0 ≤ c ∧ c ≤ 3 ∧ 0 ≤ q ∧ q ≤ 24 ∧ 0 ≤ s ∧ s ≤ 3 ∧ 0 ≤ r ∧ r ≤ 1460 ∧
      0 ≤ r - 365 * s ∧ (r - 365 * s < 365 ∨ (r - 365 * s = 365 ∧ s = 3 ∧ (q ≠ 24 ∨ c = 3))) ∧
      doe = 36524 * c + 1461 * q + r ∧ doe / 36524 - doe / 146096 = c := by
  obtain ⟨c, hc0, hc3, hr1, hr1'⟩ : ∃ c : Int, 0 ≤ c ∧ c ≤ 3 ∧ 0 ≤ doe - 36524 * c ∧
      (doe - 36524 * c < 36524 ∨ (c = 3 ∧ doe - 36524 * c = 36524)) := by
    by_cases h : doe = 146096
    · exact ⟨3, by omega⟩
    · exact ⟨doe / 36524, by omega⟩
  have hBC := century_terms c doe hc0 hc3 hr1 hr1'
  -- `omega` works through every hypothesis in the context: from here on the quotients of `doe`
  -- are atoms, and each step clears what it does not need
  generalize doe / 36524 - doe / 146096 = BC at hBC ⊢
  generalize hr : doe - 36524 * c = r1 at hr1 hr1'
  obtain ⟨q, hq0, hq24, hr2, hr2'⟩ : ∃ q : Int, 0 ≤ q ∧ q ≤ 24 ∧ 0 ≤ r1 - 1461 * q ∧
      (r1 - 1461 * q < 1460 ∨ (r1 - 1461 * q = 1460 ∧ (q ≠ 24 ∨ c = 3))) := by
    clear hBC hr h0 h1
    by_cases h : r1 = 36524
    · exact ⟨24, by omega⟩
    · exact ⟨r1 / 1461, by omega⟩
  generalize hr' : r1 - 1461 * q = r2 at hr2 hr2'
  obtain ⟨s, hs0, hs3, hr3, hr3'⟩ : ∃ s : Int, 0 ≤ s ∧ s ≤ 3 ∧ 0 ≤ r2 - 365 * s ∧
      (r2 - 365 * s < 365 ∨ (r2 - 365 * s = 365 ∧ s = 3 ∧ r2 = 1460)) := by
    clear hBC hr hr' h0 h1 hr1 hr1' hq0 hq24
    by_cases h : r2 = 1460
    · exact ⟨3, by omega⟩
    · exact ⟨r2 / 365, by omega⟩
  refine ⟨c, q, s, r2, hc0, hc3, hq0, hq24, hs0, hs3, hr2, by clear hr3' hr1'; omega, hr3, ?_,
    by clear hr3' hr2' hr1'; omega, hBC⟩
  rcases hr3' with h | ⟨h, h', h''⟩
  · exact Or.inl h
  · exact Or.inr ⟨h, h', by clear hr1'; omega⟩

theorem yoe_split (c q s : Int) (hq0 : 0 ≤ q) (hq : q ≤ 24) (hs0 : 0 ≤ s) (hs : s ≤ 3) :
    (100 * c + 4 * q + s) / 4 = 25 * c + q ∧ (100 * c + 4 * q + s) / 100 = c := by
  omega

/-- The year after the third year of a 4-year cycle is a leap year, unless the cycle ends a
    century that does not end the era (the leap rule has period 400). -/
theorem leap_of_cycle_end (c q era : Int) (hq0 : 0 ≤ q) (hq : q ≤ 24) (h : q ≠ 24 ∨ c = 3) :
    isLeap (100 * c + 4 * q + 3 + era * 400 + 1) = true := by
  rw [isLeap_iff]; omega

/-- Year of era and day of year as `toYMD` computes them; a 366th day belongs to a year that
    ends in a leap February. -/
theorem civil_year (doe era : Int) (h0 : 0 ≤ doe) (h1 : doe < 146097) :
    ∃ yoe doy : Int, (doe - doe / 1460 + doe / 36524 - doe / 146096) / 365 = yoe ∧
      doe - (365 * yoe + yoe / 4 - yoe / 100) = doy ∧ 0 ≤ yoe ∧ yoe ≤ 399 ∧ 0 ≤ doy ∧
      (doy ≤ 364 ∨ (doy = 365 ∧ isLeap (yoe + era * 400 + 1) = true)) := by
  obtain ⟨c, q, s, r, hc0, hc3, hq0, hq24, hs0, hs3, hr0, hr, hd0, hd, hdoe, hBC⟩ := doe_decomp doe h0 h1
  have hY := yoe_of_cycle c q s r (doe / 1460) hc0 hc3 hq0 hq24 hs0 hs3 hd0 (hd.imp id fun h => ⟨h.1, h.2.1⟩)
    (div_1460 c q r doe hc0 hc3 hq0 hq24 hr0 hr hdoe)
  have e : doe - doe / 1460 + doe / 36524 - doe / 146096 = 36524 * c + 1461 * q + r - doe / 1460 + c := by
    rw [← hdoe, ← hBC, Int.add_sub_assoc]
  obtain ⟨e4, e100⟩ := yoe_split c q s hq0 hq24 hs0 hs3
  refine ⟨100 * c + 4 * q + s, r - 365 * s, e ▸ hY, ?_, ?_, ?_, hd0, ?_⟩
  · rw [e4, e100]; clear e4 e100 hBC hd hY e; omega
  · clear e4 e100 hBC hd hdoe hY e; omega
  · clear e4 e100 hBC hd hdoe hY e; omega
  · rcases hd with h | ⟨h, rfl, h'⟩
    · exact Or.inl (Int.le_of_lt_add_one h)
    · exact Or.inr ⟨h, leap_of_cycle_end c q era hq0 hq24 h'⟩

/-- `toYMD n` is a real date whose day number is `n`.  `doe_decomp` splits the day of era into
    century, 4-year cycle, year and day; `civil_year` shows that Hinnant's year formula returns
    that year; `mstart_bracket` finds the month; `era_shift` lands on `ofMarch`. -/
theorem toYMD_valid_and_inverse (n : Int) :
    validYMD (toYMD n).1 (toYMD n).2.1 (toYMD n).2.2 = true ∧
      ofYMD (toYMD n).1 (toYMD n).2.1 (toYMD n).2.2 = n := by
  obtain ⟨era, doe, hera, hn, hd0, hd1⟩ : ∃ era doe : Int, (n + 719468) / 146097 = era ∧
      n + 719468 - era * 146097 = doe ∧ 0 ≤ doe ∧ doe < 146097 :=
    ⟨_, _, rfl, rfl, by omega⟩
  obtain ⟨yoe, doy, hY, hD, hy0, hy1, hdoy0, hlast⟩ := civil_year doe era hd0 hd1
  obtain ⟨hmp0, hmp11, hb1, hb2⟩ := mstart_bracket doy _ rfl hdoy0
    (hlast.elim (fun h => Int.le_trans h (by decide)) fun h => Int.le_of_eq h.1)
  rw [toYMD_unfold n era doe yoe doy _ hera hn hY hD rfl]
  simp only []
  clear hY hera
  generalize (5 * doy + 2) / 153 = mp at hmp0 hmp11 hb1 hb2 ⊢
  refine ⟨validYMD_march _ mp _ hmp0 hmp11 (Int.le_add_of_nonneg_left (Int.sub_nonneg_of_le hb1)) (by omega) ?_, ?_⟩
  · -- February starts on day 337 of the March-based year
    intro h11
    subst h11
    rcases hlast with h | ⟨h, hl⟩
    · exact Or.inl (by omega)
    · exact Or.inr ⟨by omega, hl⟩
  · rw [ofYMD_march _ mp _ hmp0 hmp11, ofMarch, era_shift yoe era hy0 hy1]
    omega

theorem ofYMD_toYMD (n : Int) : ofYMD (toYMD n).1 (toYMD n).2.1 (toYMD n).2.2 = n :=
  (toYMD_valid_and_inverse n).2

theorem validYMD_toYMD (n : Int) : validYMD (toYMD n).1 (toYMD n).2.1 (toYMD n).2.2 = true :=
  (toYMD_valid_and_inverse n).1

theorem toYMD_ofYMD (y m d : Int) (hv : validYMD y m d = true) :
    toYMD (ofYMD y m d) = (y, m, d) := by
  obtain ⟨h1, h2, h3⟩ := ofYMD_inj _ _ _ y m d (validYMD_toYMD (ofYMD y m d)) hv
    (ofYMD_toYMD (ofYMD y m d))
  exact Prod.ext h1 (Prod.ext h2 h3)

theorem month_bounds (n : Int) :
    1 ≤ monthOf n ∧ monthOf n ≤ 12 ∧ 1 ≤ dayOf n ∧ dayOf n ≤ daysInMonth (yearOf n) (monthOf n) :=
  validYMD_def.1 (validYMD_toYMD n)

theorem validYMD_first (y m : Int) (h1 : 1 ≤ m) (h2 : m ≤ 12) : validYMD y m 1 = true := by
  have := daysInMonth_ge y m
  rw [validYMD_def]; omega

theorem ofYMD_first_le (y m' m d : Int) (h1 : 1 ≤ m') (h2 : m' ≤ m) (h3 : m ≤ 12) (hd : 1 ≤ d) :
    ofYMD y m' 1 ≤ ofYMD y m d := by
  rw [ofYMD_fom y m' 1 h1 (Int.le_trans h2 h3), ofYMD_fom y m d (Int.le_trans h1 h2) h3]
  have := fom_spacing (t := 12 * y + (m' - 1)) (t' := 12 * y + (m - 1))
    (Int.add_le_add_left (Int.sub_le_sub_right h2 1) _)
  omega

/-- `addMonths` with the month index `t` of the target month named: the day of month is kept,
    snapped to the end of the target month from the end of the source month, or clipped. -/
theorem addMonths_eq (n k t : Int) (ht : t = yearOf n * 12 + (monthOf n - 1) + k) :
    addMonths n k = ofYMD (t / 12) (t % 12 + 1)
      (if dayOf n = daysInMonth (yearOf n) (monthOf n) then daysInMonth (t / 12) (t % 12 + 1)
       else if dayOf n > daysInMonth (t / 12) (t % 12 + 1) then daysInMonth (t / 12) (t % 12 + 1)
       else dayOf n) := by
  subst ht
  unfold addMonths yearOf monthOf dayOf
  obtain ⟨y, m, d⟩ := toYMD n
  rfl

theorem addMonths_in_month (n k t : Int) (ht : t = yearOf n * 12 + (monthOf n - 1) + k) :
    fom t ≤ addMonths n k ∧ addMonths n k < fom (t + 1) := by
  have hb := month_bounds n
  have hg := daysInMonth_ge (t / 12) (t % 12 + 1)
  have h1 : 1 ≤ daysInMonth (t / 12) (t % 12 + 1) := Int.le_trans (by decide) hg
  rw [addMonths_eq n k t ht]
  by_cases e : dayOf n = daysInMonth (yearOf n) (monthOf n)
  · rw [if_pos e]; exact day_in_month t _ h1 (Int.le_refl _)
  · rw [if_neg e]
    by_cases e' : dayOf n > daysInMonth (t / 12) (t % 12 + 1)
    · rw [if_pos e']; exact day_in_month t _ h1 (Int.le_refl _)
    · rw [if_neg e']; exact day_in_month t _ hb.2.2.1 (Int.not_lt.1 e')

theorem addMonths_gt (n k : Int) (hk : 0 < k) : n < addMonths n k := by
  have hb := month_bounds n
  have i := (valid_in_month _ _ _ (validYMD_toYMD n)).2
  rw [ofYMD_toYMD n] at i
  have j := (addMonths_in_month n k _ rfl).1
  have := fom_spacing (t := 12 * yearOf n + (monthOf n - 1) + 1) (t' := yearOf n * 12 + (monthOf n - 1) + k)
    (by omega)
  simp only [yearOf, monthOf] at *
  omega

/-- boost's end-of-month snap leaves a day of the month where it is when the target month is
    as long as the source month. -/
theorem snap_of_le {d len : Int} (h : d ≤ len) :
    (if d = len then len else if d > len then len else d) = d := by
  by_cases e : d = len
  · rw [if_pos e, e]
  · rw [if_neg e, if_neg (Int.not_lt.2 h)]

theorem addMonths_zero (n : Int) : addMonths n 0 = n := by
  have hb := month_bounds n
  rw [addMonths_eq n 0 _ rfl]
  obtain ⟨e1, e2⟩ := index_div_mod (t := yearOf n * 12 + (monthOf n - 1) + 0) (y := yearOf n)
    (by rw [Int.add_zero, Int.mul_comm]) hb.1 hb.2.1
  rw [e1, e2]
  rw [snap_of_le hb.2.2.2]; exact ofYMD_toYMD n

theorem toYMD_addMonths_first (n k : Int) (hd : dayOf n = 1) :
    toYMD (addMonths n k) =
      ((yearOf n * 12 + (monthOf n - 1) + k) / 12, (yearOf n * 12 + (monthOf n - 1) + k) % 12 + 1, 1) := by
  have g1 := daysInMonth_ge (yearOf n) (monthOf n)
  have g2 := daysInMonth_ge ((yearOf n * 12 + (monthOf n - 1) + k) / 12)
    ((yearOf n * 12 + (monthOf n - 1) + k) % 12 + 1)
  rw [addMonths_eq n k _ rfl, hd, if_neg (by omega), if_neg (by omega)]
  exact toYMD_ofYMD _ _ _ (validYMD_first _ _ (Int.le_add_of_nonneg_left (Int.emod_nonneg _ (by decide)))
    (Int.add_one_le_of_lt (Int.emod_lt_of_pos _ (by decide))))

theorem dayOf_addMonths_first (n k : Int) (hd : dayOf n = 1) : dayOf (addMonths n k) = 1 := by
  rw [dayOf, toYMD_addMonths_first n k hd]

theorem monthOf_addMonths_first (n k : Int) (hd : dayOf n = 1) :
    monthOf (addMonths n k) = (yearOf n * 12 + (monthOf n - 1) + k) % 12 + 1 := by
  rw [monthOf, toYMD_addMonths_first n k hd]

theorem weekday_succ (n : Int) : weekday (n + 1) = (weekday n + 1) % 7 := by
  simp only [weekday]; rw [Int.emod_add_emod, Int.add_right_comm]

theorem weekday_range (n : Int) : 0 ≤ weekday n ∧ weekday n < 7 :=
  ⟨Int.emod_nonneg _ (by decide), Int.emod_lt_of_pos _ (by decide)⟩

theorem weekday_add_weeks (n k : Int) : weekday (n + 7 * k) = weekday n := by
  simp only [weekday]; rw [Int.add_right_comm, Int.add_mul_emod_self_left]

theorem weekday_add_week (n : Int) : weekday (n + 7) = weekday n :=
  weekday_add_weeks n 1

/-- 1970-01-01 (day 0) was a Thursday. -/
theorem weekday_epoch : ofYMD 1970 1 1 = 0 ∧ weekday 0 = 4 := by decide

end Ledger.Cal

namespace Ledger.PCal
open Ledger.Cal

theorem isLeap_iff (y : Int) : isLeap y = true ↔ ((y % 4 = 0 ∧ y % 100 ≠ 0) ∨ y % 400 = 0) :=
  Cal.isLeap_iff y

theorem ofYMD_toYMD (n : Int) : ofYMD (toYMD n).1 (toYMD n).2.1 (toYMD n).2.2 = n :=
  Cal.ofYMD_toYMD n

theorem toYMD_ofYMD (y m d : Int) (hv : validYMD y m d = true) : toYMD (ofYMD y m d) = (y, m, d) :=
  Cal.toYMD_ofYMD y m d hv

theorem dayOf_ofYMD (y m d : Int) (hv : validYMD y m d = true) : dayOf (ofYMD y m d) = d := by
  rw [dayOf, toYMD_ofYMD y m d hv]

theorem monthOf_ofYMD (y m d : Int) (hv : validYMD y m d = true) : monthOf (ofYMD y m d) = m := by
  rw [monthOf, toYMD_ofYMD y m d hv]

theorem yearOf_ofYMD (y m d : Int) (hv : validYMD y m d = true) : yearOf (ofYMD y m d) = y := by
  rw [yearOf, toYMD_ofYMD y m d hv]

end Ledger.PCal

namespace Ledger.Cal

/-- Outside the end of February a day exists in every year or in none. -/
theorem validYMD_other_year {Y m d : Int} (Y' : Int) (hv : validYMD Y m d = true)
    (hg : m ≠ 2 ∨ d < 28) : validYMD Y' m d = true := by
  rw [validYMD_def] at hv ⊢
  rcases hg with hg | hg
  · rw [daysInMonth_eq_of_ne_two hg Y' Y]; exact hv
  · have := daysInMonth_ge Y' m; omega

/-- boost's `years(k)` (times.cc 168) keeps month and day, except where its end-of-month snap can
    fire. -/
theorem addYears_ofYMD (Y m d k : Int) (hv : validYMD Y m d = true) (hg : m ≠ 2 ∨ d < 28) :
    addYears (ofYMD Y m d) k = ofYMD (Y + k) m d := by
  obtain ⟨hm1, hm12, hd1, hdl⟩ := validYMD_def.1 hv
  simp only [addYears, addMonths, toYMD_ofYMD Y m d hv]
  obtain ⟨e1, e2⟩ := PCal.index_div_mod (t := Y * 12 + (m - 1) + 12 * k) (y := Y + k) (by omega) hm1 hm12
  rw [e1, e2]
  have hd : (if d = daysInMonth Y m then daysInMonth (Y + k) m
      else if d > daysInMonth (Y + k) m then daysInMonth (Y + k) m else d) = d := by
    rcases hg with hg | hg
    · rw [daysInMonth_eq_of_ne_two hg (Y + k) Y]; exact snap_of_le hdl
    · rw [if_neg (Int.ne_of_lt (Int.lt_of_lt_of_le hg (daysInMonth_ge Y m))),
        if_neg (Int.not_lt.2 (Int.le_of_lt (Int.lt_of_lt_of_le hg (daysInMonth_ge (Y + k) m))))]
  rw [hd]

end Ledger.Cal
