/-
Lemmas behind Props/C19.lean: sorting the enumeration of a finite map by a total
order on its (distinct) keys forgets the enumeration; what sorting by address
leaks; compare_by_commodity on annotated lots; the two balance walks of
value_t's comparisons; the sorted walk `Value.sortByComm` of `<` on a balance.
-/
import LedgerModel.Model.OrderSources
import LedgerModel.Lemmas.Value
import LedgerModel.Lemmas.ListExtra

namespace Ledger
namespace OS

structure TotalOrderB {κ : Type} (le : κ → κ → Bool) : Prop where
  trans : ∀ a b c, le a b = true → le b c = true → le a c = true
  total : ∀ a b, (le a b || le b a) = true
  antisymm : ∀ a b, le a b = true → le b a = true → a = b

theorem commLe_order : TotalOrderB commLe where
  trans _ _ _ h h' := decide_eq_true (String.le_trans (of_decide_eq_true h) (of_decide_eq_true h'))
  total a b := by
    rw [Bool.or_eq_true]; exact (String.le_total a b).imp decide_eq_true decide_eq_true
  antisymm _ _ h h' := String.le_antisymm (of_decide_eq_true h) (of_decide_eq_true h')

theorem natBle_order : TotalOrderB Nat.ble where
  trans _ _ _ h h' := Nat.ble_eq_true_of_le (Nat.le_trans (Nat.le_of_ble_eq_true h) (Nat.le_of_ble_eq_true h'))
  total a b := by
    rw [Bool.or_eq_true]; exact (Nat.le_total a b).imp Nat.ble_eq_true_of_le Nat.ble_eq_true_of_le
  antisymm _ _ h h' := Nat.le_antisymm (Nat.le_of_ble_eq_true h) (Nat.le_of_ble_eq_true h')

theorem sortBy_perm {α κ : Type} (key : α → κ) (le : κ → κ → Bool) (l : List α) :
    (sortBy key le l).Perm l := List.mergeSort_perm l _

theorem sortBy_sorted {α κ : Type} (key : α → κ) {le : κ → κ → Bool} (ho : TotalOrderB le)
    (l : List α) : (sortBy key le l).Pairwise (fun x y => le (key x) (key y) = true) :=
  List.pairwise_mergeSort (fun a b c => ho.trans (key a) (key b) (key c))
    (fun a b => ho.total (key a) (key b)) l

theorem sortBy_of_sorted {α κ : Type} (key : α → κ) (le : κ → κ → Bool) {l : List α}
    (h : l.Pairwise (fun x y => le (key x) (key y) = true)) : sortBy key le l = l :=
  List.mergeSort_of_pairwise h

theorem sortBy_eq_sorted {α κ : Type} (key : α → κ) {le : κ → κ → Bool} (ho : TotalOrderB le)
    {l s : List α} (hp : l.Perm s) (hd : l.Pairwise (fun x y => key x ≠ key y))
    (hs : s.Pairwise (fun x y => le (key x) (key y) = true)) : sortBy key le l = s :=
  have p := sortBy_perm key le l
  sorted_perm_unique key ho.antisymm (p.trans hp)
    ((p.pairwise_iff fun h => h.symm).mpr hd) (sortBy_sorted key ho l) hs

theorem sortBy_eq_of_perm {α κ : Type} (key : α → κ) {le : κ → κ → Bool} (ho : TotalOrderB le)
    {l l' : List α} (hp : l.Perm l') (hd : l.Pairwise (fun x y => key x ≠ key y)) :
    sortBy key le l = sortBy key le l' :=
  sortBy_eq_sorted key ho (hp.trans (sortBy_perm key le l').symm) hd (sortBy_sorted key ho l')

theorem sortByName_eq_sorted {α : Type} (key : α → String) {l s : List α} (hp : l.Perm s)
    (hd : l.Pairwise (fun x y => key x ≠ key y))
    (hs : s.Pairwise (fun x y => commLe (key x) (key y) = true)) : sortBy key commLe l = s :=
  sortBy_eq_sorted key commLe_order hp hd hs

/-- A consumer that emits its table sorted one way, sorted another way or as it is, depending
    on the form of the source, emits a rearrangement of the table. -/
theorem perm_ite_ite {α : Type} {c c' : Prop} [Decidable c] [Decidable c'] {s s' t : List α}
    (hs : s.Perm t) (hs' : s'.Perm t) : (if c then s else if c' then s' else t).Perm t := by
  split
  · exact hs
  · split
    · exact hs'
    · exact .refl t

/-- Sorting by address leaks the addresses: two address assignments that order two entries
    differently give the two orders. -/
theorem sortByAddr_pair_ne {β : Type} (a b : String × β) (addr addr' : String → Nat)
    (h : addr a.1 < addr b.1) (h' : addr' b.1 < addr' a.1) :
    sortBy (fun e => addr e.1) Nat.ble [a, b] ≠ sortBy (fun e => addr' e.1) Nat.ble [a, b] := by
  rw [sortBy_of_sorted (fun e : String × β => addr e.1) _
      (List.pairwise_pair.mpr (Nat.ble_eq_true_of_le (Nat.le_of_lt h))),
    sortBy_eq_sorted (fun e : String × β => addr' e.1) natBle_order (List.Perm.swap b a [])
      (List.pairwise_pair.mpr (Nat.ne_of_gt h'))
      (List.pairwise_pair.mpr (Nat.ble_eq_true_of_le (Nat.le_of_lt h')))]
  intro e
  rw [(List.cons.inj e).1] at h
  exact Nat.lt_irrefl _ h

theorem cmpDetail_self {α : Type} [LT α] [DecidableRel (α := α) (· < ·)] (hirr : ∀ a : α, ¬ a < a)
    (x : String) (o : Option α) : cmpDetail x (fun a b => decide (a < b)) o o = none := by
  cases o with
  | none => rfl
  | some a =>
    show (if decide (a < a) = true then some (-1) else if decide (a < a) = true then some 1
      else (none : Option Int)) = none
    rw [decide_eq_false (hirr a)]; rfl

theorem compareLots_of_annotated {l r : Lot} (hl : l.annotated = true) (hr : r.annotated = true)
    (hs : l.sym = r.sym) :
    compareLots l r =
      match cmpDetail "price" (fun a b => decide (a < b)) l.price r.price with
      | some c => c
      | none => match cmpDetail "date" (fun a b => decide (a < b)) l.date r.date with
        | some c => c
        | none => match cmpDetail "tag" (fun a b => decide (a < b)) l.tag r.tag with
          | some c => c
          | none => -1 := by
  unfold compareLots
  rw [hs, if_neg (String.lt_irrefl _), if_neg (String.lt_irrefl _), hl, hr]
  rfl

/-- A walk over the components of a balance that stops with `false` at the first component
    failing the test `p` and answers `true` at the end of a non-empty balance: when no test
    throws it is "non-empty and every component passes". -/
theorem walk_eq_all {p : Amount → Res Bool} {f : Balance → Res Bool} (hnil : f [] = .ok false)
    (hcons : ∀ c cs, f (c :: cs) = do
      let g ← p c
      if ¬ g then pure false
      else match cs with
        | [] => pure true
        | _ => f cs) :
    ∀ b : Balance, (∀ c ∈ b, ∃ r, p c = .ok r) →
      f b = .ok (!b.isEmpty && b.all (fun c => p c = .ok true)) := by
  intro b
  induction b with
  | nil => intro _; exact hnil
  | cons c cs ih =>
    intro h
    obtain ⟨r, hr⟩ := h c List.mem_cons_self
    rw [hcons, hr]
    rw [List.all_cons, hr]
    cases r with
    | false => rfl
    | true =>
      cases cs with
      | nil => rfl
      | cons d ds => exact (ih fun d hd => h d (List.mem_cons_of_mem _ hd)).trans rfl

/-- `v > c` evaluated and true. -/
def gtOk (v : Value) (c : Amount) : Bool := Value.gtAmt v c = .ok true

/-- When no component comparison throws, `bal < v` is "non-empty and every
    component is below v". -/
theorem ltAll_eq_all (v : Value) : ∀ (b : Balance), (∀ c ∈ b, ∃ r, Value.gtAmt v c = .ok r) →
    Value.lt.ltAll b v = .ok (!b.isEmpty && b.all (gtOk v)) :=
  walk_eq_all (f := fun b => Value.lt.ltAll b v) rfl (fun _ _ => rfl)

def ltOk (v : Value) (c : Amount) : Bool := Value.lt v (.amt c) = .ok true

theorem gtAll_eq_all (v : Value) (hv : (∃ n, v = .int n) ∨ (∃ a, v = .amt a)) (b : Balance) :
    gtAll b v = .ok (!b.isEmpty && b.all (ltOk v)) :=
  walk_eq_all (f := fun b => gtAll b v) rfl (fun _ _ => rfl) b fun c _ => Value.lt_scalar hv (.inr ⟨c, rfl⟩)

theorem sortByComm_ins_cons (x y : Amount) (ys : Balance) : Value.sortByComm.ins x (y :: ys) =
    if decide (x.comm ≤ y.comm) then x :: y :: ys else y :: Value.sortByComm.ins x ys := by
  simp only [Value.sortByComm.ins, decide_eq_true_eq, ← String.not_lt, ite_not]

theorem sortByComm_perm : ∀ b : Balance, (Value.sortByComm b).Perm b :=
  foldr_ins_perm (ins := Value.sortByComm.ins) (fun _ => rfl) sortByComm_ins_cons

theorem sortByComm_sorted : ∀ b : Balance, (Value.sortByComm b).Pairwise (fun a b => a.comm ≤ b.comm) :=
  foldr_ins_pairwise (ins := Value.sortByComm.ins) (fun _ => rfl) sortByComm_ins_cons
    (fun _ _ => of_decide_eq_true)
    (fun _ _ h => String.not_lt.mp (String.lt_asymm (String.not_le.mp (of_decide_eq_false h))))
    (fun _ _ _ => String.le_trans)

theorem sortByComm_eq_of_perm {b b' : Balance} (hp : b.Perm b')
    (hd : b.Pairwise (fun x y => x.comm ≠ y.comm)) : Value.sortByComm b = Value.sortByComm b' :=
  have p := sortByComm_perm b
  sorted_perm_unique Amount.comm (fun _ _ => String.le_antisymm)
    (p.trans (hp.trans (sortByComm_perm b').symm)) ((p.pairwise_iff fun h => h.symm).mpr hd)
    (sortByComm_sorted b) (sortByComm_sorted b')

end OS
end Ledger
