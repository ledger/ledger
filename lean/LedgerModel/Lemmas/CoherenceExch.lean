/-
`FinX.finalizeF` without an elided posting, in file order: sign facts about `Rat`
products; when the implicit two-commodity exchange (xact.cc 220-283) does not apply
(`impliedCase_false`) the verdict is the plain zero test (`fin_noNull_plain`); the pricing
loop runs to completion on a numeric balance (`exchPosts_progress`) and, on exact
decimal amounts, leaves the transaction balanced exactly when the two residual sums have
opposite signs (`exchangeWith_outcome`) — what `OF.acceptNoNull` and `Assert.impliedPrice`
state directly; the exchange is entered with the residual pair in either order
(`exchange2_implied`), which gives `fin_noNull_implied`.
-/
import LedgerModel.Lemmas.CoherenceFinX
import LedgerModel.Props.C03

namespace Ledger
namespace Coh

open OF (bamt vadd xbalance nullPosts isNullPost inferred)

theorem neg_or_pos {x : Rat} (h : x ≠ 0) : x < 0 ∨ 0 < x :=
  (Rat.le_total (a := 0) (b := x)).elim (fun h1 => Or.inr (Rat.lt_of_le_of_ne h1 (Ne.symm h)))
    (fun h1 => Or.inl (Rat.lt_of_le_of_ne h1 h))

theorem neg_pos {x : Rat} (h : x < 0) : 0 < -x := Rat.lt_neg_iff.mp h

theorem not_neg_of_pos {x : Rat} (h : 0 < x) : ¬ x < 0 := Rat.not_lt.2 (Rat.le_of_lt h)

theorem mul_neg_of_pos_neg {x y : Rat} (hx : 0 < x) (hy : y < 0) : x * y < 0 := by
  have := Rat.lt_neg_iff.mp (Rat.mul_neg x y ▸ Rat.mul_pos hx (neg_pos hy))
  rwa [Rat.neg_zero] at this

theorem mul_pos_of_neg_neg {x y : Rat} (hx : x < 0) (hy : y < 0) : 0 < x * y := by
  have := Rat.mul_pos (neg_pos hx) (neg_pos hy)
  rwa [Rat.neg_mul, Rat.mul_neg, Rat.neg_neg] at this

/-- a product of non-zero rationals is negative exactly when the signs differ
    (C08 tests the product, C09 compares the signs) -/
theorem mul_neg_iff_signs (x y : Rat) (hx : x ≠ 0) (hy : y ≠ 0) :
    decide (x * y < 0) = (decide (x < 0) != decide (y < 0)) := by
  rcases neg_or_pos hx with hx | hx <;> rcases neg_or_pos hy with hy | hy
  · rw [decide_eq_false (not_neg_of_pos (mul_pos_of_neg_neg hx hy)), decide_eq_true hx, decide_eq_true hy]
    rfl
  · rw [decide_eq_true (Rat.mul_comm x y ▸ mul_neg_of_pos_neg hy hx), decide_eq_true hx,
      decide_eq_false (not_neg_of_pos hy)]
    rfl
  · rw [decide_eq_true (mul_neg_of_pos_neg hx hy), decide_eq_false (not_neg_of_pos hx), decide_eq_true hy]
    rfl
  · rw [decide_eq_false (not_neg_of_pos (Rat.mul_pos hx hy)), decide_eq_false (not_neg_of_pos hx),
      decide_eq_false (not_neg_of_pos hy)]
    rfl

theorem mul_self_pos {P : Rat} (h : P ≠ 0) : 0 < P * P :=
  (neg_or_pos h).elim (fun h1 => mul_pos_of_neg_neg h1 h1) (fun h1 => Rat.mul_pos h1 h1)

theorem mul_mul_self (t P : Rat) : P * (t * P) = t * (P * P) := by
  rw [← Rat.mul_assoc, Rat.mul_comm P t, Rat.mul_assoc]

theorem same_sign_of_mul (t P S : Rat) (ht : 0 ≤ t) (h : t * P = S) (hP : P ≠ 0) : ¬ (P * S < 0) := by
  rw [← h, mul_mul_self]
  exact Rat.not_lt.2 (Rat.mul_nonneg ht (Rat.le_of_lt (mul_self_pos hP)))

theorem opposite_sign_of_mul (t P S : Rat) (ht : 0 ≤ t) (h : t * P = -S) (hS : S ≠ 0) (hP : P ≠ 0) : P * S < 0 := by
  have hS' : S = -(t * P) := by rw [h, Rat.neg_neg]
  have ht0 : 0 < t := Rat.lt_of_le_of_ne ht fun e => hS (by rw [hS', ← e, Rat.zero_mul, Rat.neg_zero])
  rw [hS', Rat.mul_neg, mul_mul_self]
  exact Rat.neg_lt_iff.mp (Rat.mul_pos ht0 (mul_self_pos hP))

theorem add_self_eq_zero {x : Rat} (h : x + x = 0) : x = 0 := by
  have h2 : x * (1 + 1) = 0 := by rw [Rat.mul_add, Rat.mul_one, h]
  exact (Rat.mul_eq_zero.1 h2).resolve_right (by decide +kernel)

theorem abs_q_nonneg (a : Amount) : 0 ≤ a.abs.q := by
  unfold Amount.abs
  split
  · next h => exact Rat.le_of_lt (neg_pos h)
  · next h => exact Rat.not_lt.1 h

/-- the exchange does not apply: a cost is written, or the residual is not a pair
    of display-non-zero entries -/
theorem impliedCase_false {env : PrecEnv} {ps : List Posting} (hnull : nullPosts ps = [])
    (h : impliedCase env ps = false) :
    ps.any (fun p => p.cost.isSome) = true ∨
      ∀ x y, xbalance ps = .bal [x, y] → (!x.isZero env && !y.isZero env) = false := by
  unfold impliedCase at h
  rw [hnull] at h
  cases hc : ps.any (fun p => p.cost.isSome) with
  | true => exact Or.inl rfl
  | false =>
    refine Or.inr fun x y hB => ?_
    rw [hc, hB] at h
    exact h

theorem acceptNoNull_plain (env : PrecEnv) (ps : List Posting) (hnull : nullPosts ps = [])
    (himp : impliedCase env ps = false) :
    OF.acceptNoNull env ps (xbalance ps) = OF.valueIsZero env (xbalance ps) := by
  unfold OF.acceptNoNull
  split
  · next x y hB =>
    rcases impliedCase_false hnull himp with hc | hz
    · rw [if_pos hc]
    · split
      · rfl
      · rw [hz x y hB, if_neg Bool.false_ne_true]
  · rfl

theorem implicit_false (env : PrecEnv) (ps : List Posting) (hk : noKeepAmt ps = true)
    (hnull : nullPosts ps = []) (hca : costHasAmount ps = true) (himp : impliedCase env ps = false) :
    FinX.implicitExchange env (ps.map (fp env)) = false := by
  unfold FinX.implicitExchange
  rw [scan_noNull env ps hk hnull]
  split
  · next b heq =>
    have hB : xbalance ps = .bal b := congrArg (·.1) (Except.ok.inj heq)
    rw [decide_eq_false_iff_not]
    rintro ⟨hlen, hts, _, hall⟩
    rcases impliedCase_false hnull himp with hc | hz
    · -- a written cost is seen by `topScan`
      unfold costHasAmount at hca
      obtain ⟨p, hp, hpc⟩ := List.any_eq_true.1 hc
      obtain ⟨k, hk⟩ := Option.isSome_iff_exists.1 hpc
      have hpa := List.all_eq_true.1 hca p hp
      rw [hpc] at hpa
      obtain ⟨a, ha⟩ := Option.isSome_iff_exists.1 hpa
      have hfc : (fp env p).cost.isSome = true := by rw [fp_cost, ha, hk]; rfl
      rw [FinX.topScan_true_of_cost _ none ⟨fp env p, List.mem_map_of_mem hp, hfc, rfl⟩] at hts
      cases hts
    · rcases b with _ | ⟨x, _ | ⟨y, _ | _⟩⟩
      · cases hlen
      · cases hlen
      · rw [List.all_cons, List.all_cons, List.all_nil, Bool.and_true, hz x y hB] at hall
        cases hall
      · cases hlen
  · rfl

theorem fin_noNull_plain (env : PrecEnv) (enum : Balance → Balance) (henum : ∀ b, (enum b).Perm b)
    (date : String) (ps : List Posting) (hnull : nullPosts ps = [])
    (hk : noKeepAmt ps = true) (hvn : noVirtNull ps = true) (hco : costOtherComm ps = true)
    (hca : costHasAmount ps = true) (hla : noLotAmt ps = true) (himp : impliedCase env ps = false) :
    verdictFin (FinX.finalizeF env none enum date (ps.map (fp env))) = ref env ps := by
  have hex := FinX.exchange2_id_of_not_implicit env enum henum (ps.map (fp env)) (xbalance ps)
    (scan_noNull env ps hk hnull) (implicit_false env ps hk hnull hca himp)
  rw [fin_noNull env enum date ps _ _ hk hnull hvn hla hex (costsOk_fp env ps hco) (Mirror.map_fp env ps)]
  unfold ref
  rw [hnull]
  simp only
  rw [acceptNoNull_plain env ps hnull himp, valueIsZero_FinX_eq_OF]

theorem FinX_isNum_of_isNum {v : Value} (h : v.isNum = true) : FinX.isNum v = true := by
  cases v <;> first | rfl | cases h

theorem isNum_simplify (v : Value) (h : v.isNum = true) : v.simplify.isNum = true := by
  unfold Value.simplify
  split
  · rfl
  · split
    · rfl
    · exact h

theorem sub_amt_isNum (v : Value) (a : Amount) (h : v.isNum = true) :
    ∃ r, Value.sub v (.amt a) = .ok r ∧ r.isNum = true := by
  -- `Amount.sub` fails only on two different commodities
  have hsub : ∀ x : Amount, ¬(x.hasComm = true ∧ a.hasComm = true ∧ x.comm ≠ a.comm) →
      ∃ r, (Amount.sub x a).map (fun r => Value.simplify (.amt r)) = .ok r ∧ r.isNum = true :=
    fun x hx => ⟨_, congrArg (Except.map _) (if_neg hx), isNum_simplify _ rfl⟩
  cases v with
  | void => cases h
  | bool _ => cases h
  | int x =>
    rw [Value.sub]
    by_cases hp : Gen.intSubAmtPromotes ∧ a.hasComm = true
    · rw [if_pos hp]; exact ⟨_, rfl, isNum_simplify _ rfl⟩
    · rw [if_neg hp]; exact hsub _ fun h => Bool.false_ne_true h.1
  | amt x =>
    rw [Value.sub]
    by_cases hc : x.comm ≠ a.comm
    · rw [if_pos hc]; exact ⟨_, rfl, isNum_simplify _ rfl⟩
    · rw [if_neg hc]; exact hsub x fun h => hc h.2.2
  | bal b => exact ⟨_, rfl, isNum_simplify _ rfl⟩
/-- xact.cc 269-280 runs to completion on postings that all carry an amount; it
    touches nothing but `cost`/`costCalculated`. -/
theorem exchPosts_progress (env : PrecEnv) (comm : Comm) (pu : Amount) (hpu : pu.hasComm = true)
    (hne : pu.comm ≠ comm) : ∀ (L : List FinX.FPost) (B : Value), B.isNum = true →
    (∀ q ∈ L, q.amount.isSome = true) → (∀ q ∈ L, q.cost = none) →
    ∃ L' B', FinX.exchPosts env comm pu L B = .ok (L', B') ∧ L'.map keptFields = L.map keptFields ∧
      FinX.costsOk L' = true := by
  intro L
  induction L with
  | nil =>
    intro B _ _ _
    exact ⟨[], B, rfl, rfl, rfl⟩
  | cons p ps ih =>
    intro B hB hsome hnc
    have hs' : ∀ q ∈ ps, q.amount.isSome = true := fun q hq => hsome q (List.mem_cons_of_mem _ hq)
    have hn' : ∀ q ∈ ps, q.cost = none := fun q hq => hnc q (List.mem_cons_of_mem _ hq)
    obtain ⟨amt, ha⟩ := Option.isSome_iff_exists.1 (hsome p List.mem_cons_self)
    have hpc := hnc p List.mem_cons_self
    unfold FinX.exchPosts
    rw [ha]
    simp only
    by_cases hcnd : p.mustBalance = true ∧ amt.comm = comm
    · rw [if_pos hcnd]
      obtain ⟨b1, hb1, hN1⟩ := sub_amt_isNum B amt hB
      rw [hb1]
      simp only
      obtain ⟨b2, hb2, hN2⟩ := C03.add_total b1 (.amt (Amount.mul env pu amt)) (.inl hN1) rfl
      rw [hb2]
      simp only
      obtain ⟨L', B', h1, h2, h4⟩ := ih b2 hN2 hs' hn'
      rw [h1]
      refine ⟨_, B', rfl, ?_, ?_⟩
      · simp only [List.map_cons, h2, keptFields, ha]
      · unfold FinX.costsOk at h4 ⊢
        simp only [List.all_cons, h4, Bool.and_true]
        have : (Amount.mul env pu amt).comm = pu.comm := Amount.mul_comm_of_hasComm env pu amt hpu
        rw [this, hcnd.2]
        simpa using hne.symm
    · rw [if_neg hcnd]
      obtain ⟨L', B', h1, h2, h4⟩ := ih B hB hs' hn'
      rw [h1]
      refine ⟨_, B', rfl, ?_, ?_⟩
      · simp only [List.map_cons, h2]
      · unfold FinX.costsOk at h4 ⊢
        simp only [List.all_cons, h4, Bool.and_true, hpc]

theorem valueIsZero_of_den_zero (env : PrecEnv) (v : Value) (hn : FinX.isNum v = true) (hw : FinX.wfV v)
    (h : ∀ c, v.den c = 0) : FinX.valueIsZero env v = true := by
  cases v with
  | void => rfl
  | bool _ => cases hn
  | int n =>
    have := h ""
    simp only [Value.den, if_true] at this
    have : n = 0 := by
      have h2 : ((n : Int) : Rat) = ((0 : Int) : Rat) := by simpa using this
      exact Rat.intCast_inj.1 h2
    simp [FinX.valueIsZero, this]
  | amt a =>
    have := h a.comm
    simp only [Value.den, Amount.den, if_true] at this
    exact OF.amount_isZero_of_q env this
  | bal b =>
    simp only [FinX.valueIsZero]
    rw [List.all_eq_true]
    intro a ha
    have := Balance.den_of_mem hw ha
    have h0 := h a.comm
    simp only [Value.den] at h0
    rw [h0] at this
    exact OF.amount_isZero_of_q env this.symm

/-- The outcome of xact.cc 264-281 on exact amounts: the transaction is left
    balanced exactly when primary and secondary have opposite signs. -/
theorem exchangeWith_outcome (env : PrecEnv) (P S : Amount) (L : List FinX.FPost) (B : Value)
    (hPS : P.comm ≠ S.comm) (hS : FinX.Exact env S)
    (hPz : P.isZero env = false) (hSz : S.isZero env = false)
    (hnc : ∀ q ∈ L, q.cost = none) (hsome : ∀ q ∈ L, q.amount.isSome = true)
    (hIAB : B.isNum = true) (hw : FinX.wfV B)
    (hden : ∀ c, B.den c = P.den c + S.den c) (hres : ∀ c, B.den c = FinX.residual L c) :
    ∃ L' B', FinX.exchangeWith env P S L B = .ok (L', B') ∧ L'.map keptFields = L.map keptFields ∧
      FinX.costsOk L' = true ∧ FinX.isNum B' = true ∧ FinX.wfV B' ∧
      FinX.valueIsZero env B' = decide (P.q * S.q < 0) := by
  have hPq : P.q ≠ 0 := Amount.isZero_false_ne hPz
  have hSq : S.q ≠ 0 := Amount.isZero_false_ne hSz
  cases hdiv : Amount.div env S P with
  | error e =>
    rw [Amount.div, hPz, if_neg Bool.false_ne_true] at hdiv
    cases hdiv
  | ok r =>
    have hrq : r.q = S.q / P.q := Amount.div_q hdiv
    have hrc : r.comm = S.comm := FinX.div_comm_of_hasComm hdiv hS.1
    have hpuc : ({ r.abs with keep := true } : Amount).comm = S.comm := by
      simp only [FinX.abs_comm, hrc]
    have hpuh : ({ r.abs with keep := true } : Amount).hasComm = true := by
      have := hS.1
      simp only [Amount.hasComm] at this ⊢
      rw [hpuc]; exact this
    obtain ⟨L', B', hE, h2, h4⟩ := exchPosts_progress env P.comm { r.abs with keep := true } hpuh
      (by rw [hpuc]; exact fun e => hPS e.symm) L B hIAB hsome hnc
    have hEW : FinX.exchangeWith env P S L B = .ok (L', B') := by
      unfold FinX.exchangeWith
      rw [hdiv]
      exact hE
    obtain ⟨i1, i2, _, _⟩ := FinX.exchangeWith_inv env P S L B L' B' hEW hnc (FinX_isNum_of_isNum hIAB) hw
    refine ⟨L', B', hEW, h2, h4, i1, i2, ?_⟩
    have hR : FinX.residual L P.comm = P.q := by
      rw [← hres P.comm, hden P.comm]
      unfold Amount.den
      rw [if_pos rfl, if_neg (Ne.symm hPS), Rat.add_zero]
    -- the balance the pricing loop leaves, commodity by commodity
    have hform : ∀ c, B'.den c = S.den c + (if S.comm = c then r.abs.q * P.q else 0) := by
      intro c
      have e := FinX.exchPosts_den env P.comm _ hpuh L B L' B' hE hnc c
      rw [hpuc, hR, hden c] at e
      rw [e]
      show P.den c + S.den c - P.den c + _ = _
      rw [Rat.add_comm (P.den c), Rat.add_sub_cancel]
    rcases FinX.abs_q_mul r P.q S.q hPq hrq with h6 | h6
    · -- same sign: the secondary residual doubles and cannot display as zero
      rw [decide_eq_false (same_sign_of_mul r.abs.q P.q S.q (abs_q_nonneg r) h6 hPq)]
      cases hz : FinX.valueIsZero env B' with
      | false => rfl
      | true =>
        have h0 := FinX.exchangeWith_exact env P S B L L' B' hPS hS hPz hEW hnc hden hres
          (fun c => FinX.value_isZero_den env B' i2 i1 hz c) S.comm
        rw [hform S.comm, h6] at h0
        unfold Amount.den at h0
        rw [if_pos rfl] at h0
        exact absurd (add_self_eq_zero h0) hSq
    · rw [decide_eq_true (opposite_sign_of_mul r.abs.q P.q S.q (abs_q_nonneg r) h6 hSq hPq)]
      apply valueIsZero_of_den_zero env B' i1 i2
      intro c
      rw [hform c, h6]
      unfold Amount.den
      by_cases h2 : S.comm = c
      · rw [if_pos h2, if_pos h2, Rat.add_neg_cancel]
      · rw [if_neg h2, if_neg h2, Rat.add_zero]

theorem topScan_noCost : ∀ (L : List FinX.FPost) (top : Option FinX.FPost), (∀ q ∈ L, q.cost = none) →
    (∀ q ∈ L, ∀ a, q.amount = some a → plain a.comm = true) →
    FinX.topScan L top = (false, match top with
      | some t => some t
      | none => L.find? (fun p => p.amount.isSome && p.mustBalance)) := by
  intro L
  induction L with
  | nil => intro top _ _; cases top <;> rfl
  | cons p ps ih =>
    intro top hnc hpl
    unfold FinX.topScan
    rw [hnc p List.mem_cons_self, if_neg (fun h => Bool.false_ne_true h.1),
      ih _ (fun q hq => hnc q (List.mem_cons_of_mem _ hq)) (fun q hq => hpl q (List.mem_cons_of_mem _ hq)),
      List.find?_cons]
    cases ha : p.amount with
    | none => rfl
    | some a =>
      simp only [hasAnn_plain a.comm (hpl p List.mem_cons_self a ha)]
      cases p.mustBalance with
      | false => rfl
      | true => cases top <;> rfl

/-- xact.cc 220-263: with two display-non-zero residual entries and no cost the
    exchange is entered with one of them as primary. -/
theorem exchange2_implied (env : PrecEnv) (enum : Balance → Balance) (henum : ∀ b, (enum b).Perm b)
    (L : List FinX.FPost) (x y : Amount) (hnc : ∀ q ∈ L, q.cost = none)
    (hpl : ∀ q ∈ L, ∀ a, q.amount = some a → plain a.comm = true)
    (htop : ∃ q ∈ L, q.amount.isSome = true ∧ q.mustBalance = true)
    (hx : x.isZero env = false) (hy : y.isZero env = false) :
    ∃ P S, ((P = x ∧ S = y) ∨ (P = y ∧ S = x)) ∧
      FinX.exchange2 env enum L (.bal [x, y]) none = FinX.exchangeWith env P S L (.bal [x, y]) := by
  obtain ⟨q, hq, hq1, hq2⟩ := htop
  obtain ⟨t, ht⟩ : ∃ t, L.find? (fun p => p.amount.isSome && p.mustBalance) = some t :=
    Option.isSome_iff_exists.1 (List.find?_isSome.2 ⟨q, hq, by rw [hq1, hq2]; rfl⟩)
  have hts : FinX.topScan L none = (false, some t) := by
    rw [topScan_noCost L none hnc hpl]; simp only [ht]
  unfold FinX.exchange2
  simp only [List.length_cons, List.length_nil, Nat.zero_add, Nat.reduceAdd, if_true, hts]
  obtain ⟨x0, y0, he, h0, hor⟩ : ∃ x0 y0, enum [x, y] = [x0, y0] ∧
      (x0.isZero env = false ∧ y0.isZero env = false) ∧ ((x0 = x ∧ y0 = y) ∨ (x0 = y ∧ y0 = x)) := by
    rcases perm_pair (henum [x, y]) with he | he
    · exact ⟨x, y, he, ⟨hx, hy⟩, Or.inl ⟨rfl, rfl⟩⟩
    · exact ⟨y, x, he, ⟨hy, hx⟩, Or.inr ⟨rfl, rfl⟩⟩
  rw [he]
  simp only
  rw [if_pos h0]
  split
  · exact ⟨y0, x0, hor.symm.imp And.symm And.symm, rfl⟩
  · exact ⟨x0, y0, hor, rfl⟩

theorem exact_of_exactB (env : PrecEnv) (a : Amount) (h : exactB env a = true) : FinX.Exact env a := by
  unfold exactB at h
  simp only [Bool.and_eq_true, Bool.not_eq_true', decide_eq_true_eq] at h
  exact ⟨h.1.1.1, h.1.1.2, h.1.2, _, h.2⟩

theorem xbalance_some_posting (ps : List Posting) (b : Balance) (hB : xbalance ps = .bal b) :
    ∃ p ∈ ps, p.amount.isSome = true ∧ p.mustBalance = true := by
  cases hf : ps.filterMap bamt with
  | nil =>
    unfold xbalance at hB
    rw [hf] at hB
    cases hB
  | cons a _ =>
    obtain ⟨p, hp, hpa⟩ := List.mem_filterMap.1 (hf ▸ List.mem_cons_self : a ∈ ps.filterMap bamt)
    rcases bamt_cases p with ⟨_, hb, _⟩ | ⟨_, _, hb, _⟩ | ⟨_, _, hm, ha, _, _⟩
    · rw [hb] at hpa; cases hpa
    · rw [hb] at hpa; cases hpa
    · exact ⟨p, hp, by rw [ha]; rfl, hm⟩

theorem impliedCase_elim {env : PrecEnv} {ps : List Posting} (h : impliedCase env ps = true) :
    (∀ p ∈ ps, p.cost = none) ∧
      ∃ x y, xbalance ps = .bal [x, y] ∧ x.isZero env = false ∧ y.isZero env = false := by
  unfold impliedCase at h
  simp only [Bool.and_eq_true, Bool.not_eq_true'] at h
  obtain ⟨⟨_, hnc⟩, hm⟩ := h
  refine ⟨fun p hp => ?_, ?_⟩
  · have := List.any_eq_false.1 hnc p hp
    cases hc : p.cost with
    | none => rfl
    | some _ => rw [hc] at this; exact absurd rfl this
  · split at hm
    · next x y hB =>
      rw [Bool.and_eq_true, Bool.not_eq_true', Bool.not_eq_true'] at hm
      exact ⟨x, y, hB, hm⟩
    · cases hm

theorem fin_noNull_implied (env : PrecEnv) (enum : Balance → Balance) (henum : ∀ b, (enum b).Perm b)
    (date : String) (ps : List Posting) (hnull : nullPosts ps = [])
    (hk : noKeepAmt ps = true) (hvn : noVirtNull ps = true) (hla : noLotAmt ps = true)
    (himp : impliedCase env ps = true) (hexact : exactAmts env ps = true) :
    verdictFin (FinX.finalizeF env none enum date (ps.map (fp env))) = ref env ps := by
  obtain ⟨hpc, x, y, hB, hxz, hyz⟩ := impliedCase_elim himp
  have hS := allSome_of hvn hnull
  have hscan := scan_noNull env ps hk hnull
  rw [hB] at hscan
  have hnc : ∀ q ∈ ps.map (fp env), q.cost = none := List.forall_mem_map.2 fun p hp => by
    rw [fp_cost, hpc p hp]
    cases p.amount <;> rfl
  have hplF : ∀ q ∈ ps.map (fp env), ∀ a, q.amount = some a → plain a.comm = true :=
    List.forall_mem_map.2 fun p hp a ha => noLotAmt_iff.1 hla p hp a (fp_amount env p ▸ ha)
  have hfinSome : ∀ q ∈ ps.map (fp env), q.amount.isSome = true :=
    List.forall_mem_map.2 fun p hp => (fp_amount env p).symm ▸ hS p hp
  -- exactness and well-formedness of the two residual entries
  have hamtE : ∀ q ∈ ps.map (fp env), ∀ a, q.amount = some a → FinX.Exact env a :=
    List.forall_mem_map.2 fun p hp a ha => by
      unfold exactAmts at hexact
      have := List.all_eq_true.1 hexact p hp
      rw [fp_amount] at ha
      rw [ha] at this
      exact exact_of_exactB env a this
  have hEx := FinX.scan_exact env (ps.map (fp env)) 0 .void none _ none hscan trivial hnc hamtE
  have hxE : FinX.Exact env x := hEx x List.mem_cons_self
  have hyE : FinX.Exact env y := hEx y (List.mem_cons_of_mem _ List.mem_cons_self)
  obtain ⟨_, hwf, hdenres⟩ := FinX.scan_inv (ps.map (fp env)) 0 .void none _ none hscan rfl trivial
  have hxy : x.comm ≠ y.comm := fun e =>
    (List.nodup_cons.1 (hwf : [x.comm, y.comm].Nodup)).1 (List.mem_singleton.2 e)
  have hres : ∀ c, (Value.bal [x, y]).den c = FinX.residual (ps.map (fp env)) c := fun c =>
    (hdenres c).trans (Rat.zero_add _)
  obtain ⟨p0, hp0, hp0a, hp0m⟩ := xbalance_some_posting ps _ hB
  -- `exchange2` is `exchangeWith` on the residual pair, in one order or the other; its
  -- outcome is the sign test
  obtain ⟨P, S, hPS, hX⟩ := exchange2_implied env enum henum (ps.map (fp env)) x y hnc hplF
    ⟨fp env p0, List.mem_map_of_mem hp0, by rw [fp_amount]; exact hp0a, hp0m⟩ hxz hyz
  have key : ∃ L' B', FinX.exchangeWith env P S (ps.map (fp env)) (.bal [x, y]) = .ok (L', B') ∧
      L'.map keptFields = (ps.map (fp env)).map keptFields ∧ FinX.costsOk L' = true ∧
      FinX.isNum B' = true ∧ FinX.wfV B' ∧
      FinX.valueIsZero env B' = decide (x.q * y.q < 0) := by
    have hdxy : ∀ c, (Value.bal [x, y]).den c = x.den c + y.den c := fun c => by
      show x.den c + (y.den c + 0) = _
      rw [Rat.add_zero]
    rcases hPS with ⟨rfl, rfl⟩ | ⟨rfl, rfl⟩
    · exact exchangeWith_outcome env P S _ (.bal [P, S]) hxy hyE hxz hyz hnc hfinSome rfl hwf hdxy hres
    · obtain ⟨L', B', h1, h2, h3, h4, h5, h6⟩ := exchangeWith_outcome env P S _ (.bal [S, P]) (Ne.symm hxy) hxE
        hyz hxz hnc hfinSome rfl hwf (fun c => (hdxy c).trans (Rat.add_comm _ _)) hres
      exact ⟨L', B', h1, h2, h3, h4, h5, h6.trans (by rw [Rat.mul_comm])⟩
  obtain ⟨L', B', hE, hcore, hco', _, _, hz⟩ := key
  rw [fin_noNull env enum date ps L' B' hk hnull hvn hla (by rw [hB, hX, hE]) hco'
    (hcore.trans (Mirror.map_fp env ps)), hz]
  unfold ref
  rw [hnull, hB]
  have hnocost : ps.any (fun p => p.cost.isSome) = false :=
    List.any_eq_false.2 fun p hp h => by rw [hpc p hp] at h; cases h
  simp only [OF.acceptNoNull, hnocost, Bool.false_eq_true, if_false, hxz, hyz, Bool.not_false,
    Bool.and_self, if_true]

end Coh
end Ledger
