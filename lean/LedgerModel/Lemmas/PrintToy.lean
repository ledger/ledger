/-
A small lawful text layer (`toyCodec`) used for the counterexample and
non-vacuity statements of Props/C06.lean: integers in unary (`#111`, `-#11`),
no commodity; dates in unary (`+111`, `-11`).  It shows that
`AmtCodec.Lawful` / `DateCodec.Lawful` are satisfiable and lets the concrete
witnesses be evaluated by `decide`.
-/
import LedgerModel.Lemmas.Print

namespace Ledger
namespace Print

def unary (n : Nat) : Str := List.replicate n '1'

def toyShow (a : Qty) : Str :=
  (if a.q.num < 0 then ['-'] else []) ++ '#' :: unary a.q.num.natAbs

def toyRead (s : Str) : Option Qty :=
  match s with
  | '-' :: '#' :: t => some { q := ((-(t.length : Int) : Int) : Rat), comm := "" }
  | '#' :: t => some { q := ((t.length : Int) : Rat), comm := "" }
  | _ => none

def toyDisp (a : Qty) : Qty := { q := (a.q.num : Rat), comm := "" }

def toyAmt : AmtCodec :=
  { showAmt := toyShow, showCost := toyShow, readAmt := toyRead, disp := toyDisp,
    dom := fun a => a.comm == "", fullOk := fun a => a.comm == "" && a.q.den == 1 }

def toyShowDate (n : Int) : Str := (if n < 0 then '-' else '+') :: unary n.natAbs

def toyReadDate (s : Str) : Option Int :=
  match s with
  | '-' :: t => some (-(t.length : Int))
  | '+' :: t => some (t.length : Int)
  | _ => none

def toyDate : DateCodec := { showDate := toyShowDate, readDate := toyReadDate, dateDom := fun _ => true }

def toyCodec : Codec := { toAmtCodec := toyAmt, toDateCodec := toyDate }

theorem unary_length (n : Nat) : (unary n).length = n := by simp [unary]

theorem unary_mem {n : Nat} {x : Char} (h : x ∈ unary n) : x = '1' := by
  simp [unary, List.mem_replicate] at h; exact h.2

theorem toyShow_read (a : Qty) : toyRead (toyShow a) = some (toyDisp a) := by
  unfold toyShow toyDisp
  by_cases h : a.q.num < 0
  · simp only [h, if_true, List.singleton_append, toyRead, unary_length]
    rw [Int.ofNat_natAbs_of_nonpos (Int.le_of_lt h), Int.neg_neg]
  · simp only [h, if_false, List.nil_append, toyRead, unary_length]
    rw [Int.natAbs_of_nonneg (Int.not_lt.mp h)]

theorem toyShow_ok (a : Qty) : amtTextOk (toyShow a) = true := by
  have hmem : ∀ x ∈ toyShow a, x = '-' ∨ x = '#' ∨ x = '1' := by
    intro x hx
    unfold toyShow at hx
    rcases List.mem_append.mp hx with h | h
    · split at h
      · simp at h; exact Or.inl h
      · simp at h
    · rcases List.mem_cons.mp h with h | h
      · exact Or.inr (Or.inl h)
      · exact Or.inr (Or.inr (unary_mem h))
  have hne : toyShow a ≠ [] := fun h => nomatch (List.append_eq_nil_iff.mp h).2
  have hgood : ∀ x, (x = '-' ∨ x = '#' ∨ x = '1') →
      isSpaceC x = false ∧ x ≠ ' ' ∧ x ≠ ';' ∧ x ≠ '=' ∧ x ≠ '@' := by
    intro x hx; rcases hx with rfl | rfl | rfl <;> decide +kernel
  unfold amtTextOk
  simp only [Bool.and_eq_true, Bool.not_eq_true', bne_iff_ne, ne_eq, List.all_eq_true]
  refine ⟨⟨⟨⟨?_, ?_⟩, ?_⟩, ?_⟩, ?_⟩
  · cases h : toyShow a with
    | nil => exact absurd h hne
    | cons _ _ => rfl
  · unfold noCtl
    rw [List.all_eq_true]
    intro x hx
    simp [(hgood x (hmem x hx)).1]
  · intro h
    obtain ⟨t, ht⟩ := List.head?_eq_some_iff.mp h
    have := (hgood ' ' (hmem ' ' (by rw [ht]; simp))).2.1
    exact this rfl
  · unfold endOk
    cases hl : (toyShow a).getLast? with
    | none => rfl
    | some ch =>
      obtain ⟨ys, hys⟩ := List.getLast?_eq_some_iff.mp hl
      have := (hgood ch (hmem ch (by rw [hys]; simp))).1
      simp [this]
  · intro x hx
    have := hgood x (hmem x hx)
    exact ⟨⟨this.2.2.1, this.2.2.2.1⟩, this.2.2.2.2⟩

theorem toyAmt_lawful : toyAmt.Lawful := by
  constructor <;> simp only [toyAmt, Bool.and_eq_true, beq_iff_eq]
  case read_showAmt =>
    exact fun a _ => toyShow_read a
  case read_showCost =>
    intro a h
    rw [toyShow_read]
    obtain ⟨q, comm⟩ := a
    simp only [toyDisp, Option.some.injEq, Qty.mk.injEq]
    exact ⟨(Rat.ext (by simp) (by simpa using h.2.symm)), h.1.symm⟩
  case disp_comm =>
    intro a h
    exact h.symm
  case disp_idem =>
    exact fun _ _ => rfl
  case showAmt_disp =>
    intro a _
    unfold toyShow toyDisp
    rw [Rat.num_intCast]
  case showAmt_ok =>
    exact fun a _ => toyShow_ok a
  case showCost_ok =>
    exact fun a _ => toyShow_ok a

theorem toyDate_lawful : toyDate.Lawful := by
  constructor <;> simp only [toyDate]
  case read_show =>
    intro n _
    unfold toyShowDate
    by_cases h : n < 0
    · simp only [h, if_true, toyReadDate, unary_length]
      rw [Int.ofNat_natAbs_of_nonpos (Int.le_of_lt h), Int.neg_neg]
    · simp only [h, if_false, toyReadDate, unary_length]
      rw [Int.natAbs_of_nonneg (Int.not_lt.mp h)]
  case show_ok =>
    intro n _
    unfold dateTextOk toyShowDate
    simp only [Bool.and_eq_true, Bool.not_eq_true', List.all_eq_true, bne_iff_ne, ne_eq]
    refine ⟨by simp, ?_⟩
    intro x hx
    rcases List.mem_cons.mp hx with h | h
    · subst h; split <;> decide +kernel
    · rw [unary_mem h]; decide

theorem toyCodec_lawful : toyCodec.Lawful := ⟨toyAmt_lawful, toyDate_lawful⟩

end Print
end Ledger
