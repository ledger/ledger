/-
What `Model/Expr.lean` does on each form of input, for the proofs about
evaluation and compilation, in file order:
* shape tests (`isScopeNode_eq`, `isNil_eq`, `isVal_eq`), `identDef` on an unresolved / resolved
  identifier, `defTarget_params`, `Scope.lookup` on a pushed frame;
* `calcStep` node by node (`calcStep_nil` … `calcStep_call`; the operator nodes with `Except.bind`,
  which spares the proofs a case split on the error; `binRest_cases` for its operator), `calcF_val`, and `callLambda` on each kind
  of callee, its last step named `callBody`;
* `compile` node by node: `compile_nil/_plug/_val/_ident`, then for each node that compiles
  operands the inversion `compile_…_ok` (what a successful result was built from);
  `thread2` is the common pipeline of the four nodes with two operands (`thread2_ok`,
  `compile_bin/_seq/_cons/_call`); `finish_ok`, `foldCalc_ok` take the folding tail apart.
-/
import LedgerModel.Model.Expr
import LedgerModel.Lemmas.ExceptBind

namespace Ledger

def Expr.isPlug : Expr → Bool
  | .plug => true
  | _ => false

def Expr.isScopeNode : Expr → Bool
  | .scope _ => true
  | _ => false

theorem isScopeNode_eq {e : Expr} (h : e.isScopeNode = true) : ∃ b, e = .scope b := by
  cases e with
  | scope b => exact ⟨b, rfl⟩
  | _ => cases h

theorem isNil_eq {e : Expr} (h : e.isNil = true) : e = .nil := by
  cases e with
  | nil => rfl
  | _ => cases h

theorem isVal_eq {e : Expr} (h : e.isVal = true) : ∃ v, e = .val v := by
  cases e with
  | val v => exact ⟨v, rfl⟩
  | _ => cases h

/-- lookup_ident on an identifier that compilation left unresolved (null or PLUG) -/
theorem identDef_unres {d : Expr} (h : (d.isNil || d.isPlug) = true) (σ : Scope) (n : String) :
    identDef σ n d = σ.lookup n := by
  cases d with
  | nil => rfl
  | plug => rfl
  | _ => cases h

theorem identDef_res {d : Expr} (h : (d.isNil || d.isPlug) = false) (σ : Scope) (n : String) :
    identDef σ n d = some d := by
  cases d with
  | nil => cases h
  | plug => cases h
  | _ => rfl

theorem defTarget_params {l : Expr} {n : String} {params : Expr} {ps : List String}
    (h : defTarget l = some (n, some (params, ps))) : paramNames params = some ps := by
  unfold defTarget at h
  split at h
  · cases h
  · split at h
    · rename_i hq
      cases h
      exact hq
    · cases h
  · cases h

theorem Scope.lookup_cons (fr : Frame) (σ : Scope) (n : String) :
    Scope.lookup (fr :: σ) n = (match fr.lookup n with | some d => some d | none => Scope.lookup σ n) := rfl

theorem Scope.lookup_single (fr : Frame) (n : String) : Scope.lookup [fr] n = fr.lookup n := by
  rw [Scope.lookup_cons]
  cases fr.lookup n <;> rfl

/-- the model threads an error through a `match`: that is a bind -/
theorem match_eq_bind (r : Res RVal) (f : RVal → Res RVal) :
    (match r with | .error e => .error e | .ok x => f x) = r.bind f := by
  cases r <;> rfl

section
variable {env : PrecEnv} {rec : Scope → Expr → Res RVal} {σ : Scope}

theorem calcStep_nil : calcStep env rec σ .nil = .error errSyntax := rfl
theorem calcStep_plug : calcStep env rec σ .plug = .error errSyntax := rfl
theorem calcStep_val {v : Value} : calcStep env rec σ (.val v) = .ok (.v v) := rfl
theorem calcStep_define (l r : Expr) : calcStep env rec σ (.define l r) = .ok (.v .void) := rfl
theorem calcStep_lambda (p b : Expr) : calcStep env rec σ (.lambda p b) = .ok (.fn (.lambda p b)) := rfl
theorem calcStep_scope (b : Expr) : calcStep env rec σ (.scope b) = calcStep env rec σ b := rfl

theorem calcStep_ident (n : String) (d : Expr) :
    calcStep env rec σ (.ident n d) =
      (match identDef σ n d with
       | some d' => rec σ d'
       | none => .error errUnknownIdent) := rfl

theorem calcStep_un (op : UnOp) (e : Expr) :
    calcStep env rec σ (.un op e) = (calcStep env rec σ e).bind (applyUn env op) :=
  match_eq_bind _ _

theorem calcStep_bin (op : BinOp) (l r : Expr) :
    calcStep env rec σ (.bin op l r) =
      (calcStep env rec σ l).bind fun x => binRest env op x (fun _ => calcStep env rec σ r) :=
  match_eq_bind _ _

theorem binRest_and (x : RVal) (k : Unit → Res RVal) :
    binRest env .and x k = if x.truth env then k () else .ok (.v (.bool false)) := rfl

theorem binRest_or (x : RVal) (k : Unit → Res RVal) : binRest env .or x k = if x.truth env then .ok x else k () := rfl

/-- `and` and `or` short-circuit; every other operator evaluates its right operand and then applies -/
theorem binRest_cases (op : BinOp) :
    op = .and ∨ op = .or ∨ ∀ (env : PrecEnv) (x : RVal) (k : Unit → Res RVal), binRest env op x k = (k ()).bind (applyBin env op x) := by
  cases op with
  | and => exact .inl rfl
  | or => exact .inr (.inl rfl)
  | _ => exact .inr (.inr fun _ _ _ => match_eq_bind _ _)

theorem calcStep_query (c a b : Expr) :
    calcStep env rec σ (.query c a b) =
      (calcStep env rec σ c).bind fun x => if x.truth env then calcStep env rec σ a else calcStep env rec σ b :=
  match_eq_bind _ _

theorem calcStep_seq (l r : Expr) :
    calcStep env rec σ (.seq l r) = (calcStep env rec σ l).bind fun _ => calcStep env rec σ r :=
  match_eq_bind _ _

theorem calcStep_cons_nil (l : Expr) : calcStep env rec σ (.cons l .nil) = calcStep env rec σ l := rfl

theorem calcStep_cons_nonnil {l r : Expr} (h : r ≠ .nil) : calcStep env rec σ (.cons l r) = .error errUnsup := by
  cases r with
  | nil => exact absurd rfl h
  | _ => rfl

theorem calcStep_call (f args : Expr) :
    calcStep env rec σ (.call f args) = (calcStep env rec σ f).bind fun fv => callLambda rec σ fv args :=
  match_eq_bind _ _

theorem calcF_val (env : PrecEnv) (f : Nat) (σ σ' : Scope) (v : Value) : calcF env f σ (.val v) = calcF env f σ' (.val v) := by
  cases f <;> rfl

/-- the last step of `callLambda` (call_lambda's body, op.cc 510-517): a SCOPE body sees the caller's
    scope behind the argument frame, any other body the argument frame alone; `callLambda_lambda` ties the two -/
def callBody (rec : Scope → Expr → Res RVal) (σ : Scope) (fr : Frame) (body : Expr) : Res RVal :=
  match body with
  | .scope b => rec (fr :: σ) b
  | b => rec [fr] b

theorem callBody_nonscope {fr : Frame} {x : Expr} (h : ∀ b, x ≠ .scope b) : callBody rec σ fr x = rec [fr] x := by
  cases x with
  | scope b => exact absurd rfl (h b)
  | _ => rfl

theorem callLambda_v (x : Value) (a : Expr) : callLambda rec σ (.v x) a = .error errCall := rfl

theorem callLambda_nonlambda {l a : Expr} (h : ∀ p x, l ≠ .lambda p x) : callLambda rec σ (.fn l) a = .error errCall := by
  cases l with
  | lambda p x => exact absurd rfl (h p x)
  | _ => rfl

theorem callLambda_lambda (p b a : Expr) :
    callLambda rec σ (.fn (.lambda p b)) a =
      match paramNames p with
      | none => .error errCall
      | some ps => (bindArgs (rec σ) ps (splitCons a)).bind fun fr => callBody rec σ fr b := by
  simp only [callLambda]
  cases paramNames p with
  | none => rfl
  | some ps =>
    dsimp only
    cases bindArgs (rec σ) ps (splitCons a) with
    | error e => rfl
    | ok fr => cases b <;> rfl

end

section
variable (env : PrecEnv) (fold : Bool) (G : Frame) (π : List (List String))

theorem compile_nil : compile env fold G π .nil = .ok (.nil, false, G) := rfl
theorem compile_plug : compile env fold G π .plug = .ok (.plug, false, G) := rfl
theorem compile_val (v : Value) : compile env fold G π (.val v) = .ok (.val v, false, G) := rfl

theorem compile_ident (n : String) (d : Expr) :
    compile env fold G π (.ident n d) =
      if π.any (fun ps => ps.contains n) then .ok (.ident n .plug, true, G)
      else match G.lookup n with
        | some d' => .ok (.ident n d', true, G)
        | none => .ok (.ident n d, !d.isNil, G) := rfl

variable {env fold G π} {e' : Expr} {c : Bool} {G' : Frame}

/-- a SCOPE node whose body became a literal is replaced by it when folding (op.cc 214-218) -/
theorem compile_scope_ok {b : Expr} :
    compile env fold G π (.scope b) = .ok (e', c, G') ↔
      ∃ b', compile env fold G π b = .ok (b', c, G') ∧ e' = if c && (fold && b'.isVal) then b' else .scope b' := by
  constructor
  · intro h
    unfold compile at h
    cases hb : compile env fold G π b with
    | error x => rw [hb] at h; cases h
    | ok res =>
      obtain ⟨b', ch, Gb⟩ := res
      rw [hb] at h
      dsimp only at h
      cases ch with
      | false => cases h; exact ⟨b', rfl, rfl⟩
      | true => cases hv : (fold && b'.isVal) <;> rw [hv] at h <;> cases h <;> exact ⟨_, rfl, by rw [Bool.true_and, hv]; rfl⟩
  · rintro ⟨b', hb, rfl⟩
    unfold compile
    rw [hb]
    dsimp only
    cases c with
    | false => rfl
    | true => cases hv : (fold && b'.isVal) <;> rfl

/-- what compiling a SCOPE node yields is never nil / PLUG -/
theorem compile_scope_shape {env : PrecEnv} {fold : Bool} {G : Frame} {π : List (List String)} {b r1 : Expr} {cr : Bool} {Gr : Frame}
    (hc : compile env fold G π (.scope b) = .ok (r1, cr, Gr)) : (r1.isNil || r1.isPlug) = false := by
  obtain ⟨b', _, rfl⟩ := compile_scope_ok.1 hc
  split
  · rename_i hv
    simp only [Bool.and_eq_true] at hv
    obtain ⟨v, rfl⟩ := isVal_eq hv.2.2
    rfl
  · rfl

theorem compile_define_none {l r : Expr} (ht : defTarget l = none) :
    compile env fold G π (.define l r) = .error errCall := by
  unfold compile; rw [ht]

/-- `x = r` defines a name (op.cc 141-171) -/
theorem compile_define_name_ok {l r : Expr} {n : String} (ht : defTarget l = some (n, none)) :
    compile env fold G π (.define l r) = .ok (e', c, G') ↔
      ∃ r' cr G1, compile env fold G π r = .ok (r', cr, G1) ∧ e' = .val .void ∧ c = true ∧ G' = (n, r') :: G1 := by
  constructor
  · intro h
    unfold compile at h
    rw [ht] at h
    dsimp only at h
    cases hr : compile env fold G π r with
    | error x => rw [hr] at h; cases h
    | ok res => rw [hr] at h; cases h; exact ⟨_, _, _, rfl, rfl, rfl, rfl⟩
  · rintro ⟨r', cr, G1, hr, rfl, rfl, rfl⟩
    unfold compile
    rw [ht]
    dsimp only
    rw [hr]

/-- `f(params) = r` defines a function; its body is compiled under its parameters -/
theorem compile_define_fn_ok {l r params : Expr} {n : String} {ps : List String} (ht : defTarget l = some (n, some (params, ps))) :
    compile env fold G π (.define l r) = .ok (e', c, G') ↔
      ∃ r' cr G1, compile env fold G (ps :: π) r = .ok (r', cr, G1) ∧ e' = .val .void ∧ c = true ∧
        G' = (n, .lambda params r') :: G1 := by
  constructor
  · intro h
    unfold compile at h
    rw [ht] at h
    dsimp only at h
    cases hr : compile env fold G (ps :: π) r with
    | error x => rw [hr] at h; cases h
    | ok res => rw [hr] at h; cases h; exact ⟨_, _, _, rfl, rfl, rfl, rfl⟩
  · rintro ⟨r', cr, G1, hr, rfl, rfl, rfl⟩
    unfold compile
    rw [ht]
    dsimp only
    rw [hr]

theorem compile_lambda_none {p b : Expr} (hp : paramNames p = none) :
    compile env fold G π (.lambda p b) = .error errCall := by
  unfold compile; rw [hp]

theorem compile_lambda_ok {p b : Expr} {ps : List String} (hp : paramNames p = some ps) :
    compile env fold G π (.lambda p b) = .ok (e', c, G') ↔
      ∃ b', compile env fold G (ps :: π) b = .ok (b', c, G') ∧ e' = .lambda p b' := by
  constructor
  · intro h
    unfold compile at h
    rw [hp] at h
    dsimp only at h
    cases hb : compile env fold G (ps :: π) b with
    | error x => rw [hb] at h; cases h
    | ok res => rw [hb] at h; cases h; exact ⟨_, rfl, rfl⟩
  · rintro ⟨b', hb, rfl⟩
    unfold compile
    rw [hp]
    dsimp only
    rw [hb]

theorem compile_un_ok {op : UnOp} {e : Expr} :
    compile env fold G π (.un op e) = .ok (e', c, G') ↔
      ∃ x ch, compile env fold G π e = .ok (x, ch, G') ∧ finish env fold (.un op x) ch x.isVal = .ok (e', c) := by
  constructor
  · intro h
    unfold compile at h
    cases he : compile env fold G π e with
    | error err => rw [he] at h; cases h
    | ok res =>
      obtain ⟨x, ch, Ge⟩ := res
      rw [he] at h
      dsimp only at h
      cases hfin : finish env fold (.un op x) ch x.isVal with
      | error err => rw [hfin] at h; cases h
      | ok nc => rw [hfin] at h; cases h; exact ⟨x, ch, rfl, hfin⟩
  · rintro ⟨x, ch, he, hfin⟩
    unfold compile
    rw [he]
    dsimp only
    rw [hfin]

/-- folding an O_COLON whose branches became literals evaluates it, and op.cc 402-404 asserts -/
theorem compile_query_ok {cnd a b : Expr} :
    compile env fold G π (.query cnd a b) = .ok (e', c, G') ↔
      ∃ c1 cc G1 a1 ca G2 b1 cb, compile env fold G π cnd = .ok (c1, cc, G1) ∧ compile env fold G1 π a = .ok (a1, ca, G2) ∧
        compile env fold G2 π b = .ok (b1, cb, G') ∧ (fold && (ca || cb) && a1.isVal && b1.isVal) = false ∧
        e' = .query c1 a1 b1 ∧ c = (cc || ca || cb) := by
  constructor
  · intro h
    unfold compile at h
    cases hc : compile env fold G π cnd with
    | error err => rw [hc] at h; cases h
    | ok res =>
      obtain ⟨c1, cc, G1⟩ := res
      rw [hc] at h
      dsimp only at h
      cases ha : compile env fold G1 π a with
      | error err => rw [ha] at h; cases h
      | ok res =>
        obtain ⟨a1, ca, G2⟩ := res
        rw [ha] at h
        dsimp only at h
        cases hb : compile env fold G2 π b with
        | error err => rw [hb] at h; cases h
        | ok res =>
          obtain ⟨b1, cb, G3⟩ := res
          rw [hb] at h
          dsimp only at h
          cases hg : (fold && (ca || cb) && a1.isVal && b1.isVal) <;> rw [hg] at h <;> cases h
          exact ⟨_, _, _, _, _, _, _, _, rfl, ha, hb, hg, rfl, rfl⟩
  · rintro ⟨c1, cc, G1, a1, ca, G2, b1, cb, hc, ha, hb, hg, rfl, rfl⟩
    unfold compile
    rw [hc]
    dsimp only
    rw [ha]
    dsimp only
    rw [hb]
    dsimp only
    rw [hg]
    rfl

end

section
variable {env : PrecEnv} {fold : Bool} {G : Frame} {π : List (List String)}

/-- How compile treats a node with two operands (op.cc 200-220): left operand,
    right operand in the scope the left one left behind, then `finish` on the
    node `mk l' r'` rebuilt from them; `av` says whether both are literals. -/
def thread2 (env : PrecEnv) (fold : Bool) (G : Frame) (mk : Expr → Expr → Expr) (av : Expr → Expr → Bool) (c1 c2 : Frame → Res (Expr × Bool × Frame)) :
    Res (Expr × Bool × Frame) :=
  match c1 G with
  | .error err => .error err
  | .ok (l', cl, G1) =>
    match c2 G1 with
    | .error err => .error err
    | .ok (r', cr, G2) =>
      match finish env fold (mk l' r') (cl || cr) (av l' r') with
      | .error err => .error err
      | .ok (n, c) => .ok (n, c, G2)

theorem thread2_ok {mk : Expr → Expr → Expr} {av : Expr → Expr → Bool} {c1 c2 : Frame → Res (Expr × Bool × Frame)}
    {e' : Expr} {c : Bool} {G' : Frame} :
    thread2 env fold G mk av c1 c2 = .ok (e', c, G') ↔
      ∃ l1 cl G1 r1 cr, c1 G = .ok (l1, cl, G1) ∧ c2 G1 = .ok (r1, cr, G') ∧
        finish env fold (mk l1 r1) (cl || cr) (av l1 r1) = .ok (e', c) := by
  unfold thread2
  constructor
  · intro h
    cases h1 : c1 G with
    | error err => rw [h1] at h; cases h
    | ok res =>
      obtain ⟨l1, cl, G1⟩ := res
      rw [h1] at h
      dsimp only at h
      cases h2 : c2 G1 with
      | error err => rw [h2] at h; cases h
      | ok res =>
        obtain ⟨r1, cr, G2⟩ := res
        rw [h2] at h
        dsimp only at h
        cases hfin : finish env fold (mk l1 r1) (cl || cr) (av l1 r1) with
        | error err => rw [hfin] at h; cases h
        | ok nc => rw [hfin] at h; cases h; exact ⟨_, _, _, _, _, rfl, h2, hfin⟩
  · rintro ⟨l1, cl, G1, r1, cr, h1, h2, hfin⟩
    rw [h1]
    dsimp only
    rw [h2]
    dsimp only
    rw [hfin]

theorem compile_bin {op : BinOp} {l r : Expr} :
    compile env fold G π (.bin op l r) =
      thread2 env fold G (.bin op) (fun l' r' => l'.isVal && r'.isVal)
        (compile env fold · π l) (compile env fold · π r) := rfl

theorem compile_seq {l r : Expr} :
    compile env fold G π (.seq l r) =
      thread2 env fold G .seq (fun l' r' => l'.isVal && (r'.isVal || r'.isNil))
        (compile env fold · π l) (compile env fold · π r) := rfl

theorem compile_cons {l r : Expr} :
    compile env fold G π (.cons l r) =
      thread2 env fold G .cons (fun l' r' => l'.isVal && (r'.isVal || r'.isNil))
        (compile env fold · π l) (compile env fold · π r) := rfl

theorem compile_call {f a : Expr} :
    compile env fold G π (.call f a) =
      thread2 env fold G .call (fun l' r' => l'.isVal && (r'.isVal || r'.isNil))
        (compile env fold · π f) (compile env fold · π a) := rfl

theorem finish_ok {new n : Expr} {ch av c : Bool} (h : finish env fold new ch av = .ok (n, c)) :
    (n = new ∧ c = ch) ∨ (ch = true ∧ fold = true ∧ av = true ∧ c = true ∧ foldCalc env new = .ok n) := by
  unfold finish at h
  cases ch with
  | false => cases h; exact .inl ⟨rfl, rfl⟩
  | true =>
    rw [show (!true) = false from rfl, if_neg (by decide)] at h
    cases hfa : (fold && av) with
    | false => rw [hfa, if_neg (by decide)] at h; cases h; exact .inl ⟨rfl, rfl⟩
    | true =>
      rw [hfa, if_pos rfl] at h
      rw [Bool.and_eq_true] at hfa
      cases hw : foldCalc env new with
      | error e => rw [hw] at h; cases h
      | ok w => rw [hw] at h; cases h; exact .inr ⟨rfl, hfa.1, hfa.2, rfl, rfl⟩

theorem foldCalc_ok {e w : Expr} (h : foldCalc env e = .ok w) :
    ∃ x, w = .val x ∧ calcStep env (fun _ _ => .error errFuel) [] e = .ok (.v x) := by
  unfold foldCalc at h
  cases hc : calcStep env (fun _ _ => .error errFuel) [] e with
  | error x => rw [hc] at h; cases h
  | ok r =>
    cases r with
    | v x => rw [hc] at h; cases h; exact ⟨x, rfl, rfl⟩
    | fn l => rw [hc] at h; cases h

end

end Ledger
