/-
Sums per account and commodity, for C06's equity theorems.  First the accumulation of posts_as_equity
(Model/Print.lean `collect`, `acctPosts`, `balancingPosts`): `sumBal` / `sumAcc` read the account map,
`sumAcc_collect` says it holds the journal's sums, `balOfP_acctPosts` / `balOfP_balancing` what the written
postings carry.
Then the same sums through print's `norm` (`contribP_normPost_*`, `balOfP_norm`): they survive re-reading
for display-exact amounts, except on the account whose amount print elides.
-/
import LedgerModel.Lemmas.Print

namespace Ledger
namespace Print

/-- what a balance holds in commodity `k` (the sum over every entry with that key). -/
def sumBal (b : EBal) (k : Comm) : Rat := (b.map (fun kq => if kq.1 = k then kq.2 else 0)).sum

/-- what the account map holds for account `a`, commodity `k`. -/
def sumAcc (m : List EAcct) (a : Str) (k : Comm) : Rat :=
  (m.map (fun e => if e.name = a then sumBal e.bal k else 0)).sum

theorem ite_add_ite (c : Prop) [Decidable c] (x y : Rat) :
    (if c then x + y else 0) = (if c then x else 0) + (if c then y else 0) := by
  by_cases h : c
  · rw [if_pos h, if_pos h, if_pos h]
  · rw [if_neg h, if_neg h, if_neg h, Rat.add_zero]

theorem ite_and_zero (c d : Prop) [Decidable c] [Decidable d] (x : Rat) :
    (if c ∧ d then x else 0) = if c then (if d then x else 0) else 0 := by
  by_cases hc : c <;> simp [hc]

theorem sumBal_nil (k : Comm) : sumBal [] k = 0 := rfl

theorem sumBal_cons (x : Comm × Rat) (b : EBal) (k : Comm) :
    sumBal (x :: b) k = (if x.1 = k then x.2 else 0) + sumBal b k := rfl

theorem sumBal_balAdd (k : Comm) (q : Rat) (b : EBal) (k' : Comm) :
    sumBal (balAdd k q b) k' = sumBal b k' + (if k = k' then q else 0) := by
  induction b with
  | nil => rw [balAdd, sumBal_cons, sumBal_nil, Rat.add_zero, Rat.zero_add]
  | cons x r ih =>
    obtain ⟨kx, qx⟩ := x
    rw [balAdd]
    by_cases h1 : k = kx
    · rw [if_pos h1, sumBal_cons, sumBal_cons, h1, ite_add_ite, Rat.add_assoc, Rat.add_assoc,
        Rat.add_comm (if kx = k' then q else 0)]
    · rw [if_neg h1]
      by_cases h2 : k < kx
      · rw [if_pos h2, sumBal_cons, Rat.add_comm]
      · rw [if_neg h2, sumBal_cons, sumBal_cons, ih, Rat.add_assoc]

theorem sumAcc_nil (a : Str) (k : Comm) : sumAcc [] a k = 0 := rfl

theorem sumAcc_cons (e : EAcct) (m : List EAcct) (a : Str) (k : Comm) :
    sumAcc (e :: m) a k = (if e.name = a then sumBal e.bal k else 0) + sumAcc m a k := rfl

def contrib (p : EPost) (a : Str) (k : Comm) : Rat := if p.account = a ∧ p.amt.comm = k then p.amt.q else 0

/-- an account that receives `p` holds `p`'s contribution more than before. -/
theorem acct_balAdd (p : EPost) (n : Str) (b : EBal) (hn : p.account = n) (a : Str) (k : Comm) :
    (if n = a then sumBal (balAdd p.amt.comm p.amt.q b) k else 0) =
      (if n = a then sumBal b k else 0) + contrib p a k := by
  rw [sumBal_balAdd, ite_add_ite, contrib, ite_and_zero, hn]

theorem sumAcc_acctAdd (p : EPost) (m : List EAcct) (a : Str) (k : Comm) :
    sumAcc (acctAdd p m) a k = sumAcc m a k + contrib p a k := by
  induction m with
  | nil =>
    rw [acctAdd, sumAcc_cons, acct_balAdd p _ [] rfl, sumBal_nil, sumAcc_nil]
    simp only [ite_self, Rat.zero_add, Rat.add_zero]
  | cons e r ih =>
    rw [acctAdd]
    by_cases h1 : p.account = e.name
    · rw [if_pos h1, sumAcc_cons, sumAcc_cons, acct_balAdd p e.name e.bal h1, Rat.add_assoc, Rat.add_assoc,
        Rat.add_comm (contrib p a k)]
    · rw [if_neg h1]
      by_cases h2 : strLt p.account e.name = true
      · rw [if_pos h2, sumAcc_cons, acct_balAdd p _ [] rfl, sumBal_nil, ite_self, Rat.zero_add]
        exact Rat.add_comm _ _
      · rw [if_neg h2, sumAcc_cons, sumAcc_cons, ih, Rat.add_assoc]

theorem balOf_nil (a : Str) (k : Comm) : balOf [] a k = 0 := rfl

theorem balOf_cons (p : EPost) (ps : List EPost) (a : Str) (k : Comm) :
    balOf (p :: ps) a k = contrib p a k + balOf ps a k := rfl

theorem sumAcc_foldl (ps : List EPost) (a : Str) (k : Comm) :
    ∀ m : List EAcct, sumAcc (ps.foldl (fun m p => acctAdd p m) m) a k = sumAcc m a k + balOf ps a k := by
  induction ps with
  | nil => intro m; exact (Rat.add_zero _).symm
  | cons p t ih => intro m; rw [List.foldl_cons, ih, sumAcc_acctAdd, balOf_cons, Rat.add_assoc]

theorem sumAcc_collect (ps : List EPost) (a : Str) (k : Comm) : sumAcc (collect ps) a k = balOf ps a k := by
  unfold collect
  rw [sumAcc_foldl, sumAcc_nil, Rat.zero_add]

theorem balOfP_nil (a : Str) (k : Comm) : balOfP [] a k = 0 := rfl

theorem balOfP_cons (p : PPost) (l : List PPost) (a : Str) (k : Comm) :
    balOfP (p :: l) a k = contribP p a k + balOfP l a k := rfl

theorem balOfP_append (xs ys : List PPost) (a : Str) (k : Comm) :
    balOfP (xs ++ ys) a k = balOfP xs a k + balOfP ys a k := by
  induction xs with
  | nil => exact (Rat.zero_add _).symm
  | cons x t ih => rw [List.cons_append, balOfP_cons, balOfP_cons, ih, Rat.add_assoc]

theorem contribP_mkPost (name : Str) (kind : PostKind) (q : Qty) (a : Str) (k : Comm) :
    contribP (mkPost name kind q) a k = if name = a ∧ q.comm = k then q.q else 0 := rfl

/-- dropping entries that contribute nothing does not change a sum. -/
theorem sum_map_filter {α : Type} (p : α → Bool) (f : α → Rat) (l : List α)
    (h : ∀ x ∈ l, p x = false → f x = 0) : ((l.filter p).map f).sum = (l.map f).sum := by
  induction l with
  | nil => rfl
  | cons x t ih =>
    have ih := ih (fun y hy => h y (List.mem_cons_of_mem _ hy))
    cases hp : p x with
    | true => rw [List.filter_cons_of_pos hp, List.map_cons, List.map_cons, List.sum_cons, List.sum_cons, ih]
    | false =>
      rw [List.filter_cons_of_neg (Bool.eq_false_iff.mp hp), List.map_cons, List.sum_cons, ih,
        h x List.mem_cons_self hp, Rat.zero_add]

/-- the postings written for one account: the non-zero entries of its balance. -/
theorem balOfP_entries (zero : Qty → Bool)
    (name : Str) (kind : PostKind) (b : EBal) (hz : ∀ kq ∈ b, zero { q := kq.2, comm := kq.1 } = true → kq.2 = 0)
    (a : Str) (k : Comm) :
    balOfP ((b.filter (fun kq => !zero { q := kq.2, comm := kq.1 })).map
      (fun kq => mkPost name kind { q := kq.2, comm := kq.1 })) a k =
      if name = a then sumBal b k else 0 := by
  unfold balOfP
  rw [List.map_map, sum_map_filter _ _ b (fun kq hkq hf => by
    simp only [Function.comp, contribP_mkPost, hz kq hkq (by simpa using hf), ite_self])]
  induction b with
  | nil => rw [sumBal_nil, ite_self]; rfl
  | cons x r ih =>
    rw [List.map_cons, List.sum_cons, ih (fun kq hkq => hz kq (List.mem_cons_of_mem _ hkq)), sumBal_cons, ite_add_ite]
    simp only [Function.comp, contribP_mkPost, ite_and_zero]

theorem balOfP_acctPosts (zero : Qty → Bool)
    (ps : List EPost) (m : List EAcct)
    (hz : ∀ e ∈ m, ∀ kq ∈ e.bal, zero { q := kq.2, comm := kq.1 } = true → kq.2 = 0) (a : Str) (k : Comm) :
    balOfP (acctPosts zero ps m) a k = sumAcc m a k := by
  unfold acctPosts
  induction m with
  | nil => rfl
  | cons e r ih =>
    rw [List.map_cons, List.flatten_cons, balOfP_append, sumAcc_cons, ih (fun e' he' => hz e' (List.mem_cons_of_mem _ he')),
      balOfP_entries zero _ _ _ (hz e List.mem_cons_self)]

theorem balOfP_balancing (zero : Qty → Bool) (t : EBal) (a : Str) (k : Comm) (ha : a ≠ equityAccount) :
    balOfP (balancingPosts zero t) a k = 0 := by
  unfold balancingPosts
  induction (t.filter (fun kq => !zero { q := kq.2, comm := kq.1 })) with
  | nil => rfl
  | cons x r ih =>
    rw [List.map_cons, balOfP_cons, contribP_mkPost, ih, if_neg (fun h => ha h.1.symm), Rat.add_zero]

theorem acctPosts_amounts (zero : Qty → Bool) (ps : List EPost) (m : List EAcct) :
    ∀ p ∈ acctPosts zero ps m, ∃ e ∈ m, ∃ kq ∈ e.bal, p.amount = some { q := kq.2, comm := kq.1 } := by
  intro p hp
  unfold acctPosts at hp
  simp only [List.mem_flatten, List.mem_map] at hp
  obtain ⟨l, ⟨e, he, rfl⟩, hpl⟩ := hp
  simp only [List.mem_map, List.mem_filter] at hpl
  obtain ⟨kq, ⟨hkq, _⟩, rfl⟩ := hpl
  exact ⟨e, he, kq, hkq, rfl⟩

theorem elidedAccount_of_flag (L : Layout) (x : PXact) :
    ∀ pe ∈ x.posts.zip (elideFlags L x), pe.2 = true → elidedAccount L x = some pe.1.account := by
  intro pe hpe hflag
  obtain ⟨p1, hps, he⟩ := elideFlags_true hpe hflag
  simp only [elidedAccount, hps, he, if_true]

theorem contribP_normPost_written (c : AmtCodec) (L : Layout) (xs : ItemState) (w : Nat) (p : PPost) (a : Str) (k : Comm)
    (hex : ∀ q, p.amount = some q → c.disp q = q) :
    contribP (normPost c L xs w false p) a k = contribP p a k := by
  have h1 : (normPost c L xs w false p).amount = p.amount.map c.disp := rfl
  have h2 : (normPost c L xs w false p).account = p.account := rfl
  unfold contribP
  rw [h1, h2]
  cases hamt : p.amount with
  | none => rfl
  | some q => rw [Option.map_some, hex q hamt]

theorem contribP_normPost_elided (c : AmtCodec) (L : Layout) (xs : ItemState) (w : Nat) (p : PPost) (a : Str) (k : Comm)
    (hne : p.account ≠ a) :
    contribP (normPost c L xs w true p) a k = contribP p a k := by
  have h1 : (normPost c L xs w true p).amount = none := rfl
  unfold contribP
  rw [h1]
  cases p.amount with
  | none => rfl
  | some q => exact (if_neg fun h => hne h.1).symm

/-- per account and commodity, the written amounts of `norm x` sum to those of `x`
    when every amount is display-exact and the account is not the one whose amount is elided. -/
theorem balOfP_norm (c : Codec) (L : Layout) (x : PXact) (a : Str) (k : Comm)
    (hex : ∀ p ∈ x.posts, ∀ q, p.amount = some q → c.disp q = q)
    (hel : elidedAccount L x ≠ some a) :
    balOfP (norm c L x).posts a k = balOfP x.posts a k := by
  unfold balOfP
  rw [map_norm_posts c L x (fun p => contribP p a k)]
  intro pe hpe
  cases hf : pe.2 with
  | false => exact contribP_normPost_written _ L _ _ pe.1 a k (hex pe.1 (List.of_mem_zip hpe).1)
  | true =>
    apply contribP_normPost_elided
    intro he
    apply hel
    rw [elidedAccount_of_flag L x pe hpe hf, he]

end Print
end Ledger
