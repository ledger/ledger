/-
Model/Print.lean's text layers instantiated with ledger's own, and proof that they are `Lawful`; this
discharges the codec hypotheses of C06's theorems on an explicit decidable domain.  In file order:
* the amount layer `ledgerAmt env` (`ledgerShowAmt` / `ledgerShowCost` / `ledgerReadAmt` / `ledgerDisp` over
  Model/AmountText.lean's `printAmount` = amount_t::print and `parseAmount` = amount_t::parse) with its domain
  `ledgerDom` / `ledgerFullOk`;
* what rounding to the display precision does to the printed number (`roundUnits_roundTo`, `roundTo_idem`,
  `roundTo_neg_iff`, `fmtNum_roundTo`), needed for `showAmt (disp a) = showAmt a`;
* `ledgerAmt_lawful`, from C04's round trip `parse_print_main` (= `C04.print_parse_roundtrip_partial`);
* the date layer `ledgerDate cur` (format_date with the written format, parse_date) and `ledgerDate_lawful`, from
  `C14.format_parse`; `ledgerCodec` puts the two together.

`env` is the commodity pool at print time (style flags and display precision per commodity); the reader is the
same session's (it takes the decimal-comma flag from the same pool).
Text: C04 models bytes, C06 code points; they coincide on the domain (the printed text
is required to be `amtTextOk`, and the symbols C04's guard `SymOK` admits).
-/
import LedgerModel.Lemmas.Print
import LedgerModel.Lemmas.AmountText
import LedgerModel.Props.C14

namespace Ledger
namespace Print

open Ledger.AmountText

/-- least number of decimals (≤ 40) that writes `q` exactly. -/
def ledgerDecs (q : Rat) : Nat :=
  ((List.range 41).find? (fun d => decide ((q * (10 : Rat) ^ d).den = 1))).getD 0

def ledgerShowAmt (env : Comm → CommInfo) (a : Qty) : Str :=
  printAmount false a.comm.toList (env a.comm) a.q 0 false

def ledgerShowCost (env : Comm → CommInfo) (a : Qty) : Str :=
  printAmount false a.comm.toList (env a.comm) a.q (ledgerDecs a.q) true

def ledgerReadAmt (env : Comm → CommInfo) (s : Str) : Option Qty :=
  match parseAmount (fun sym => (env (String.ofList sym)).style.decimalComma) s with
  | .ok p => if p.rest = [] then some { q := p.q, comm := String.ofList p.sym } else none
  | .error _ => none

def ledgerDisp (env : Comm → CommInfo) (a : Qty) : Qty :=
  { q := Amount.roundTo a.q (env a.comm).prec, comm := a.comm }

def numLenOk (env : Comm → CommInfo) (a : Qty) (amtPrec : Nat) (keep : Bool) : Bool :=
  decide (((printedNum (env a.comm) a.q amtPrec keep).render (env a.comm).style.thousands
    (false || (env a.comm).style.decimalComma)).length ≤ Gen.quantityBufMax)

/-- the amounts ledger's text layer prints and reads back as posting amounts: C04's guards
    (symbol, buffer), a printed text of the shape the posting line needs, and no negative
    quantity that displays as zero (`-0.00`). -/
def ledgerDom (env : Comm → CommInfo) (a : Qty) : Bool :=
  decide (SymOK a.comm.toList) && numLenOk env a 0 false && amtTextOk (ledgerShowAmt env a) &&
  decide (Amount.roundTo a.q (env a.comm).prec = 0 → a.q = 0)

/-- the same for costs (printed with every digit): additionally the quantity has a finite
    decimal expansion of at most 40 digits. -/
def ledgerFullOk (env : Comm → CommInfo) (a : Qty) : Bool :=
  decide (SymOK a.comm.toList) && numLenOk env a (ledgerDecs a.q) true && amtTextOk (ledgerShowCost env a) &&
  decide ((a.q * (10 : Rat) ^ (max (ledgerDecs a.q) (env a.comm).prec)).den = 1)

def ledgerAmt (env : Comm → CommInfo) : AmtCodec :=
  { showAmt := ledgerShowAmt env, showCost := ledgerShowCost env, readAmt := ledgerReadAmt env,
    disp := ledgerDisp env, dom := ledgerDom env, fullOk := ledgerFullOk env }

theorem rat_of_den_one (q : Rat) (h : q.den = 1) : q = (q.num : Rat) := by
  apply Rat.ext
  · simp
  · simp [h]

theorem roundUnits_roundTo (q : Rat) (p : Nat) :
    Amount.roundUnits (Amount.roundTo q p) p = Amount.roundUnits q p :=
  roundUnits_eq_of_scaled _ p _ (roundTo_mul_pow q p)

theorem roundTo_idem (q : Rat) (p : Nat) : Amount.roundTo (Amount.roundTo q p) p = Amount.roundTo q p :=
  roundTo_id_aux _ p _ (roundTo_mul_pow q p)

theorem roundTo_neg_iff (q : Rat) (p : Nat) (hz : Amount.roundTo q p = 0 → q = 0) :
    decide (Amount.roundTo q p < 0) = decide (q < 0) := by
  have hs := roundUnits_sign q p
  have hm := roundTo_mul_pow q p
  have hpos := ten_pow_pos p
  by_cases hq : q < 0
  · have hu : Amount.roundUnits q p ≤ 0 := hs.1 hq
    have hne : Amount.roundTo q p ≠ 0 := by
      intro h0; have := hz h0; rw [this] at hq; exact absurd hq (by decide)
    have : Amount.roundTo q p < 0 := by
      by_cases hlt : Amount.roundTo q p < 0
      · exact hlt
      · have hgt : 0 < Amount.roundTo q p := Rat.lt_iff_le_and_ne.mpr ⟨Rat.not_lt.mp hlt, Ne.symm hne⟩
        have hp : 0 < Amount.roundTo q p * (10 : Rat) ^ p := Rat.mul_pos hgt hpos
        rw [hm] at hp
        have : (0 : Int) < Amount.roundUnits q p := Rat.intCast_pos.mp hp
        omega
    simp [hq, this]
  · have hu : 0 ≤ Amount.roundUnits q p := hs.2 hq
    have : ¬ Amount.roundTo q p < 0 := by
      intro h
      have hneg : 0 < -(Amount.roundTo q p) := by have := Rat.neg_lt_neg h; rwa [Rat.neg_zero] at this
      have hp0 := Rat.mul_pos hneg hpos
      rw [Rat.neg_mul, hm, ← Rat.intCast_neg] at hp0
      have := Rat.intCast_pos.mp hp0
      omega
    simp [hq, this]

theorem fmtNum_roundTo (q : Rat) (p : Nat) (z : Option Nat) (hz : Amount.roundTo q p = 0 → q = 0) :
    fmtNum (Amount.roundTo q p) p z = fmtNum q p z := by
  unfold fmtNum
  rw [roundUnits_roundTo, roundTo_neg_iff q p hz]

theorem displayPrec_plain (cp a : Nat) : displayPrec true cp a false = cp := by simp [displayPrec]

theorem displayPrec_keep (cp a : Nat) : displayPrec true cp a true = max a cp := by simp [displayPrec]

structure LedgerDomFacts (env : Comm → CommInfo) (a : Qty) : Prop where
  sym  : SymOK a.comm.toList
  len  : ((printedNum (env a.comm) a.q 0 false).render (env a.comm).style.thousands
            (false || (env a.comm).style.decimalComma)).length ≤ Gen.quantityBufMax
  text : amtTextOk (ledgerShowAmt env a) = true
  zero : Amount.roundTo a.q (env a.comm).prec = 0 → a.q = 0

theorem ledgerDomFacts {env : Comm → CommInfo} {a : Qty} (h : ledgerDom env a = true) : LedgerDomFacts env a := by
  unfold ledgerDom numLenOk at h
  simp only [Bool.and_eq_true, decide_eq_true_eq] at h
  exact ⟨h.1.1.1, h.1.1.2, h.1.2, h.2⟩

theorem ledgerRead_show (env : Comm → CommInfo) (a : Qty) (amtPrec : Nat) (keep : Bool)
    (hsym : SymOK a.comm.toList)
    (hlen : ((printedNum (env a.comm) a.q amtPrec keep).render (env a.comm).style.thousands
            (false || (env a.comm).style.decimalComma)).length ≤ Gen.quantityBufMax) :
    ledgerReadAmt env (printAmount false a.comm.toList (env a.comm) a.q amtPrec keep) =
      some { q := Amount.roundTo a.q (displayPrec true (env a.comm).prec amtPrec keep), comm := a.comm } := by
  have h := parse_print_main false a.comm.toList (env a.comm) a.q amtPrec keep
    (fun sym => (env (String.ofList sym)).style.decimalComma) [] hsym hlen
    (Or.inl (by simp [String.ofList_toList])) (Or.inl rfl)
  rw [List.append_nil] at h
  unfold ledgerReadAmt
  rw [h]
  simp [String.ofList_toList]

theorem ledgerAmt_lawful (env : Comm → CommInfo) : (ledgerAmt env).Lawful := by
  -- the fields are unfolded by name first: left to the unifier, the amount functions get unfolded instead
  constructor <;> simp only [ledgerAmt]
  case read_showAmt =>
    intro a hd
    have f := ledgerDomFacts hd
    unfold ledgerShowAmt ledgerDisp
    rw [ledgerRead_show env a 0 false f.sym f.len, displayPrec_plain]
  case read_showCost =>
    intro a hf
    unfold ledgerFullOk numLenOk at hf
    simp only [Bool.and_eq_true, decide_eq_true_eq] at hf
    obtain ⟨⟨⟨h1, h2⟩, h3⟩, h4⟩ := hf
    unfold ledgerShowCost
    rw [ledgerRead_show env a (ledgerDecs a.q) true h1 h2, displayPrec_keep,
      roundTo_id_aux a.q _ ((a.q * (10 : Rat) ^ (max (ledgerDecs a.q) (env a.comm).prec)).num) (rat_of_den_one _ h4)]
  case disp_comm =>
    exact fun _ _ => rfl
  case disp_idem =>
    intro a _
    simp only [ledgerDisp, roundTo_idem]
  case showAmt_disp =>
    intro a hd
    have f := ledgerDomFacts hd
    have hne : a.comm.toList ≠ [] := f.sym.1
    unfold ledgerShowAmt ledgerDisp
    simp only
    rw [printAmount_eq false a.comm.toList (env a.comm) _ 0 false hne,
      printAmount_eq false a.comm.toList (env a.comm) a.q 0 false hne]
    have : printedNum (env a.comm) (Amount.roundTo a.q (env a.comm).prec) 0 false =
        printedNum (env a.comm) a.q 0 false := by
      unfold printedNum
      rw [displayPrec_plain]
      exact fmtNum_roundTo a.q _ _ f.zero
    rw [this]
  case showAmt_ok =>
    exact fun a hd => (ledgerDomFacts hd).text
  case showCost_ok =>
    intro a hf
    unfold ledgerFullOk at hf
    simp only [Bool.and_eq_true] at hf
    exact hf.1.2

def ledgerShowDate (n : Int) : Str := (DateParse.formatDate Gen.writtenDateFormat.toList n).getD []

def ledgerReadDate (cur : Int × Int) (s : Str) : Option Int :=
  match DateParse.parseDate none cur s with
  | .ok n => some n
  | .error _ => none

/-- the days boost::gregorian accepts (years 1400..9999), printed in a shape the header line needs. -/
def ledgerDateDom (n : Int) : Bool :=
  decide (1400 ≤ (Cal.toYMD n).1) && decide ((Cal.toYMD n).1 ≤ 9999) &&
  (DateParse.formatDate Gen.writtenDateFormat.toList n).isSome && dateTextOk (ledgerShowDate n)

/-- `cur` = (current year, current month): parse_date's clock (irrelevant for full dates). -/
def ledgerDate (cur : Int × Int) : DateCodec :=
  { showDate := ledgerShowDate, readDate := ledgerReadDate cur, dateDom := ledgerDateDom }

theorem ledgerRead_showDate (cur : Int × Int) (n : Int) (hd : ledgerDateDom n = true) :
    ledgerReadDate cur (ledgerShowDate n) = some n := by
  unfold ledgerDateDom at hd
  simp only [Bool.and_eq_true, decide_eq_true_eq] at hd
  obtain ⟨⟨⟨h1, h2⟩, h3⟩, _⟩ := hd
  obtain ⟨t, ht⟩ := Option.isSome_iff_exists.mp h3
  unfold ledgerShowDate ledgerReadDate
  rw [ht, Option.getD_some, C14.format_parse n h1 h2 cur Gen.writtenDateFormat t (Or.inl rfl) ht]

theorem ledgerShowDate_ok (n : Int) (hd : ledgerDateDom n = true) : dateTextOk (ledgerShowDate n) = true := by
  unfold ledgerDateDom at hd
  exact (Bool.and_eq_true_iff.mp hd).2

theorem ledgerDate_lawful (cur : Int × Int) : (ledgerDate cur).Lawful := by
  -- the fields are unfolded by name first: left to the unifier, the date functions get unfolded instead
  constructor <;> simp only [ledgerDate]
  case read_show =>
    exact ledgerRead_showDate cur
  case show_ok =>
    exact ledgerShowDate_ok

/-- ledger's own amount and date text layers. -/
def ledgerCodec (env : Comm → CommInfo) (cur : Int × Int) : Codec :=
  { toAmtCodec := ledgerAmt env, toDateCodec := ledgerDate cur }

theorem ledgerCodec_lawful (env : Comm → CommInfo) (cur : Int × Int) : (ledgerCodec env cur).Lawful :=
  ⟨ledgerAmt_lawful env, ledgerDate_lawful cur⟩

end Print
end Ledger
