/-
The table-driven parser of Model/Expr.lean, run on a rendering of an operator
tree that has parentheses at least where the DOCUMENTED precedence demands
them, returns that tree (C15.parse_respects_ladder, C15.print_parse_value).

The documented ladder is written here by hand: `levelName`, `BinOp.lvl`, `Expr.lvl`, `render`
(with `own`, `render_eq`), and the rows `rowTerm … rowSeq`.  `rows_eq` is the one place where the
hand-written rows meet `Gen.ladder`; `findRow_at` rests on it, and `rowAt_first`, `rowAt_bin`,
`consumerLevel_of_op?`, `BinOp.row_op`, `UnOp.row_op` evaluate the hand-written rows.

Then, in file order: one level of `parseLevel` for an arbitrary row (`parseLevel_succ`,
`levelStep_*`, `pl_at`); what may follow an operand (`Tok.consumerLevel`, `followOK`) and the
continuations that then stop (`*_stop`, `descend`, `descend_to`); `ParsesAt` (text for an operand
of a level) with `ParsesAt.lower` and the leaves, parentheses, unary and conditional nodes;
`InLoopAt` (the same, seen from inside the loop of a binary level) with `InLoopAt.bin`;
`parse_render_all`, the induction over operator trees, and `parse_render`;
`printToksAux_eq_render`.
-/
import LedgerModel.Model.Expr

namespace Ledger

/-- position in the chain of parse functions, loosest first -/
def levelName : Nat → String
  | 0 => "parse_value_expr" | 1 => "parse_assign_expr" | 2 => "parse_lambda_expr" | 3 => "parse_comma_expr"
  | 4 => "parse_querycolon_expr" | 5 => "parse_or_expr" | 6 => "parse_and_expr" | 7 => "parse_logic_expr"
  | 8 => "parse_add_expr" | 9 => "parse_mul_expr" | 10 => "parse_unary_expr" | 11 => "parse_dot_expr"
  | 12 => "parse_call_expr" | _ => "parse_value_term"

/-- documented precedence of the binary operators: a larger level binds tighter -/
def BinOp.lvl : BinOp → Nat
  | .or => 5 | .and => 6
  | .eq => 7 | .lt => 7 | .lte => 7 | .gt => 7 | .gte => 7
  | .add => 8 | .sub => 8 | .mul => 9 | .div => 9

def Expr.lvl : Expr → Nat
  | .query _ _ _ => 4
  | .bin op _ _ => op.lvl
  | .un _ _ => 10
  | _ => 13

/-- the operator fragment: literals, identifiers, unary, binary, conditional.
    A unary operator is never applied to a literal node: the parser folds that
    into the literal (parser.cc 142-149, 159-166). -/
def Expr.isOpTree : Expr → Bool
  | .val _ => true
  | .ident _ .nil => true
  | .un _ e => e.isOpTree && !e.isVal
  | .bin _ l r => l.isOpTree && r.isOpTree
  | .query c a b => c.isOpTree && a.isOpTree && b.isOpTree
  | _ => false

def wrapParen (b : Bool) (ts : List Tok) : List Tok := if b then .lparen :: (ts ++ [.rparen]) else ts

/-- Rendering of an operator tree as the operand of a level-`L` parse function:
    parentheses where the documented precedence / left associativity demands
    them (`full = false`), or around every operator node as well (`full = true`). -/
def render (full : Bool) : Nat → Expr → List Tok
  | _, .val v => [.value v]
  | _, .ident n _ => [.ident n]
  | L, .un op e => wrapParen (full || decide (10 < L)) (op.tok :: render full 11 e)
  | L, .bin op l r => wrapParen (full || decide (op.lvl < L)) (render full op.lvl l ++ op.tok :: render full (op.lvl + 1) r)
  | L, .query c a b =>
    wrapParen (full || decide (4 < L)) (render full 5 c ++ .query :: (render full 5 a ++ .colon :: render full 5 b))
  | _, _ => []

/-- parentheses only where precedence or associativity demands them -/
def renderMinimal (e : Expr) : List Tok := render false 0 e

/-- the rendering of a node without parentheses of its own -/
def own (full : Bool) : Expr → List Tok
  | .val v => [.value v]
  | .ident n _ => [.ident n]
  | .un op e => op.tok :: render full 11 e
  | .bin op l r => render full op.lvl l ++ op.tok :: render full (op.lvl + 1) r
  | .query c a b => render full 5 c ++ .query :: (render full 5 a ++ .colon :: render full 5 b)
  | _ => []

/-- an operator node is parenthesised where its level is looser than the level asked for -/
theorem render_eq (full : Bool) (L : Nat) {e : Expr} (h : e.lvl < 13) :
    render full L e = wrapParen (full || decide (e.lvl < L)) (own full e) := by
  cases e with
  | un _ _ => rfl
  | bin _ _ _ => rfl
  | query _ _ _ => rfl
  | _ => exact absurd h (Nat.lt_irrefl _)

/-- asked for at its own level, a binary node gets no parentheses (left associativity) -/
theorem render_own_lvl (op : BinOp) (a b : Expr) : render false op.lvl (.bin op a b) = own false (.bin op a b) := by
  show wrapParen (false || decide (op.lvl < op.lvl)) _ = _
  rw [decide_eq_false (Nat.lt_irrefl _)]; rfl

def rowTerm : Row := ⟨"parse_value_term", "term", "", false, [("VALUE", "VALUE", false), ("IDENT", "IDENT", false), ("LPAREN", "", false)], "parse_value_expr"⟩
def rowCall : Row := ⟨"parse_call_expr", "call", "parse_value_term", true, [("LPAREN", "O_CALL", false)], "parse_value_expr"⟩
def rowDot : Row := ⟨"parse_dot_expr", "binloop-lookup", "parse_call_expr", true, [("DOT", "O_LOOKUP", false)], "parse_call_expr"⟩
def rowUnary : Row := ⟨"parse_unary_expr", "prefix", "parse_dot_expr", false, [("EXCLAM", "O_NOT", false), ("MINUS", "O_NEG", false)], "parse_dot_expr"⟩
def rowMul : Row := ⟨"parse_mul_expr", "binloop", "parse_unary_expr", true, [("STAR", "O_MUL", false), ("SLASH", "O_DIV", false), ("KW_DIV", "O_DIV", false)], "parse_unary_expr"⟩
def rowAdd : Row := ⟨"parse_add_expr", "binloop", "parse_mul_expr", true, [("PLUS", "O_ADD", false), ("MINUS", "O_SUB", false)], "parse_mul_expr"⟩
def rowLogic : Row := ⟨"parse_logic_expr", "binloop", "parse_add_expr", true,
  [("EQUAL", "O_EQ", false), ("NEQUAL", "O_EQ", true), ("MATCH", "O_MATCH", false), ("NMATCH", "O_MATCH", true),
   ("LESS", "O_LT", false), ("LESSEQ", "O_LTE", false), ("GREATER", "O_GT", false), ("GREATEREQ", "O_GTE", false)], "parse_add_expr"⟩
def rowAnd : Row := ⟨"parse_and_expr", "binloop", "parse_logic_expr", true, [("KW_AND", "O_AND", false)], "parse_logic_expr"⟩
def rowOr : Row := ⟨"parse_or_expr", "binloop", "parse_and_expr", true, [("KW_OR", "O_OR", false)], "parse_and_expr"⟩
def rowQuery : Row := ⟨"parse_querycolon_expr", "ternary", "parse_or_expr", false,
  [("QUERY", "O_QUERY", false), ("COLON", "O_COLON", false), ("KW_IF", "O_QUERY", false), ("KW_ELSE", "O_COLON", false)], "parse_or_expr"⟩
def rowComma : Row := ⟨"parse_comma_expr", "list", "parse_querycolon_expr", true, [("COMMA", "O_CONS", false)], "parse_querycolon_expr"⟩
def rowLambda : Row := ⟨"parse_lambda_expr", "once-scope", "parse_comma_expr", false, [("ARROW", "O_LAMBDA", false)], "parse_querycolon_expr"⟩
def rowAssign : Row := ⟨"parse_assign_expr", "once-scope", "parse_lambda_expr", false, [("ASSIGN", "O_DEFINE", false)], "parse_lambda_expr"⟩
def rowSeq : Row := ⟨"parse_value_expr", "seq", "parse_assign_expr", true, [("SEMI", "O_SEQ", false)], "parse_assign_expr"⟩

/-- The table generated from parser.cc is the list of the rows named here. -/
theorem rows_eq : rows = [rowTerm, rowCall, rowDot, rowUnary, rowMul, rowAdd, rowLogic, rowAnd, rowOr, rowQuery,
                          rowComma, rowLambda, rowAssign, rowSeq] := by rfl

def rowAt : Nat → Row
  | 0 => rowSeq | 1 => rowAssign | 2 => rowLambda | 3 => rowComma | 4 => rowQuery | 5 => rowOr | 6 => rowAnd
  | 7 => rowLogic | 8 => rowAdd | 9 => rowMul | 10 => rowUnary | 11 => rowDot | 12 => rowCall | _ => rowTerm

theorem findRow_at : ∀ L, L ≤ 13 → findRow (levelName L) = some (rowAt L) := by
  unfold findRow
  rw [rows_eq]
  decide +kernel

theorem rowAt_first : ∀ L, L < 13 → (rowAt L).first = levelName (L + 1)
  | 0, _ | 1, _ | 2, _ | 3, _ | 4, _ | 5, _ | 6, _ | 7, _ | 8, _ | 9, _ | 10, _ | 11, _ | 12, _ => rfl
  | _ + 13, h => absurd h (Nat.not_lt.2 (Nat.le_add_left 13 _))

theorem rowAt_bin : ∀ L, L ≤ 9 → 5 ≤ L → (rowAt L).shape = "binloop" ∧ (rowAt L).operand = levelName (L + 1) := by
  decide +kernel

theorem parseLevel_succ {n : String} {row : Row} (h : findRow n = some row) (f : Nat) (s : Bool) (toks : List Tok) :
    parseLevel (f + 1) n s toks =
      levelStep (parseLevel f) (callLoop f) (binLoop f) (commaTail f) (seqTail f) row s toks := by
  rw [parseLevel, h]

section
variable {pl : PL} {cl bl : Loop} {ct st : Tail} {row : Row} {s : Bool} {toks : List Tok}

theorem levelStep_term (h : row.shape = "term") : levelStep pl cl bl ct st row s toks = termStep pl row toks := by
  simp [levelStep, h]

theorem levelStep_call (h : row.shape = "call") : levelStep pl cl bl ct st row s toks = callStep pl cl row s toks := by
  simp [levelStep, h]

theorem levelStep_prefix (h : row.shape = "prefix") : levelStep pl cl bl ct st row s toks = unaryStep pl row s toks := by
  simp [levelStep, h]

theorem levelStep_bin (h : row.shape = "binloop" ∨ row.shape = "binloop-lookup") :
    levelStep pl cl bl ct st row s toks = binStep pl bl row s toks := by
  rcases h with h | h <;> simp [levelStep, h]

theorem levelStep_ternary (h : row.shape = "ternary") : levelStep pl cl bl ct st row s toks = ternaryStep pl row s toks := by
  simp [levelStep, h]

theorem levelStep_list (h : row.shape = "list") : levelStep pl cl bl ct st row s toks = listStep pl ct row s toks := by
  simp [levelStep, h]

theorem levelStep_once (h : row.shape = "once-scope") : levelStep pl cl bl ct st row s toks = onceStep pl row s toks := by
  simp [levelStep, h]

theorem levelStep_seq (h : row.shape = "seq") : levelStep pl cl bl ct st row s toks = seqStep pl st row s toks := by
  simp [levelStep, h]

end

theorem pl_at {L : Nat} (hL : L ≤ 13) (f : Nat) (s : Bool) (toks : List Tok) :
    parseLevel (f + 1) (levelName L) s toks =
      levelStep (parseLevel f) (callLoop f) (binLoop f) (commaTail f) (seqTail f) (rowAt L) s toks :=
  parseLevel_succ (findRow_at L hL) f s toks

/-- the level whose loop (or once-test) would consume this token after a complete operand -/
def Tok.consumerLevel : Tok → Option Nat
  | .semi => some 0 | .assign => some 1 | .arrow => some 2 | .comma => some 3
  | .query => some 4 | .kwIf => some 4 | .kwOr => some 5 | .kwAnd => some 6
  | .equal => some 7 | .nequal => some 7 | .less => some 7 | .lesseq => some 7 | .greater => some 7
  | .greatereq => some 7 | .match_ => some 7 | .nmatch => some 7
  | .plus => some 8 | .minus => some 8 | .star => some 9 | .slash => some 9 | .kwDiv => some 9
  | .dot => some 11 | .lparen => some 12
  | _ => none

/-- may this token follow an operand parsed at level `L` without being consumed by level `L` or a tighter one? -/
def Tok.okAfter (L : Nat) (t : Tok) : Bool :=
  t != .bad && (match t.consumerLevel with | none => true | some m => decide (m < L))

def followOK (L : Nat) : List Tok → Bool
  | [] => true
  | t :: _ => t.okAfter L

theorem followOK_mono {L L' : Nat} {rest : List Tok} (h : followOK L rest = true) (hl : L ≤ L') : followOK L' rest = true := by
  cases rest with
  | nil => rfl
  | cons t r =>
    obtain ⟨h1, h2⟩ := Bool.and_eq_true_iff.1 h
    refine Bool.and_eq_true_iff.2 ⟨h1, ?_⟩
    cases hc : t.consumerLevel with
    | none => rfl
    | some m =>
      rw [hc] at h2
      exact decide_eq_true (Nat.lt_of_lt_of_le (of_decide_eq_true h2) hl)

theorem followOK_head {L : Nat} {rest : List Tok} {t : Tok} (hf : followOK L rest = true) (ht : rest.head? = some t) :
    t.okAfter L = true := by
  cases rest with
  | nil => cases ht
  | cons t' r => cases ht; exact hf

theorem followOK_not_bad {L : Nat} {rest : List Tok} (hf : followOK L rest = true) : rest.head? ≠ some .bad :=
  fun ht => by have := followOK_head hf ht; cases this

/-- a token that level `m ≥ L` would consume does not follow an operand of level `L` -/
theorem followOK_not {L m : Nat} {rest : List Tok} (hf : followOK L rest = true) {t : Tok} (hcl : t.consumerLevel = some m) (hm : L ≤ m) :
    rest.head? ≠ some t := by
  intro ht
  have h := followOK_head hf ht
  simp only [Tok.okAfter, hcl, Bool.and_eq_true, decide_eq_true_eq] at h
  exact Nat.lt_irrefl m (Nat.lt_of_lt_of_le h.2 hm)

/-- the levels that test `row.op?` on the token after an operand: the once-scope and binloop rows -/
def opLevels : List Nat := [1, 2, 5, 6, 7, 8, 9, 11]

theorem opLevels_bin {L : Nat} (h5 : 5 ≤ L) (h9 : L ≤ 9) : L ∈ opLevels :=
  (by decide +kernel : ∀ L, L ≤ 9 → 5 ≤ L → L ∈ opLevels) L h9 h5

/-- one token of each kind: a literal's payload plays no role in `Tok.kind` or `Tok.consumerLevel` -/
def sampleToks : List Tok :=
  [.value .void, .ident "", .lparen, .rparen, .equal, .nequal, .less, .lesseq, .greater, .greatereq, .assign, .match_, .nmatch,
   .minus, .plus, .star, .slash, .arrow, .kwDiv, .exclam, .kwAnd, .kwOr, .kwIf, .kwElse, .query, .colon, .dot, .comma, .semi, .bad]

/-- `Tok.consumerLevel` agrees with the generated table: a row of `opLevels` accepts only tokens of its own level
    (30 token kinds × 8 rows, evaluated once) -/
theorem consumerLevel_of_op? (t : Tok) : ∀ L ∈ opLevels, ((rowAt L).op? t).isSome = true → t.consumerLevel = some L := by
  have key : ∀ t' ∈ sampleToks, ∀ L ∈ opLevels, ((rowAt L).op? t').isSome = true → t'.consumerLevel = some L := by
    decide +kernel
  cases t with
  | value v => exact key (.value .void) (by decide +kernel)
  | ident s => exact key (.ident "") (by decide +kernel)
  | _ => exact key _ (by decide +kernel)

/-- what `followOK L` gives the levels that test `row.op?` after an operand: the test fails -/
theorem op_none_of_ok (L : Nat) (hL : L ∈ opLevels) (t : Tok) (h : t.okAfter L = true) : (rowAt L).op? t = none := by
  cases ho : (rowAt L).op? t with
  | none => rfl
  | some x =>
    -- the row takes only tokens with `cl = some L`, and `okAfter L` demands `cl < L`
    have hcl := consumerLevel_of_op? t L hL (by rw [ho]; rfl)
    simp only [Tok.okAfter, hcl, Bool.and_eq_true, decide_eq_true_eq] at h
    exact absurd h.2 (Nat.lt_irrefl L)

theorem afterFirst_ok {pl : PL} {row : Row} {toks : List Tok} {e : Expr} {rest : List Tok} {k : Expr → List Tok → PRes}
    (h : pl row.first false toks = .ok (e, rest)) (he : e.isNil = false) :
    afterFirst pl row false toks k = k e rest := by
  simp [afterFirst, h, he]

section
variable {pl : PL} {row : Row} {node : Expr} {r : List Tok}

theorem seqRest_stop {st : Tail} (hb : r.head? ≠ some .bad) (hs : r.head? ≠ some .semi) :
    seqRest st row node r = .ok (node, r) := by
  unfold seqRest
  split
  · exact absurd rfl hb
  · exact absurd rfl hs
  · rfl

theorem listRest_stop {ct : Tail} (hb : r.head? ≠ some .bad) (hc : r.head? ≠ some .comma) :
    listRest ct row node r = .ok (node, r) := by
  unfold listRest
  split
  · exact absurd rfl hb
  · exact absurd rfl hc
  · rfl

theorem ternaryRest_stop (hb : r.head? ≠ some .bad) (hq : r.head? ≠ some .query) (hi : r.head? ≠ some .kwIf) :
    ternaryRest pl row node r = .ok (node, r) := by
  unfold ternaryRest
  split
  · exact absurd rfl hb
  · exact absurd rfl hq
  · exact absurd rfl hi
  · rfl

theorem onceRest_stop (hb : r.head? ≠ some .bad) (ho : ∀ t, r.head? = some t → row.op? t = none) :
    onceRest pl row node r = .ok (node, r) := by
  unfold onceRest
  split
  · exact absurd rfl hb
  · rw [ho _ rfl]
  · rfl

theorem binLoopStep_stop {bl : Loop} (hb : r.head? ≠ some .bad) (ho : ∀ t, r.head? = some t → row.op? t = none) :
    binLoopStep pl bl row node r = .ok (node, r) := by
  unfold binLoopStep
  split
  · rfl
  · exact absurd rfl hb
  · rw [ho _ rfl]

theorem callLoopStep_stop {cl : Loop} (hb : r.head? ≠ some .bad) (hp : r.head? ≠ some .lparen) :
    callLoopStep pl cl row node r = .ok (node, r) := by
  unfold callLoopStep
  split
  · exact absurd rfl hb
  · exact absurd rfl hp
  · rfl

end

theorem binLoop_stop (L : Nat) (hL : L ∈ opLevels) (g : Nat) (e : Expr) (rest : List Tok)
    (hf : followOK L rest = true) : binLoop (g + 1) (rowAt L) e rest = .ok (e, rest) := by
  rw [binLoop]
  exact binLoopStep_stop (followOK_not_bad hf) (fun t ht => op_none_of_ok L hL t (followOK_head hf ht))

/-- a level that finds nothing of its own after the operand returns what the next level returned.
    `hu`: the unary level looks at the FIRST token, so passing it needs text that does not start
    with a unary operator. -/
theorem descend (L : Nat) (hL : L ≤ 12) {g : Nat} {toks : List Tok} {e : Expr} {rest : List Tok}
    (h : parseLevel g (levelName (L + 1)) false toks = .ok (e, rest)) (he : e.isNil = false)
    (hf : followOK L rest = true)
    (hu : L = 10 → ∀ t r, toks = t :: r → (rowAt 10).op? t = none) :
    parseLevel (g + 1) (levelName L) false toks = .ok (e, rest) := by
  obtain ⟨g', rfl⟩ : ∃ g', g = g' + 1 := by
    cases g with
    | zero => rw [parseLevel] at h; cases h
    | succ g' => exact ⟨g', rfl⟩
  have hb := followOK_not_bad hf
  have hcase : L = 0 ∨ L = 1 ∨ L = 2 ∨ L = 3 ∨ L = 4 ∨ (5 ≤ L ∧ L ≤ 9) ∨ L = 10 ∨ L = 11 ∨ L = 12 :=
    (by decide +kernel : ∀ L, L ≤ 12 → L = 0 ∨ L = 1 ∨ L = 2 ∨ L = 3 ∨ L = 4 ∨ (5 ≤ L ∧ L ≤ 9) ∨ L = 10 ∨ L = 11 ∨ L = 12) L hL
  rcases hcase with rfl | rfl | rfl | rfl | rfl | ⟨h5, h9⟩ | rfl | rfl | rfl
  · rw [pl_at (L := 0) (by decide), levelStep_seq (row := rowAt 0) rfl, seqStep, afterFirst_ok (row := rowAt 0) h he]
    exact seqRest_stop hb (followOK_not hf (t := .semi) rfl (Nat.le_refl _))
  · rw [pl_at (L := 1) (by decide), levelStep_once (row := rowAt 1) rfl, onceStep, afterFirst_ok (row := rowAt 1) h he]
    exact onceRest_stop hb (fun t ht => op_none_of_ok 1 (by decide) t (followOK_head hf ht))
  · rw [pl_at (L := 2) (by decide), levelStep_once (row := rowAt 2) rfl, onceStep, afterFirst_ok (row := rowAt 2) h he]
    exact onceRest_stop hb (fun t ht => op_none_of_ok 2 (by decide) t (followOK_head hf ht))
  · rw [pl_at (L := 3) (by decide), levelStep_list (row := rowAt 3) rfl, listStep, afterFirst_ok (row := rowAt 3) h he]
    exact listRest_stop hb (followOK_not hf (t := .comma) rfl (Nat.le_refl _))
  · rw [pl_at (L := 4) (by decide), levelStep_ternary (row := rowAt 4) rfl, ternaryStep, afterFirst_ok (row := rowAt 4) h he]
    exact ternaryRest_stop hb (followOK_not hf (t := .query) rfl (Nat.le_refl _))
      (followOK_not hf (t := .kwIf) rfl (Nat.le_refl _))
  · have h13 : L < 13 := Nat.lt_of_le_of_lt h9 (by decide)
    rw [pl_at (L := L) (Nat.le_of_lt h13), levelStep_bin (.inl (rowAt_bin L h9 h5).1), binStep, afterFirst_ok (row := rowAt L) (by rw [rowAt_first L h13]; exact h) he]
    exact binLoop_stop L (opLevels_bin h5 h9) g' e rest hf
  · rw [pl_at (L := 10) (by decide), levelStep_prefix (row := rowAt 10) rfl]
    unfold unaryStep
    cases toks with
    | nil => exact h
    | cons t r =>
      have := hu rfl t r rfl
      simp only [this]
      exact h
  · rw [pl_at (L := 11) (by decide), levelStep_bin (row := rowAt 11) (.inr rfl), binStep, afterFirst_ok (row := rowAt 11) h he]
    exact binLoop_stop 11 (by decide) g' e rest hf
  · rw [pl_at (L := 12) (by decide), levelStep_call (row := rowAt 12) rfl, callStep, afterFirst_ok (row := rowAt 12) h he, callLoop]
    exact callLoopStep_stop hb (followOK_not hf (t := .lparen) rfl (Nat.le_refl _))

/-- `descend`, `d` levels at once; `hu` as there, needed only if level 10 lies in between -/
theorem descend_to (d : Nat) : ∀ (L : Nat), L + d ≤ 13 → ∀ {g : Nat} {toks : List Tok} {e : Expr} {rest : List Tok},
    parseLevel g (levelName (L + d)) false toks = .ok (e, rest) → e.isNil = false → followOK L rest = true →
    (L ≤ 10 → 10 < L + d → ∀ t r, toks = t :: r → (rowAt 10).op? t = none) →
    parseLevel (g + d) (levelName L) false toks = .ok (e, rest) := by
  induction d with
  | zero => intro L _ g toks e rest h _ _ _; exact h
  | succ d ih =>
    intro L hL g toks e rest h he hf hu
    -- one level down from `L + d + 1`, then `d` more
    have h1 := descend (L + d) (Nat.le_of_succ_le_succ hL) h he (followOK_mono hf (Nat.le_add_right L d))
      (fun h10 => hu (h10 ▸ Nat.le_add_right L d) (h10 ▸ Nat.lt_succ_self (L + d)))
    rw [show g + (d + 1) = g + 1 + d from Nat.add_right_comm g d 1]
    exact ih L (Nat.le_of_succ_le hL) h1 he hf (fun h10 h10' => hu h10 (Nat.lt_succ_of_lt h10'))

/-- `ts` is text for `e` as an operand of level `L`: parsed there it yields `e`
    and leaves whatever follows, given enough fuel.  Every call of a parse function and every
    loop turn costs one unit.  A token is reached after at most 14 calls (the whole ladder, once
    per opening parenthesis) and one loop turn, so 16 per token are enough; a parse that starts
    at level `L` has `L` calls fewer to make, hence `f + L`.  `parseFuel` gives twice that. -/
def ParsesAt (L : Nat) (ts : List Tok) (e : Expr) : Prop :=
  ∀ rest f, followOK L rest = true → 16 * ts.length + 16 ≤ f + L →
    parseLevel f (levelName L) false (ts ++ rest) = .ok (e, rest)

/-- text for an operand of level `M` is text for an operand of every looser level `L`; across the
    unary level only if it does not start with a unary operator -/
theorem ParsesAt.lower {M L : Nat} {ts : List Tok} {e : Expr} (h : ParsesAt M ts e) (he : e.isNil = false) (hM : M ≤ 13)
    (hL : L ≤ M) (hu : L ≤ 10 → 10 < M → ∃ t r, ts = t :: r ∧ (rowAt 10).op? t = none) : ParsesAt L ts e := by
  obtain ⟨d, rfl⟩ := Nat.exists_eq_add_of_le hL
  intro rest f hf hfuel
  obtain ⟨g, rfl⟩ : ∃ g, f = g + d := ⟨f - d, by omega⟩
  refine descend_to d L hM (h rest g (followOK_mono hf (Nat.le_add_right L d))
    (by rw [Nat.add_comm L d, ← Nat.add_assoc]; exact hfuel)) he hf ?_
  intro h1 h2 t r ht
  obtain ⟨t', r', rfl, hop⟩ := hu h1 h2
  cases ht
  exact hop

/-- text for an operand of level `M`, from one step of that level's parse function -/
theorem ParsesAt.of_step {M : Nat} {ts : List Tok} {e : Expr} (hM : M ≤ 13)
    (h : ∀ rest g, followOK M rest = true → 16 * ts.length + 16 ≤ g + 1 + M →
      levelStep (parseLevel g) (callLoop g) (binLoop g) (commaTail g) (seqTail g) (rowAt M) false (ts ++ rest) = .ok (e, rest)) :
    ParsesAt M ts e := by
  intro rest f hf hfuel
  obtain ⟨g, rfl⟩ : ∃ g, f = g + 1 := ⟨f - 1, by omega⟩
  rw [pl_at hM]
  exact h rest g hf hfuel

/-- an operand inside a text of `n` tokens, parsed one call further in: the 16 units of a token
    it does not contain pay for that call and for any change of level -/
theorem ParsesAt.inner {M : Nat} {ts : List Tok} {e : Expr} (h : ParsesAt M ts e) {n g L : Nat} (hn : ts.length < n)
    (hfuel : 16 * n + 16 ≤ g + 1 + L) (hL : L ≤ 13) {rest : List Tok} (hf : followOK M rest = true) :
    parseLevel g (levelName M) false (ts ++ rest) = .ok (e, rest) :=
  h rest g hf (by omega)

theorem parsesAt_paren {ts : List Tok} {e : Expr} (h0 : ParsesAt 0 ts e) (he : e.isNil = false) (L : Nat) (hL : L ≤ 13) :
    ParsesAt L (.lparen :: (ts ++ [.rparen])) e := by
  refine ParsesAt.lower (M := 13) (.of_step (Nat.le_refl _) fun rest g _ hfuel => ?_) he (Nat.le_refl _) hL
    (fun _ _ => ⟨_, _, rfl, rfl⟩)
  simp only [List.length_cons, List.length_append, List.length_nil] at hfuel
  rw [levelStep_term (row := rowAt 13) rfl, show (.lparen :: (ts ++ [.rparen])) ++ rest = .lparen :: (ts ++ .rparen :: rest) by simp]
  simp only [termStep]
  rw [show (rowAt 13).operand = levelName 0 from rfl, h0.inner (Nat.lt_succ_of_lt (Nat.lt_succ_self _)) hfuel (Nat.le_refl _) rfl]

theorem parsesAt_val (v : Value) (L : Nat) (hL : L ≤ 13) : ParsesAt L [.value v] (.val v) := by
  refine ParsesAt.lower (M := 13) (.of_step (Nat.le_refl _) fun rest g _ _ => ?_) rfl (Nat.le_refl _) hL
    (fun _ _ => ⟨_, _, rfl, rfl⟩)
  rw [levelStep_term (row := rowAt 13) rfl]
  rfl

theorem parsesAt_ident (n : String) (L : Nat) (hL : L ≤ 13) : ParsesAt L [.ident n] (.ident n .nil) := by
  refine ParsesAt.lower (M := 13) (.of_step (Nat.le_refl _) fun rest g _ _ => ?_) rfl (Nat.le_refl _) hL
    (fun _ _ => ⟨_, _, rfl, rfl⟩)
  rw [levelStep_term (row := rowAt 13) rfl]
  rfl

theorem BinOp.lvl_range (op : BinOp) : 5 ≤ op.lvl ∧ op.lvl ≤ 9 := by cases op <;> decide

theorem paren_succ {full : Bool} {n ℓ : Nat} (h : full = true ∨ n ≠ ℓ) :
    (full || decide (n < ℓ)) = (full || decide (n < ℓ + 1)) := by
  rcases h with rfl | h
  · rfl
  · rw [decide_eq_decide.2 ⟨Nat.lt_succ_of_lt, fun h' => Nat.lt_of_le_of_ne (Nat.le_of_lt_succ h') h⟩]

/-- off the left spine of level `ℓ` a rendering does not depend on whether level `ℓ` or `ℓ + 1` asks for it -/
theorem render_succ {full : Bool} {ℓ : Nat} {e : Expr} (h : full = true ∨ e.lvl ≠ ℓ) :
    render full ℓ e = render full (ℓ + 1) e := by
  cases e with
  | un op e => exact congrArg (wrapParen · _) (paren_succ h)
  | bin op l r => exact congrArg (wrapParen · _) (paren_succ h)
  | query c a b => exact congrArg (wrapParen · _) (paren_succ h)
  | _ => rfl

theorem isNil_of_opTree {e : Expr} (h : e.isOpTree = true) : e.isNil = false := by
  cases e with
  | nil => cases h
  | _ => rfl

theorem BinOp.tok_consumerLevel (op : BinOp) : op.tok.consumerLevel = some op.lvl := by cases op <;> rfl

theorem BinOp.tok_ne_bad (op : BinOp) : op.tok ≠ .bad := by cases op <;> simp [BinOp.tok]

theorem BinOp.row_op (op : BinOp) : (rowAt op.lvl).op? op.tok = some (op.kind, false) := by cases op <;> rfl

theorem BinOp.ofKind_kind (op : BinOp) : BinOp.ofKind op.kind = some op := by cases op <;> rfl

theorem UnOp.row_op (op : UnOp) : (rowAt 10).op? op.tok = some (op.kind, false) := by cases op <;> rfl

theorem UnOp.ofKind_kind (op : UnOp) : UnOp.ofKind op.kind = some op := by cases op <;> rfl

theorem mkUnary_nonval (op : UnOp) (e : Expr) (h : e.isVal = false) : mkUnary op.kind e = .ok (.un op e) := by
  unfold mkUnary
  rw [UnOp.ofKind_kind]
  cases e with
  | val v => cases h
  | _ => rfl

/-- parsed at level `ℓ`, `ts` (followed by anything no tighter level takes) leaves
    the loop of level `ℓ` holding `e`; `k` iterations of that loop were spent inside `ts` -/
def InLoopAt (ℓ : Nat) (ts : List Tok) (k : Nat) (e : Expr) : Prop :=
  ∀ rest g, followOK (ℓ + 1) rest = true → 16 * ts.length + 16 ≤ (g + k + 1) + ℓ →
    parseLevel (g + k + 1) (levelName ℓ) false (ts ++ rest) = binLoop g (rowAt ℓ) e rest

theorem InLoopAt.of_parsesAt {ℓ : Nat} (h5 : 5 ≤ ℓ) (h9 : ℓ ≤ 9) {ts : List Tok} {e : Expr} (hF : ParsesAt (ℓ + 1) ts e)
    (he : e.isNil = false) : InLoopAt ℓ ts 0 e := by
  intro rest g hf hfuel
  have h13 : ℓ < 13 := Nat.lt_of_le_of_lt h9 (by decide)
  rw [Nat.add_zero, pl_at (L := ℓ) (Nat.le_of_lt h13), levelStep_bin (.inl (rowAt_bin ℓ h9 h5).1), binStep]
  rw [afterFirst_ok (row := rowAt ℓ) (by rw [rowAt_first ℓ h13]; exact hF rest g hf (by rw [Nat.add_comm ℓ 1, ← Nat.add_assoc]; exact hfuel)) he]

theorem InLoopAt.parsesAt {ℓ : Nat} (h5 : 5 ≤ ℓ) (h9 : ℓ ≤ 9) {ts : List Tok} {k : Nat} {e : Expr} (hH : InLoopAt ℓ ts k e)
    (hk : k ≤ ts.length) : ParsesAt ℓ ts e := by
  intro rest f hf hfuel
  obtain ⟨g, rfl⟩ : ∃ g, f = (g + 1) + k + 1 := ⟨f - k - 2, by omega⟩
  rw [hH rest (g + 1) (followOK_mono hf (Nat.le_succ ℓ)) hfuel]
  exact binLoop_stop ℓ (opLevels_bin h5 h9) g e rest hf

/-- one more iteration of the loop: `a op b` with `a` left in the loop and `b` an operand of the next level -/
theorem InLoopAt.bin (op : BinOp) {ta tb : List Tok} {ka : Nat} {a b : Expr}
    (hA : InLoopAt op.lvl ta ka a) (hka : ka ≤ ta.length) (hB : ParsesAt (op.lvl + 1) tb b) (hb : b.isNil = false) :
    InLoopAt op.lvl (ta ++ op.tok :: tb) (ka + 1) (.bin op a b) := by
  intro rest g hf hfuel
  have ⟨h5, h9⟩ := op.lvl_range
  simp only [List.length_append, List.length_cons] at hfuel
  rw [show (ta ++ op.tok :: tb) ++ rest = ta ++ (op.tok :: (tb ++ rest)) by simp,
      show g + (ka + 1) + 1 = (g + 1) + ka + 1 from congrArg (· + 1) (Nat.add_right_comm g ka 1)]
  rw [hA (op.tok :: (tb ++ rest)) (g + 1) (by
        simp [followOK, Tok.okAfter, op.tok_consumerLevel, op.tok_ne_bad]) (by omega)]
  rw [binLoop]
  have hop := op.row_op
  have hne := op.tok_ne_bad
  have hb' : parseLevel g (rowAt op.lvl).operand false (tb ++ rest) = .ok (b, rest) := by
    rw [(rowAt_bin _ h9 h5).2]; exact hB rest g hf (by omega)
  unfold binLoopStep
  split
  · rename_i heq
    cases heq
  · rename_i heq
    exact absurd (List.cons.inj heq).1 hne
  · rename_i t r hnb heq
    cases heq
    simp only [hop, hb', hb, mkBin, op.ofKind_kind]
    rfl

theorem parsesAt_unary (op : UnOp) {ts : List Tok} {e : Expr} (hE : ParsesAt 11 ts e) (he : e.isNil = false)
    (hv : e.isVal = false) (L : Nat) (hL : L ≤ 10) : ParsesAt L (op.tok :: ts) (.un op e) := by
  refine ParsesAt.lower (M := 10) (.of_step (by decide) fun rest g hf hfuel => ?_) rfl (by decide) hL
    (fun _ h => absurd h (Nat.lt_irrefl _))
  rw [levelStep_prefix (row := rowAt 10) rfl]
  simp only [List.cons_append, unaryStep, op.row_op]
  rw [show (rowAt 10).operand = levelName 11 from rfl,
    hE.inner (Nat.lt_succ_self _) hfuel (by decide) (followOK_mono hf (by decide))]
  simp [he, mkUnary_nonval op e hv]

theorem parsesAt_query {tc ta tb : List Tok} {c a b : Expr} (hC : ParsesAt 5 tc c) (hA : ParsesAt 5 ta a) (hB : ParsesAt 5 tb b)
    (hc : c.isNil = false) (ha : a.isNil = false) (hb : b.isNil = false) (L : Nat) (hL : L ≤ 4) :
    ParsesAt L (tc ++ .query :: (ta ++ .colon :: tb)) (.query c a b) := by
  refine ParsesAt.lower (M := 4) (.of_step (by decide) fun rest g hf hfuel => ?_) rfl (by decide) hL
    (fun _ h => absurd h (by decide))
  simp only [List.length_cons, List.length_append] at hfuel
  rw [show (tc ++ .query :: (ta ++ .colon :: tb)) ++ rest = tc ++ (.query :: (ta ++ (.colon :: (tb ++ rest)))) by simp]
  rw [levelStep_ternary (row := rowAt 4) rfl, ternaryStep,
    afterFirst_ok (row := rowAt 4) (hC.inner (Nat.lt_add_of_pos_right (Nat.succ_pos _)) hfuel (by decide) rfl) hc]
  unfold ternaryRest
  dsimp only
  rw [show (rowAt 4).operand = levelName 5 from rfl, hA.inner (by omega) hfuel (by decide) rfl]
  simp only [ha]
  rw [hB.inner (by omega) hfuel (by decide) (followOK_mono hf (by decide))]
  simp [hb]

/-- an operator node, given that it parses without parentheses of its own at every level up to its own -/
theorem parsesAt_render_of_own {full : Bool} {e : Expr} (hop : e.lvl < 13) (he : e.isNil = false)
    (hown : ∀ L, L ≤ e.lvl → ParsesAt L (own full e) e) : ∀ L, L ≤ 13 → ParsesAt L (render full L e) e := by
  intro L hL
  rw [render_eq full L hop]
  cases hp : (full || decide (e.lvl < L)) with
  | true => exact parsesAt_paren (hown 0 (Nat.zero_le _)) he L hL
  | false =>
    simp only [Bool.or_eq_false_iff, decide_eq_false_iff_not, Nat.not_lt] at hp
    exact hown L hp.2

/-- iterations of the level-`ℓ` loop spent inside the rendering of `e` at level `ℓ` -/
def spineK (full : Bool) (ℓ : Nat) : Expr → Nat
  | .bin op a _ => if !full && op.lvl = ℓ then spineK full ℓ a + 1 else 0
  | _ => 0

theorem spineK_le (full : Bool) (ℓ : Nat) (e : Expr) : spineK full ℓ e ≤ (render full ℓ e).length := by
  induction e with
  | bin op a b iha _ =>
    simp only [spineK]
    split
    · rename_i h
      simp only [Bool.and_eq_true, Bool.not_eq_true', decide_eq_true_eq] at h
      obtain ⟨rfl, rfl⟩ := h
      rw [render_own_lvl]
      show _ ≤ (render false op.lvl a ++ op.tok :: render false (op.lvl + 1) b).length
      rw [List.length_append, List.length_cons]
      exact Nat.le_trans (Nat.succ_le_succ iha) (Nat.add_le_add_left (Nat.le_add_left 1 _) _)
    · exact Nat.zero_le _
  | _ => exact Nat.zero_le _

/-- off the spine the rendering is an operand of level `ℓ + 1`, and no iteration of the loop is spent in it -/
theorem InLoopAt.of_offSpine {full : Bool} {ℓ : Nat} {e : Expr} (h5 : 5 ≤ ℓ) (h9 : ℓ ≤ 9) (he : e.isNil = false)
    (hF : ParsesAt (ℓ + 1) (render full (ℓ + 1) e) e) (h : full = true ∨ e.lvl ≠ ℓ) :
    InLoopAt ℓ (render full ℓ e) (spineK full ℓ e) e := by
  have hk : spineK full ℓ e = 0 := by
    cases e with
    | bin op a b =>
      refine if_neg fun hc => ?_
      obtain ⟨hf, hl⟩ := Bool.and_eq_true_iff.1 hc
      rcases h with rfl | h
      · cases hf
      · exact h (of_decide_eq_true hl)
    | _ => rfl
  rw [render_succ h, hk]
  exact InLoopAt.of_parsesAt h5 h9 hF he

/-- the induction: every rendering of `e` parses back to `e` at every level, and at
    the binary levels it leaves the loop the way `InLoopAt.bin` needs it for a left operand -/
theorem parse_render_all (e : Expr) (he : e.isOpTree = true) :
    (∀ full L, L ≤ 13 → ParsesAt L (render full L e) e) ∧
    (∀ full ℓ, 5 ≤ ℓ → ℓ ≤ 9 → InLoopAt ℓ (render full ℓ e) (spineK full ℓ e) e) := by
  -- the binary levels are 5 … 9: the level above one of them is a level, and no other node's level is one of them
  have up : ∀ {ℓ : Nat}, ℓ ≤ 9 → ℓ + 1 ≤ 13 := fun h => Nat.le_trans (Nat.succ_le_succ h) (by decide)
  have above : ∀ {ℓ m : Nat}, ℓ ≤ 9 → 9 < m → m ≠ ℓ := fun h hm => Nat.ne_of_gt (Nat.lt_of_le_of_lt h hm)
  induction e with
  | val v =>
    exact ⟨fun full L hL => parsesAt_val v L hL, fun full ℓ h5 h9 =>
      InLoopAt.of_offSpine h5 h9 rfl (parsesAt_val v _ (up h9)) (.inr (show 13 ≠ ℓ from above h9 (by decide)))⟩
  | ident n d =>
    cases d with
    | nil =>
      exact ⟨fun full L hL => parsesAt_ident n L hL, fun full ℓ h5 h9 =>
        InLoopAt.of_offSpine h5 h9 rfl (parsesAt_ident n _ (up h9)) (.inr (show 13 ≠ ℓ from above h9 (by decide)))⟩
    | _ => cases he
  | un op e ih =>
    simp only [Expr.isOpTree, Bool.and_eq_true, Bool.not_eq_true'] at he
    have hF : ∀ full L, L ≤ 13 → ParsesAt L (render full L (.un op e)) (.un op e) := fun full =>
      parsesAt_render_of_own (e := .un op e) (show 10 < 13 by decide) rfl fun L hL =>
        parsesAt_unary op ((ih he.1).1 full 11 (by decide)) (isNil_of_opTree he.1) he.2 L hL
    exact ⟨hF, fun full ℓ h5 h9 => InLoopAt.of_offSpine h5 h9 rfl (hF full _ (up h9)) (.inr (show 10 ≠ ℓ from above h9 (by decide)))⟩
  | bin op a b iha ihb =>
    simp only [Expr.isOpTree, Bool.and_eq_true] at he
    have ⟨h5, h9⟩ := op.lvl_range
    have h13 : op.lvl < 13 := Nat.lt_of_le_of_lt h9 (by decide)
    have hownH : ∀ full, InLoopAt op.lvl (own full (.bin op a b)) (spineK full op.lvl a + 1) (.bin op a b) := fun full =>
      InLoopAt.bin op ((iha he.1).2 full op.lvl h5 h9) (spineK_le full op.lvl a) ((ihb he.2).1 full (op.lvl + 1) (up h9))
        (isNil_of_opTree he.2)
    have hF : ∀ full L, L ≤ 13 → ParsesAt L (render full L (.bin op a b)) (.bin op a b) := fun full =>
      parsesAt_render_of_own (e := .bin op a b) h13 rfl fun L hL =>
        (InLoopAt.parsesAt h5 h9 (hownH full) (by
          simp only [own, List.length_append, List.length_cons]
          exact Nat.le_trans (Nat.succ_le_succ (spineK_le full op.lvl a)) (Nat.add_le_add_left (Nat.le_add_left 1 _) _))).lower rfl (Nat.le_of_lt h13) hL (fun _ h => absurd h (Nat.not_lt.2 (Nat.le_trans h9 (by decide))))
    refine ⟨hF, fun full ℓ h5' h9' => ?_⟩
    by_cases hs : full = false ∧ op.lvl = ℓ
    · -- on the spine: the node is rendered without parentheses and the loop takes one more turn
      obtain ⟨rfl, rfl⟩ := hs
      rw [render_own_lvl, show spineK false op.lvl (.bin op a b) = spineK false op.lvl a + 1 from
        if_pos (decide_eq_true rfl)]
      exact hownH false
    · exact InLoopAt.of_offSpine h5' h9' rfl (hF full _ (up h9')) (by
        cases full
        · exact .inr (fun h => hs ⟨rfl, h⟩)
        · exact .inl rfl)
  | query c a b ihc iha ihb =>
    simp only [Expr.isOpTree, Bool.and_eq_true] at he
    have hF : ∀ full L, L ≤ 13 → ParsesAt L (render full L (.query c a b)) (.query c a b) := fun full =>
      parsesAt_render_of_own (e := .query c a b) (show 4 < 13 by decide) rfl fun L hL =>
        parsesAt_query ((ihc he.1.1).1 full 5 (by decide)) ((iha he.1.2).1 full 5 (by decide)) ((ihb he.2).1 full 5 (by decide))
          (isNil_of_opTree he.1.1) (isNil_of_opTree he.1.2) (isNil_of_opTree he.2) L hL
    exact ⟨hF, fun full ℓ h5 h9 => InLoopAt.of_offSpine h5 h9 rfl (hF full _ (up h9)) (.inr (show 4 ≠ ℓ from Nat.ne_of_lt (Nat.lt_of_lt_of_le (by decide) h5)))⟩
  | _ => cases he

/-- Any rendering with at least the parentheses the documented ladder demands parses back to the tree. -/
theorem parse_render (full : Bool) (e : Expr) (he : e.isOpTree = true) : parseToks (render full 0 e) = .ok e := by
  have h := (parse_render_all e he).1 full 0 (by omega) [] (parseFuel (render full 0 e)) rfl (by
    simp only [parseFuel]; omega)
  simp only [List.append_nil] at h
  simp only [parseToks, topLevel]
  rw [show "parse_value_expr" = levelName 0 from rfl, h]

/-- operator trees without a conditional -/
def Expr.noQuery : Expr → Bool
  | .query _ _ _ => false
  | .un _ e => e.noQuery
  | .bin _ l r => l.noQuery && r.noQuery
  | _ => true

/-- op_t::print's token sequence is the fully parenthesised rendering – for every
    operator tree when the O_COLON node gets no parentheses of its own (`pc = false`),
    for trees without `?:` otherwise -/
theorem printToksAux_eq_render (pc : Bool) (e : Expr) (he : e.isOpTree = true) (hq : pc = true → e.noQuery = true) :
    ∀ L, render true L e = printToksAux pc .none e := by
  induction e with
  | val v => intro L; rfl
  | ident n d => intro L; rfl
  | un op e ih =>
    intro L
    simp only [Expr.isOpTree, Bool.and_eq_true] at he
    show Tok.lparen :: ((op.tok :: render true 11 e) ++ [.rparen]) = [.lparen, op.tok] ++ printToksAux pc .none e ++ [.rparen]
    rw [ih he.1 hq 11]
    rfl
  | bin op a b iha ihb =>
    intro L
    simp only [Expr.isOpTree, Bool.and_eq_true] at he
    have hq' : pc = true → a.noQuery = true ∧ b.noQuery = true := fun h => Bool.and_eq_true_iff.1 (hq h)
    show Tok.lparen :: ((render true op.lvl a ++ op.tok :: render true (op.lvl + 1) b) ++ [.rparen]) =
      [.lparen] ++ printToksAux pc .none a ++ [op.tok] ++ printToksAux pc .none b ++ [.rparen]
    rw [iha he.1 (fun h => (hq' h).1) op.lvl, ihb he.2 (fun h => (hq' h).2) (op.lvl + 1)]
    simp only [List.append_assoc, List.cons_append, List.nil_append]
  | query c a b ihc iha ihb =>
    intro L
    cases pc with
    | true => cases hq rfl
    | false =>
      simp only [Expr.isOpTree, Bool.and_eq_true] at he
      show Tok.lparen :: ((render true 5 c ++ .query :: (render true 5 a ++ .colon :: render true 5 b)) ++ [.rparen]) =
        [.lparen] ++ printToksAux false .none c ++ [.query] ++ [] ++ printToksAux false .none a ++ [.colon] ++
          printToksAux false .none b ++ [] ++ [.rparen]
      rw [ihc he.1.1 (fun h => by cases h) 5, iha he.1.2 (fun h => by cases h) 5, ihb he.2 (fun h => by cases h) 5]
      simp only [List.append_assoc, List.cons_append, List.nil_append]
  | _ => cases he

end Ledger
