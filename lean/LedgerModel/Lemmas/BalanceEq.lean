/-
Equality of balances decides equality of denotations exactly on well-formed
balances (one entry per commodity, no zero entry).  `balance_t::operator-=`
maintains that invariant, `operator+=` does not (it keeps an entry that cancels
to zero) — which is the recorded finding `C03:zero-entry-balance`.
-/
import Batteries.Data.List.Perm
import LedgerModel.Lemmas.Value

namespace Ledger

/-- the representation invariant equality relies on -/
def Balance.WF (b : Balance) : Prop := b.comms.Nodup ∧ ∀ x ∈ b, x.q ≠ 0

theorem Balance.find?_cons (x : Amount) (xs : Balance) (c : Comm) :
    Balance.find? (x :: xs) c = if x.comm = c then some x else Balance.find? xs c := by
  unfold Balance.find?
  rw [List.find?_cons]
  by_cases h : x.comm = c
  · rw [if_pos h, decide_eq_true h]
  · rw [if_neg h, decide_eq_false h]

theorem Balance.den_eq_find (b : Balance) (hn : b.comms.Nodup) (c : Comm) :
    b.den c = match b.find? c with
              | some x => x.q
              | none => 0 := by
  induction b with
  | nil => rfl
  | cons x xs ih =>
    rw [Balance.comms_cons, List.nodup_cons] at hn
    rw [Balance.find?_cons, Balance.den_cons]
    by_cases h : x.comm = c
    · rw [if_pos h, Amount.den_eq_q h, Balance.den_eq_zero_of_not_mem xs c (h ▸ hn.1), Rat.add_zero]
    · rw [if_neg h, Amount.den_eq_zero h, ih hn.2, Rat.zero_add]

theorem Balance.find?_self_of_mem {b : Balance} (hn : b.comms.Nodup) {x : Amount} (hx : x ∈ b) :
    b.find? x.comm = some x := by
  induction b with
  | nil => cases hx
  | cons y ys ih =>
    rw [Balance.comms_cons, List.nodup_cons] at hn
    rw [Balance.find?_cons]
    rcases List.mem_cons.mp hx with rfl | hmem
    · exact if_pos rfl
    · rw [if_neg fun e : y.comm = x.comm => hn.1 (e ▸ List.mem_map_of_mem hmem)]
      exact ih hn.2 hmem

/-- On well-formed balances `balance_t::operator==` decides equality of the exact
    denotations. -/
theorem Balance.eqBal_iff_den (a b : Balance) (ha : a.WF) (hb : b.WF) :
    Balance.eqBal a b = true ↔ ∀ c, a.den c = b.den c := by
  -- `eqBal`: as many entries, and every entry of `a` has a partner of its commodity and quantity
  have hdef : Balance.eqBal a b = true ↔
      a.length = b.length ∧ ∀ x ∈ a, ∃ y, b.find? x.comm = some y ∧ x.q = y.q := by
    refine decide_eq_true_iff.trans (and_congr_right fun _ => List.all_eq_true.trans
      (forall₂_congr fun x _ => ?_))
    cases hf : Balance.find? b x.comm with
    | none => exact ⟨fun h => (nomatch h), fun h => h.elim fun _ h' => nomatch h'.1⟩
    | some y =>
      refine (decide_eq_true_iff (p := x.comm = y.comm ∧ x.q = y.q)).trans
        ⟨fun h => ⟨y, rfl, h.2⟩, ?_⟩
      rintro ⟨_, ⟨rfl⟩, hq⟩
      exact ⟨(Balance.find?_some_comm hf).symm, hq⟩
  have partner : ∀ {p q : Balance}, p.WF → q.comms.Nodup → (∀ c, p.den c = q.den c) →
      ∀ x ∈ p, ∃ y, q.find? x.comm = some y ∧ x.q = y.q := by
    intro p q hp hq h x hx
    have h1 := Balance.den_eq_find p hp.1 x.comm
    rw [Balance.find?_self_of_mem hp.1 hx, h x.comm, Balance.den_eq_find q hq] at h1
    cases hf : Balance.find? q x.comm with
    | none => rw [hf] at h1; exact absurd h1.symm (hp.2 x hx)
    | some y => rw [hf] at h1; exact ⟨y, rfl, h1.symm⟩
  have sub : ∀ {p q : Balance}, (∀ x ∈ p, ∃ y, q.find? x.comm = some y ∧ x.q = y.q) →
      p.comms ⊆ q.comms := by
    intro p q h d hd
    obtain ⟨x, hx, rfl⟩ := List.mem_map.mp hd
    obtain ⟨y, hy, -⟩ := h x hx
    exact Balance.mem_comms_of_find? hy
  rw [hdef]
  constructor
  · rintro ⟨hlen, hall⟩ c
    have hsub' : b.comms ⊆ a.comms :=
      ((List.subperm_of_subset ha.1 (sub hall)).perm_of_length_le
        (by simp [Balance.comms, hlen])).symm.subset
    rw [Balance.den_eq_find a ha.1 c, Balance.den_eq_find b hb.1 c]
    cases hfa : Balance.find? a c with
    | none =>
      rw [(Balance.find?_none_iff b c).mpr fun h => (Balance.find?_none_iff a c).mp hfa (hsub' h)]
    | some x =>
      obtain ⟨y, hy, hq⟩ := hall x (Balance.find?_some_mem hfa)
      rw [Balance.find?_some_comm hfa] at hy
      rw [hy]; exact hq
  · intro hden
    have p1 := partner ha hb.1 hden
    have p2 := partner hb ha.1 fun c => (hden c).symm
    have l1 := (List.subperm_of_subset ha.1 (sub p1)).length_le
    have l2 := (List.subperm_of_subset hb.1 (sub p2)).length_le
    simp only [Balance.comms, List.length_map] at l1 l2
    exact ⟨Nat.le_antisymm l1 l2, p1⟩

theorem Balance.subGo_WF {a : Amount} (ha : a.q ≠ 0) (b : Balance) (h : b.WF) :
    (Balance.subGo b a).WF := by
  induction b with
  | nil =>
    refine ⟨List.pairwise_singleton _ _, fun x hx => ?_⟩
    rw [List.mem_singleton.mp hx]
    exact fun h0 => ha (by rw [← Rat.neg_neg a.q, show -a.q = 0 from h0, Rat.neg_zero])
  | cons x xs ih =>
    have hn := List.nodup_cons.mp h.1
    have hxs : Balance.WF xs := ⟨hn.2, fun y hy => h.2 y (List.mem_cons_of_mem _ hy)⟩
    by_cases hc : x.comm = a.comm
    · by_cases hz : x.q - a.q = 0
      · rw [Balance.subGo_cons_erase hc hz]; exact hxs
      · rw [Balance.subGo_cons_update hc hz]
        refine ⟨h.1, fun y hy => ?_⟩
        rcases List.mem_cons.mp hy with rfl | hmem
        · exact hz
        · exact hxs.2 y hmem
    · rw [Balance.subGo_cons_of_ne hc]
      refine ⟨List.nodup_cons.mpr ⟨fun hmem => ?_, (ih hxs).1⟩, fun y hy => ?_⟩
      · exact (Balance.mem_comms_subGo xs a _ hmem).elim hn.1 hc
      · rcases List.mem_cons.mp hy with rfl | hmem
        · exact h.2 _ List.mem_cons_self
        · exact (ih hxs).2 y hmem

/-- `balance_t::operator-=` keeps the invariant: one entry per commodity, none zero. -/
theorem Balance.subAmt_WF (b : Balance) (a : Amount) (h : b.WF) : (Balance.subAmt b a).WF := by
  unfold Balance.subAmt
  split
  · exact h
  · rename_i ha; exact Balance.subGo_WF ha b h

end Ledger
