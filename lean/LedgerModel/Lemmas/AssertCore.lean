/-
The refinement behind Props/C09: the `diff` the `= AMOUNT` block computes is
AMOUNT minus the per-account file-order specification, and what follows for the
assertion and the assignment branch (for any reading of the two interpreted
statements, under the two guards).
-/
import LedgerModel.Lemmas.Assert

namespace Ledger.Assert

/-- `diff` after the account total and the earlier postings of the transaction:
    AMOUNT minus the specification's running balance, in every commodity. -/
theorem codeDiff_den (f1 : Bool) (log : List Entry) (earlier : List Posting) (p : Posting) (amt : Amount)
    (d2 : Balance) (h : codeDiff f1 log earlier p.account (virt p) amt = .ok d2)
    (hg : guardVirt f1 earlier p = true) (c : Comm) :
    d2.den c = amt.den c - specRunning c log earlier p.account (virt p) := by
  obtain ⟨t1, t2⟩ := accTotal_den log p.account (virt p) c
  rw [subEarlier_eq f1 _ _ _ _ d2 h, Balance.sub_den, subTotal_den _ _ t2, t1, Balance.den_ofAmt,
    codeEarlier_eq_spec f1 earlier p hg, ← sumQty_eq_den, specRunning, Rat.sub_eq_add_neg, Rat.sub_eq_add_neg,
    Rat.sub_eq_add_neg, Rat.neg_add, Rat.add_assoc]

theorem codeDiff_good {env : PrecEnv} (f1 : Bool) (log : List Entry) (earlier : List Posting) (acct : String)
    (v : Bool) (amt : Amount) (d2 : Balance) (h : codeDiff f1 log earlier acct v amt = .ok d2)
    (hl : FineLog env log) (hp : FinePosts env earlier) (ha : fine env amt) : Good env d2 := by
  rw [subEarlier_eq f1 _ _ _ _ d2 h]
  exact ((Good.ofAmt ha).subTotal (accTotal_fine log acct _ hl)).sub (codeEarlier_fine hp f1 acct v)

theorem codeDiff_ok (f1 : Bool) (log : List Entry) (earlier : List Posting) (acct : String) (v : Bool)
    (amt : Amount) (hn : NoElidedEarlier earlier acct) : ∃ d2, codeDiff f1 log earlier acct v amt = .ok d2 :=
  subEarlier_ok f1 acct v earlier _ hn

theorem checkPost_eq (cx : Ctx) (log : List Entry) (earlier : List Posting) (p : Posting) :
    checkPost cx log earlier p =
      checkPostF Gen.Assert.virtualCountsSameXactReal Gen.Assert.ownAmountBeforeRestriction cx log earlier p := rfl

theorem checkPostF_error {f1 f2 : Bool} {cx : Ctx} {log : List Entry} {earlier : List Posting} {p : Posting}
    {amt : Amount} {e : AErr} (hpas : p.assert = some amt)
    (hd : codeDiff f1 log earlier p.account (virt p) amt = .error e) :
    checkPostF f1 f2 cx log earlier p = .error e := by
  simp only [checkPostF, hpas, hd]

theorem checkPostF_assert {f1 f2 : Bool} {cx : Ctx} {log : List Entry} {earlier : List Posting} {p : Posting}
    {a amt : Amount} {d2 : Balance} (hpas : p.assert = some amt) (hpa : p.amount = some a)
    (hd : codeDiff f1 log earlier p.account (virt p) amt = .ok d2) :
    checkPostF f1 f2 cx log earlier p =
      if !cx.permissive && !balIsZero cx.env (assertDiff f2 d2 amt a) then .error .assertOff else .ok p := by
  simp only [checkPostF, hpas, hd, hpa]

theorem checkPostF_assign {f1 f2 : Bool} {cx : Ctx} {log : List Entry} {earlier : List Posting} {p : Posting}
    {amt : Amount} {d2 : Balance} (hpas : p.assert = some amt) (hpa : p.amount = none)
    (hd : codeDiff f1 log earlier p.account (virt p) amt = .ok d2) :
    checkPostF f1 f2 cx log earlier p =
      (assignFrom cx.env (restrict d2 amt) amt).map (fun x => { p with amount := some x }) := by
  simp only [checkPostF, hpas, hd, hpa]
  cases assignFrom cx.env (restrict d2 amt) amt <;> rfl

/-- second half of the guard: the posting's own amount is in AMOUNT's commodity
    (or is zero) — or the source subtracts it before the restriction (`f2`). -/
def guardComm (f2 : Bool) (a amt : Amount) : Bool :=
  f2 || decide (a.comm = amt.comm) || decide (a.q = 0)

theorem den_other_zero {f2 : Bool} {a amt : Amount} (hg : guardComm f2 a amt = true) (hf : f2 = false)
    (c : Comm) (hc : ¬ c = amt.comm) : a.den c = 0 := by
  subst hf
  simp only [guardComm, Bool.false_or, Bool.or_eq_true, decide_eq_true_eq] at hg
  unfold Amount.den
  rcases hg with hg | hg
  · have : ¬ a.comm = c := by rw [hg]; exact fun e => hc e.symm
    simp [this]
  · simp [hg]

/-- what `is_zero` is asked about: the difference including the posting itself, cut down to AMOUNT's
    commodity when it has one — under the guard both orders of cutting and subtracting agree. -/
theorem assertDiff_den (f2 : Bool) (d2 : Balance) (amt a : Amount) (hw : d2.comms.Nodup)
    (hg : amt.hasComm = true → guardComm f2 a amt = true) (c : Comm) :
    (assertDiff f2 d2 amt a).den c =
      (if amt.hasComm then (if c = amt.comm then d2.den c - a.den c else 0) else d2.den c - a.den c) := by
  unfold assertDiff
  cases hf2 : f2 with
  | true => rw [if_pos rfl, restrict_den _ amt (Balance.nodup_comms_subAmt hw a), Balance.subAmt_den]
  | false =>
    rw [if_neg Bool.false_ne_true, Balance.subAmt_den, restrict_den d2 amt hw]
    by_cases hc : amt.hasComm = true
    · by_cases hcc : c = amt.comm
      · simp only [hc, hcc, if_true]
      · rw [den_other_zero (hg hc) hf2 c hcc]; simp only [hc, hcc, if_true, if_false]; exact Rat.sub_self
    · simp only [hc, Bool.false_eq_true, if_false]

theorem assertDiff_good {env : PrecEnv} (f2 : Bool) {d2 : Balance} (amt : Amount) {a : Amount} (hd : Good env d2)
    (ha : fine env a) : Good env (assertDiff f2 d2 amt a) := by
  unfold assertDiff
  cases f2 with
  | true => exact (hd.subAmt ha).restrict amt
  | false => exact (hd.restrict amt).subAmt ha

theorem assertDiff_zero_iff {env : PrecEnv} (f2 : Bool) (d2 : Balance) (amt a : Amount)
    (hd : Good env d2) (ha : fine env a) (hg : amt.hasComm = true → guardComm f2 a amt = true) :
    balIsZero env (assertDiff f2 d2 amt a) = true ↔
      (if amt.hasComm then d2.den amt.comm - a.den amt.comm = 0 else ∀ c, d2.den c - a.den c = 0) := by
  have hgood := assertDiff_good f2 amt hd ha
  rw [balIsZero_iff hgood.1 hgood.2]
  simp only [assertDiff_den f2 d2 amt a hd.1 hg]
  by_cases hc : amt.hasComm = true
  · simp only [hc, if_true]
    constructor
    · intro h; simpa only [if_true] using h amt.comm
    · intro h c
      by_cases hcc : c = amt.comm
      · rw [if_pos hcc, hcc]; exact h
      · rw [if_neg hcc]
  · simp only [hc, Bool.false_eq_true, if_false]

/-- The assertion branch of the block, for any reading of the two interpreted
    statements, under the two guards. -/
theorem assert_core (f1 f2 : Bool) (cx : Ctx) (log : List Entry) (earlier : List Posting) (p : Posting)
    (a amt : Amount) (hperm : cx.permissive = false) (hpa : p.amount = some a) (hpas : p.assert = some amt)
    (hn : NoElidedEarlier earlier p.account)
    (hl : FineLog cx.env log) (hp : FinePosts cx.env earlier) (ha : fine cx.env a) (hamt : fine cx.env amt)
    (hg1 : guardVirt f1 earlier p = true) (hg2 : amt.hasComm = true → guardComm f2 a amt = true) :
    checkPostF f1 f2 cx log earlier p = .ok p ↔
      (if amt.hasComm then
          specRunning amt.comm log earlier p.account (virt p) + a.den amt.comm = amt.q
        else ∀ c, specRunning c log earlier p.account (virt p) + a.den c = amt.den c) := by
  obtain ⟨d2, hd⟩ := codeDiff_ok f1 log earlier p.account (virt p) amt hn
  have den2 := codeDiff_den f1 log earlier p amt d2 hd hg1
  have hz := assertDiff_zero_iff f2 d2 amt a (codeDiff_good f1 log earlier _ _ amt d2 hd hl hp hamt) ha hg2
  have hsplit : checkPostF f1 f2 cx log earlier p = .ok p ↔ balIsZero cx.env (assertDiff f2 d2 amt a) = true := by
    rw [checkPostF_assert hpas hpa hd, hperm]
    cases balIsZero cx.env (assertDiff f2 d2 amt a) <;> simp
  have harith : ∀ t s x : Rat, t - s - x = 0 ↔ s + x = t := by
    intro t s x
    constructor
    · intro h
      rw [← Rat.sub_add_cancel (a := t) (b := s), ← Rat.sub_add_cancel (a := t - s) (b := x), h, Rat.zero_add,
        Rat.add_comm]
    · intro h
      rw [← h, Rat.add_comm s x, Rat.add_sub_cancel, Rat.sub_self]
  have hq : amt.den amt.comm = amt.q := if_pos rfl
  rw [hsplit, hz]
  simp only [den2, harith, hq]

theorem assignFrom_ok {env : PrecEnv} {d : Balance} {amt x : Amount} :
    assignFrom env d amt = .ok x ↔
      (balIsZero env d = true ∧ x = zeroLike amt) ∨ (balIsZero env d = false ∧ d = [x]) := by
  unfold assignFrom
  cases balIsZero env d with
  | true => simp [eq_comm]
  | false =>
    simp only [Bool.false_eq_true, if_false, false_and, true_and, false_or]
    match d with
    | [] => simp
    | [y] => simp [eq_comm]
    | _ :: _ :: _ => simp

/-- the assignment fails only for a difference in several commodities. -/
theorem assignFrom_error {env : PrecEnv} {d : Balance} {amt : Amount} {e : AErr}
    (h : assignFrom env d amt = .error e) : e = .multiComm := by
  unfold assignFrom at h
  split at h
  · cases h
  · split at h <;> cases h; rfl

/-- the amount assigned denotes the difference. -/
theorem assignFrom_den {env : PrecEnv} {d : Balance} {amt x : Amount} (hd : Good env d)
    (h : assignFrom env d amt = .ok x) (c : Comm) : x.den c = d.den c := by
  rcases assignFrom_ok.mp h with ⟨hz, rfl⟩ | ⟨_, rfl⟩
  · rw [(balIsZero_iff hd.1 hd.2).mp hz c]
    unfold Amount.den zeroLike; split <;> rfl
  · rw [Balance.den_cons, Balance.den_nil, Rat.add_zero]

theorem assignFrom_fine {env : PrecEnv} {d : Balance} {amt x : Amount} (hd : BFine env d) (hamt : fine env amt)
    (h : assignFrom env d amt = .ok x) : fine env x := by
  rcases assignFrom_ok.mp h with ⟨_, rfl⟩ | ⟨_, rfl⟩
  · exact fine_zeroLike hamt
  · exact hd _ List.mem_cons_self

/-- with a commodity asked for the assignment always succeeds, in that commodity. -/
theorem assignFrom_restrict {env : PrecEnv} (d : Balance) (amt : Amount) (hc : amt.hasComm = true) :
    ∃ x, assignFrom env (restrict d amt) amt = .ok x ∧ x.comm = amt.comm := by
  rcases restrict_cases d amt hc with h | ⟨w, _, hwc, h⟩
  · exact ⟨zeroLike amt, by rw [h]; rfl, rfl⟩
  · rw [h]
    cases hz : balIsZero env [w] with
    | true => exact ⟨zeroLike amt, assignFrom_ok.mpr (.inl ⟨hz, rfl⟩), rfl⟩
    | false => exact ⟨w, assignFrom_ok.mpr (.inr ⟨hz, rfl⟩), hwc⟩

/-- The assignment branch: the posting receives exactly AMOUNT minus the running
    balance, in AMOUNT's commodity. -/
theorem assign_core (f1 f2 : Bool) (cx : Ctx) (log : List Entry) (earlier : List Posting) (p : Posting)
    (amt : Amount) (hpa : p.amount = none) (hpas : p.assert = some amt) (hc : amt.hasComm = true)
    (hn : NoElidedEarlier earlier p.account)
    (hl : FineLog cx.env log) (hp : FinePosts cx.env earlier) (hamt : fine cx.env amt)
    (hg1 : guardVirt f1 earlier p = true) :
    ∃ x, checkPostF f1 f2 cx log earlier p = .ok { p with amount := some x } ∧ x.comm = amt.comm ∧
      specRunning amt.comm log earlier p.account (virt p) + x.q = amt.q ∧ fine cx.env x := by
  obtain ⟨d2, hd⟩ := codeDiff_ok f1 log earlier p.account (virt p) amt hn
  have hgood := (codeDiff_good f1 log earlier _ _ amt d2 hd hl hp hamt).restrict amt
  obtain ⟨x, hx, hxc⟩ := assignFrom_restrict (env := cx.env) d2 amt hc
  refine ⟨x, by rw [checkPostF_assign hpas hpa hd, hx]; rfl, hxc, ?_, assignFrom_fine hgood.2 hamt hx⟩
  have hden := assignFrom_den hgood hx amt.comm
  rw [restrict_den d2 amt (codeDiff_good f1 log earlier _ _ amt d2 hd hl hp hamt).1, if_pos hc, if_pos rfl,
    codeDiff_den f1 log earlier p amt d2 hd hg1] at hden
  simp only [Amount.den, hxc, if_true] at hden
  rw [hden, Rat.add_comm, Rat.sub_add_cancel]

/-- bare-`0` assignment: whatever amount is received zeroes every commodity. -/
theorem assign_bare_core (f1 f2 : Bool) (cx : Ctx) (log : List Entry) (earlier : List Posting) (p : Posting)
    (amt x : Amount) (hpa : p.amount = none) (hpas : p.assert = some amt) (hc : amt.hasComm = false)
    (hq : amt.q = 0)
    (hl : FineLog cx.env log) (hp : FinePosts cx.env earlier) (hamt : fine cx.env amt)
    (hg1 : guardVirt f1 earlier p = true)
    (h : checkPostF f1 f2 cx log earlier p = .ok { p with amount := some x }) :
    ∀ c, specRunning c log earlier p.account (virt p) + x.den c = 0 := by
  cases hd : codeDiff f1 log earlier p.account (virt p) amt with
  | error e => rw [checkPostF_error hpas hd] at h; cases h
  | ok d2 =>
    rw [checkPostF_assign hpas hpa hd, restrict_noComm d2 amt hc] at h
    obtain ⟨y, hy, hxy⟩ := Except.map_eq_ok h
    have hyx : y = x := Option.some.inj (congrArg Posting.amount hxy)
    subst hyx
    intro c
    rw [assignFrom_den (codeDiff_good f1 log earlier _ _ amt d2 hd hl hp hamt) hy c,
      codeDiff_den f1 log earlier p amt d2 hd hg1 c]
    have : amt.den c = 0 := by simp [Amount.den, hq]
    rw [this, Rat.add_comm, Rat.sub_add_cancel]

end Ledger.Assert
