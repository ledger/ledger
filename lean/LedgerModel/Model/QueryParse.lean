/-
Model of query.cc: the lexer over an argument list (next_token, 50-238, with
`multiple_args = true` as report.cc 294 / precmd.cc 187 construct it) and the
recursive-descent parser (parse_query_term 245-354, parse_unary_expr 356-381,
parse_and_expr 383-405, parse_or_expr 407-429, parse_query_expr 431-548) that
turns command-line query terms into a predicate tree.

Single-character tokens, the `=` rule, quote characters, identifier stop
characters and the keyword chain come from `Gen.QueryKeywords` (re-extracted
from query.cc on every run).

With `multiple_args` the lexer never depends on the parser's `tok_context`
(the only context-dependent branches are reached under TOK_EXPR, where
`consume_next_arg` makes the whole next argument one TERM first), so the token
stream is a function of the arguments: `lexArgs`.  Lexing is still lazy in the
C++: an error is raised only when the parser asks for the offending token; the
stream therefore ends in `Tok.lexErr e` and the parser fails when it reaches it.
Core Lean only.
-/
import LedgerModel.Model.Query
import LedgerModel.Gen.QueryKeywords

namespace Ledger
namespace Query

/-- `tok_context` (query.h 84-89). -/
inductive Ctx | account | payee | code | note | tags | expr
deriving DecidableEq, Repr

/-- token_t::symbol() of the context tokens (query.h 165-170). -/
def Ctx.symbol : Ctx → String
  | .account => "account" | .payee => "payee" | .code => "code"
  | .note => "note" | .tags => "meta" | .expr => "expr"

inductive QErr
  | emptyArg                       -- query.cc 71 assertion on an empty argument
  | backslashAtEnd                 -- "Unexpected '\\' at end of pattern"
  | unterminated (c : Char)        -- "Expected '%1%' at end of pattern"
  | emptyPattern                   -- "Match pattern is empty"
  | opNoArg (sym : String)         -- "%1% operator not followed by argument"
  | missingParen                   -- "Missing ')'"
  | metaEqNoTerm                   -- "Metadata equality operator not followed by term"
  | badExpr (text : String)        -- the argument of `expr` does not parse (expression parser: a parameter)
  | unknownToken (name : String)   -- the generated tables name a token kind this model does not know
  | internal                       -- progress check of the model itself (never reached, see Lemmas)
deriving DecidableEq, Repr

inductive Tok
  | lparen | rparen | tnot | tand | tor | teq
  | ctx (c : Ctx)
  | tshow | tonly | tbold | tfor | tsince | tuntil
  | term (s : List Char)
  | lexErr (e : QErr)
deriving DecidableEq, Repr

/-- token kind names of query.h 73-101 as they appear in the generated tables. -/
def tokOfName (n : String) : Tok :=
  if n = "LPAREN" then .lparen else if n = "RPAREN" then .rparen
  else if n = "TOK_NOT" then .tnot else if n = "TOK_AND" then .tand
  else if n = "TOK_OR" then .tor else if n = "TOK_EQ" then .teq
  else if n = "TOK_CODE" then .ctx .code else if n = "TOK_PAYEE" then .ctx .payee
  else if n = "TOK_NOTE" then .ctx .note else if n = "TOK_ACCOUNT" then .ctx .account
  else if n = "TOK_META" then .ctx .tags else if n = "TOK_EXPR" then .ctx .expr
  else if n = "TOK_SHOW" then .tshow else if n = "TOK_ONLY" then .tonly
  else if n = "TOK_BOLD" then .tbold else if n = "TOK_FOR" then .tfor
  else if n = "TOK_SINCE" then .tsince else if n = "TOK_UNTIL" then .tuntil
  else .lexErr (.unknownToken n)

/-! ### Lexer -/

def isStop (c : Char) : Bool := Gen.queryIdentStops.contains c
def isQuote (c : Char) : Bool := Gen.queryQuoteChars.contains c
def isSpace (c : Char) : Bool := Gen.queryWhitespace.contains c

/-- single-character tokens (query.cc 123-138). -/
def charTok (c : Char) : Option Tok :=
  (Gen.queryCharTokens.find? (fun kv => kv.1 = c)).map (fun kv => tokOfName kv.2)

/-- `test_ident` (query.cc 194-233): keyword or TERM. -/
def identTok (ident : List Char) : Tok :=
  match Gen.queryKeywords.find? (fun kv => kv.1.toList = ident) with
  | some kv => tokOfName kv.2
  | none => .term ident

/-- keywords that set `consume_next_arg` (query.cc 227-231). -/
def setsNextArg (ident : List Char) : Bool :=
  Gen.queryNextArgKeywords.any (fun k => k.toList = ident)

/-- identifier scan (query.cc 153-191) outside TOK_EXPR context: runs to the end
    of the argument or to a stop character unless escaped. -/
def scanIdent (consumeNext : Bool) : List Char → List Char × List Char
  | [] => ([], [])
  | c :: cs =>
    if !consumeNext && isStop c then ([], c :: cs)
    else
      let r := scanIdent consumeNext cs
      (c :: r.1, r.2)

theorem scanIdent_length (b : Bool) (cs : List Char) : (scanIdent b cs).2.length ≤ cs.length := by
  induction cs with
  | nil => exact Nat.le_refl 0
  | cons c cs ih =>
    simp only [scanIdent]
    split
    · exact Nat.le_refl _
    · exact Nat.le_succ_of_le ih

/-- quoted pattern (query.cc 74-98): up to the closing character; a backslash
    makes the next character literal. -/
def scanQuoted (closing : Char) : List Char → Except QErr (List Char × List Char)
  | [] => .error (.unterminated closing)
  | c :: cs =>
    if c = '\\' then
      match cs with
      | [] => .error .backslashAtEnd
      | d :: ds =>
        match scanQuoted closing ds with
        | .ok r => .ok (d :: r.1, r.2)
        | .error e => .error e
    else if c = closing then .ok ([], cs)
    else
      match scanQuoted closing cs with
      | .ok r => .ok (c :: r.1, r.2)
      | .error e => .error e

theorem scanQuoted_length (q : Char) : ∀ (cs : List Char) (r : List Char × List Char),
    scanQuoted q cs = .ok r → r.2.length ≤ cs.length := by
  intro cs r h
  fun_induction scanQuoted q cs generalizing r with
  | case1 | case2 | case4 | case7 => cases h
  | case3 c cs r' hr ih =>
    cases h
    exact Nat.le_succ_of_le (Nat.le_succ_of_le (ih r' hr))
  | case6 c cs _ _ r' hr ih =>
    cases h
    exact Nat.le_succ_of_le (ih r' hr)
  | case5 => cases h; simp

structure LexR where
  toks    : List Tok
  cna     : Bool      -- consume_next_arg after this argument
  stopped : Bool      -- a lexer error ended the stream

def LexR.cons (t : Tok) (r : LexR) : LexR := { r with toks := t :: r.toks }

/-- next_token iterated over what is left of one argument.  `cna` is
    `consume_next_arg`, `atStart` is `arg_i == (*begin).as_string().begin()`. -/
def lexChars (cna atStart : Bool) (cur : List Char) : LexR :=
  match cur with
  | [] => ⟨[], cna, false⟩
  | c :: cs =>
    if isQuote c then
      match h : scanQuoted c cs with
      | .error e => ⟨[.lexErr e], cna, true⟩
      | .ok (pat, r) =>
        have : r.length ≤ cs.length := scanQuoted_length c cs (pat, r) h
        if pat = [] then ⟨[.lexErr .emptyPattern], cna, true⟩
        else (lexChars cna false r).cons (.term pat)
    else if cna then ⟨[.term (c :: cs)], false, false⟩
    else if isSpace c then lexChars false false cs
    else if c = '=' then
      (lexChars false false cs).cons (tokOfName (if atStart then Gen.queryEqTokens.1 else Gen.queryEqTokens.2))
    else
      match charTok c with
      | some t => (lexChars false false cs).cons t
      | none =>
        if c = '\\' then
          have := scanIdent_length true cs
          let ident := (scanIdent true cs).1
          (lexChars (setsNextArg ident) false (scanIdent true cs).2).cons (identTok ident)
        else
          have := scanIdent_length false cs
          let ident := c :: (scanIdent false cs).1
          (lexChars (setsNextArg ident) false (scanIdent false cs).2).cons (identTok ident)
termination_by cur.length
decreasing_by all_goals (simp only [List.length_cons]; omega)

/-- arguments after the first one (an empty one trips the assertion at query.cc 71). -/
def lexMore (cna : Bool) : List (List Char) → List Tok
  | [] => []
  | a :: as =>
    if a = [] then [.lexErr .emptyArg]
    else
      let r := lexChars cna true a
      if r.stopped then r.toks else r.toks ++ lexMore r.cna as

/-- the whole token stream of an argument list (an empty first argument is
    skipped: query.cc 59-66 moves on when `arg_i == arg_end`). -/
def lexArgs : List (List Char) → List Tok
  | [] => []
  | a :: as =>
    let r := lexChars false true a
    if r.stopped then r.toks else r.toks ++ lexMore r.cna as

/-! ### Parser -/

abbrev PRes := Except QErr (Option Pred × List Tok)

/-- the leaf a TERM makes in a context (query.cc 274-338; the metadata context is
    handled by the caller because it looks ahead for `=`). -/
def mkLeaf (exprOf : String → Option Pred) (ctx : Ctx) (s : List Char) : Except QErr Pred :=
  match ctx with
  | .account => .ok (.matchF .account (String.ofList s))
  | .payee => .ok (.matchF .payee (String.ofList s))
  | .code => .ok (.matchF .code (String.ofList s))
  | .note => .ok (.matchF .note (String.ofList s))
  | .tags => .ok (.hasTag (String.ofList s) none)
  | .expr =>
    match exprOf (String.ofList s) with
    | some p => .ok p
    | none => .error (.badExpr (String.ofList s))

/-- tokens at which parse_query_term pushes the token back and returns null
    (query.cc 252-260 and the `default:` at 348-350). -/
def Tok.isSection : Tok → Bool
  | .tshow | .tonly | .tbold | .tfor | .tsince | .tuntil => true
  | _ => false

mutual

/-- parse_query_term (query.cc 245-354). -/
def parseTerm (exprOf : String → Option Pred) (ctx : Ctx) (toks : List Tok) : PRes :=
  match toks with
  | [] => .ok (none, [])
  | .lexErr e :: _ => .error e
  | .ctx k :: rest =>
    match parseTerm exprOf k rest with
    | .error e => .error e
    | .ok (none, _) => .error (.opNoArg k.symbol)
    | .ok (some n, r) => .ok (some n, r)
  | .term s :: rest =>
    match ctx with
    | .tags =>
      match rest with
      | .lexErr e :: _ => .error e
      | .teq :: rest2 =>
        match rest2 with
        | .lexErr e :: _ => .error e
        | .term v :: rest3 => .ok (some (.hasTag (String.ofList s) (some (String.ofList v))), rest3)
        | _ => .error .metaEqNoTerm
      | _ => .ok (some (.hasTag (String.ofList s) none), rest)
    | _ =>
      match mkLeaf exprOf ctx s with
      | .ok p => .ok (some p, rest)
      | .error e => .error e
  | .lparen :: rest =>
    match parseQuery exprOf ctx rest with
    | .error e => .error e
    | .ok (node, r) =>
      match r with
      | .lexErr e :: _ => .error e
      | .rparen :: r' => .ok (node, r')
      | _ => .error .missingParen
  | t :: rest => .ok (none, t :: rest)
termination_by toks.length * 8 + 0

/-- parse_unary_expr (query.cc 356-381). -/
def parseUnary (exprOf : String → Option Pred) (ctx : Ctx) (toks : List Tok) : PRes :=
  match toks with
  | .lexErr e :: _ => .error e
  | .tnot :: rest =>
    match parseTerm exprOf ctx rest with
    | .error e => .error e
    | .ok (none, _) => .error (.opNoArg "not")
    | .ok (some n, r) => .ok (some (.not n), r)
  | other => parseTerm exprOf ctx other
termination_by toks.length * 8 + 1

/-- the `while (true)` of parse_and_expr (query.cc 387-401). -/
def andLoop (exprOf : String → Option Pred) (ctx : Ctx) (node : Pred) (toks : List Tok) : PRes :=
  match toks with
  | .lexErr e :: _ => .error e
  | .tand :: rest =>
    match parseUnary exprOf ctx rest with
    | .error e => .error e
    | .ok (none, _) => .error (.opNoArg "and")
    | .ok (some rhs, r) =>
      if r.length ≤ rest.length then andLoop exprOf ctx (.and node rhs) r else .error .internal
  | other => .ok (some node, other)
termination_by toks.length * 8 + 2

/-- parse_and_expr (query.cc 383-405). -/
def parseAnd (exprOf : String → Option Pred) (ctx : Ctx) (toks : List Tok) : PRes :=
  match parseUnary exprOf ctx toks with
  | .error e => .error e
  | .ok (none, r) => .ok (none, r)
  | .ok (some n, r) =>
    if r.length ≤ toks.length then andLoop exprOf ctx n r else .error .internal
termination_by toks.length * 8 + 3

/-- the `while (true)` of parse_or_expr (query.cc 411-425). -/
def orLoop (exprOf : String → Option Pred) (ctx : Ctx) (node : Pred) (toks : List Tok) : PRes :=
  match toks with
  | .lexErr e :: _ => .error e
  | .tor :: rest =>
    match parseAnd exprOf ctx rest with
    | .error e => .error e
    | .ok (none, _) => .error (.opNoArg "or")
    | .ok (some rhs, r) =>
      if r.length ≤ rest.length then orLoop exprOf ctx (.or node rhs) r else .error .internal
  | other => .ok (some node, other)
termination_by toks.length * 8 + 4

/-- parse_or_expr (query.cc 407-429). -/
def parseOr (exprOf : String → Option Pred) (ctx : Ctx) (toks : List Tok) : PRes :=
  match parseAnd exprOf ctx toks with
  | .error e => .error e
  | .ok (none, r) => .ok (none, r)
  | .ok (some n, r) =>
    if r.length ≤ toks.length then orLoop exprOf ctx n r else .error .internal
termination_by toks.length * 8 + 5

/-- the juxtaposition loop of parse_query_expr (query.cc 437-446): successive
    or-expressions are or-ed, left to right. -/
def queryLoop (exprOf : String → Option Pred) (ctx : Ctx) (lim : Option Pred) (toks : List Tok) : PRes :=
  match parseOr exprOf ctx toks with
  | .error e => .error e
  | .ok (none, r) => .ok (lim, r)
  | .ok (some nx, r) =>
    let lim' := match lim with
      | none => nx
      | some l => .or l nx
    if r.length < toks.length then queryLoop exprOf ctx (some lim') r else .error .internal
termination_by toks.length * 8 + 6

/-- parse_query_expr with `subexpression = true` (and the first half of the
    top-level call). -/
def parseQuery (exprOf : String → Option Pred) (ctx : Ctx) (toks : List Tok) : PRes :=
  queryLoop exprOf ctx none toks
termination_by toks.length * 8 + 7

end

/-- what parse_query_expr leaves in `query_map` (query.h 238-246). -/
structure Parsed where
  limit : Option Pred := none
  show_ : Option Pred := none
  only  : Option Pred := none
  bold  : Option Pred := none
  period : Bool := false     -- a `for` / `since` / `until` section follows (not modelled further)
deriving DecidableEq, Repr

/-- std::map::insert keeps the first value of a key. -/
def insertFirst (old new : Option Pred) : Option Pred :=
  match old with
  | some o => some o
  | none => new

/-- the section loop of parse_query_expr (query.cc 454-544). -/
def sections (exprOf : String → Option Pred) (acc : Parsed) (toks : List Tok) : Except QErr Parsed :=
  match toks with
  | [] => .ok acc
  | .lexErr e :: _ => .error e
  | t :: rest =>
    if t = .tshow ∨ t = .tonly ∨ t = .tbold then
      match queryLoop exprOf Ctx.account none rest with
      | .error e => .error e
      | .ok (node, r) =>
        let acc' := if t = .tshow then { acc with show_ := insertFirst acc.show_ node }
                    else if t = .tonly then { acc with only := insertFirst acc.only node }
                    else { acc with bold := insertFirst acc.bold node }
        if r.length ≤ rest.length then sections exprOf acc' r else .error .internal
    else if t = .tfor ∨ t = .tsince ∨ t = .tuntil then .ok { acc with period := true }
    else .ok acc
termination_by toks.length
decreasing_by simp only [List.length_cons]; omega

/-- query_t::parse_args on a command-line argument list: every `query_map` entry. -/
def parseAll (exprOf : String → Option Pred) (args : List String) : Except QErr Parsed :=
  let toks := lexArgs (args.map String.toList)
  match parseQuery exprOf Ctx.account toks with
  | .error e => .error e
  | .ok (lim, r) => sections exprOf { limit := lim } r

/-- The limit predicate of a command-line query (`none`: the arguments give none). -/
def parse (exprOf : String → Option Pred) (args : List String) : Except QErr (Option Pred) :=
  match parseAll exprOf args with
  | .ok p => .ok p.limit
  | .error e => .error e

/-! ### Query trees and their canonical rendering -/

/-- context prefixes that have a token (`@ # = %`); `account` has none. -/
inductive QCtx | payee | code | note | tags
deriving DecidableEq, Repr

def QCtx.toCtx : QCtx → Ctx
  | .payee => .payee | .code => .code | .note => .note | .tags => .tags

/-- the single-character argument that switches context. -/
def QCtx.arg : QCtx → String
  | .payee => "@" | .code => "#" | .note => "=" | .tags => "%"

/-- Query trees: the surface syntax of command-line queries. -/
inductive Q
  | term (pat : String)                          -- a pattern in the ambient context
  | tag (name : String) (val : Option String)    -- `%name` / `%name=value`
  | expr (text : String)                         -- `expr TEXT`
  | ctx (c : QCtx) (q : Q)                       -- `@ q`, `# q`, `= q`, `% q`
  | not (q : Q)
  | and (a b : Q)
  | or (a b : Q)
  | juxt (a b : Q)                               -- `a b`
deriving DecidableEq, Repr

/-- the predicate a query tree denotes in an ambient context. -/
def Q.toPred (exprOf : String → Option Pred) (ctx : Ctx) : Q → Option Pred
  | .term pat =>
    match ctx with
    | .account => some (.matchF .account pat)
    | .payee => some (.matchF .payee pat)
    | .code => some (.matchF .code pat)
    | .note => some (.matchF .note pat)
    | .tags => some (.hasTag pat none)
    | .expr => exprOf pat
  | .tag n v => some (.hasTag n v)
  | .expr t => exprOf t
  | .ctx c q => q.toPred exprOf c.toCtx
  | .not q => (q.toPred exprOf ctx).map .not
  | .and a b =>
    match a.toPred exprOf ctx, b.toPred exprOf ctx with
    | some x, some y => some (.and x y)
    | _, _ => none
  | .or a b =>
    match a.toPred exprOf ctx, b.toPred exprOf ctx with
    | some x, some y => some (.or x y)
    | _, _ => none
  | .juxt a b =>
    match a.toPred exprOf ctx, b.toPred exprOf ctx with
    | some x, some y => some (.or x y)
    | _, _ => none

/-- The meaning of a query tree on a posting, stated directly: a pattern is
    matched against the field its context names, `%` asks for a tag, juxtaposed
    terms and `or` are alternatives, `and` needs both, `not` negates; operands
    are looked at left to right and only as far as needed. -/
def Q.eval (m : Matcher) (exprOf : String → Option Pred) (ctx : Ctx) (c : PostCtx) : Q → Option (Except EvalErr Bool)
  | .term pat =>
    match ctx with
    | .account => some (.ok (m pat c.post.account))
    | .payee => some (.ok (m pat c.xact.payee))
    | .code => some (.ok (m pat c.xact.code))
    | .note => some (.ok (m pat c.note))
    | .tags => some (.ok (c.hasTag m pat none))
    | .expr => (exprOf pat).map (fun p => evalPred m p c)
  | .tag n v => some (.ok (c.hasTag m n v))
  | .expr t => (exprOf t).map (fun p => evalPred m p c)
  | .ctx k q => q.eval m exprOf k.toCtx c
  | .not q => (q.eval m exprOf ctx c).map (fun r => r.map (!·))
  | .and a b =>
    match a.eval m exprOf ctx c, b.eval m exprOf ctx c with
    | some ra, some rb =>
      some (match ra with
            | .ok true => rb
            | .ok false => .ok false
            | .error e => .error e)
    | _, _ => none
  | .or a b =>
    match a.eval m exprOf ctx c, b.eval m exprOf ctx c with
    | some ra, some rb =>
      some (match ra with
            | .ok true => .ok true
            | .ok false => rb
            | .error e => .error e)
    | _, _ => none
  | .juxt a b =>
    match a.eval m exprOf ctx c, b.eval m exprOf ctx c with
    | some ra, some rb =>
      some (match ra with
            | .ok true => .ok true
            | .ok false => rb
            | .error e => .error e)
    | _, _ => none

/-- binding strength of the outermost construct: juxtaposition 0, `or` 1,
    `and` 2, `not` 3, a term 4. -/
def Q.level : Q → Nat
  | .juxt _ _ => 0
  | .or _ _ => 1
  | .and _ _ => 2
  | .not _ => 3
  | _ => 4

/-- canonical token sequence of a query tree at binding strength `p`, with the
    fewest parentheses the grammar allows (operators associate to the left; `not`
    and the context prefixes take a term). -/
def Q.toks (p : Nat) : Q → List Tok
  | .term pat => [.term pat.toList]
  | .tag n none => [.ctx .tags, .term n.toList]
  | .tag n (some v) => [.ctx .tags, .term n.toList, .teq, .term v.toList]
  | .expr t => [.ctx .expr, .term t.toList]
  | .ctx c q => .ctx c.toCtx :: q.toks 4
  | .not q => if p ≤ 3 then .tnot :: q.toks 4 else .lparen :: (.tnot :: q.toks 4) ++ [.rparen]
  | .and a b =>
    if p ≤ 2 then a.toks 2 ++ .tand :: b.toks 3
    else .lparen :: (a.toks 2 ++ .tand :: b.toks 3) ++ [.rparen]
  | .or a b =>
    if p ≤ 1 then a.toks 1 ++ .tor :: b.toks 2
    else .lparen :: (a.toks 1 ++ .tor :: b.toks 2) ++ [.rparen]
  | .juxt a b =>
    if p = 0 then a.toks 0 ++ b.toks 1
    else .lparen :: (a.toks 0 ++ b.toks 1) ++ [.rparen]

/-- the same as command-line arguments: one argument per token, except that a
    tag term is written `%name` / `%name=value` in one argument. -/
def Q.args (p : Nat) : Q → List String
  | .term pat => [pat]
  | .tag n none => ["%" ++ n]
  | .tag n (some v) => ["%" ++ n ++ "=" ++ v]
  | .expr t => ["expr", t]
  | .ctx c q => c.arg :: q.args 4
  | .not q => if p ≤ 3 then "not" :: q.args 4 else "(" :: ("not" :: q.args 4) ++ [")"]
  | .and a b =>
    if p ≤ 2 then a.args 2 ++ "and" :: b.args 3
    else "(" :: (a.args 2 ++ "and" :: b.args 3) ++ [")"]
  | .or a b =>
    if p ≤ 1 then a.args 1 ++ "or" :: b.args 2
    else "(" :: (a.args 1 ++ "or" :: b.args 2) ++ [")"]
  | .juxt a b =>
    if p = 0 then a.args 0 ++ b.args 1
    else "(" :: (a.args 0 ++ b.args 1) ++ [")"]

/-- a pattern the lexer returns as one TERM when it stands alone in (the rest
    of) an argument: not empty, no stop character or backslash, not starting
    with a quote or a blank, not a keyword. -/
def plainPat (s : String) : Bool :=
  match s.toList with
  | [] => false
  | c :: cs =>
    !isQuote c && !isSpace c && (c :: cs).all (fun x => !isStop x && x ≠ '\\') &&
    (Gen.queryKeywords.find? (fun kv => kv.1.toList = c :: cs)).isNone

/-- the argument of `expr`: taken whole, unless it opens with a quote. -/
def plainExprText (s : String) : Bool :=
  match s.toList with
  | [] => false
  | c :: _ => !isQuote c

/-- every pattern of the tree is plain and every `expr` text parses. -/
def Q.wf (exprOf : String → Option Pred) : Q → Bool
  | .term pat => plainPat pat
  | .tag n none => plainPat n
  | .tag n (some v) => plainPat n && plainPat v
  | .expr t => plainExprText t && (exprOf t).isSome
  | .ctx _ q => q.wf exprOf
  | .not q => q.wf exprOf
  | .and a b => a.wf exprOf && b.wf exprOf
  | .or a b => a.wf exprOf && b.wf exprOf
  | .juxt a b => a.wf exprOf && b.wf exprOf

end Query
end Ledger
