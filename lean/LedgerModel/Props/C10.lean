/-
C10 — market valuation uses the most recent price not after the valuation date.

The model (Model/Prices.lean) keeps ledger's data structures: one sorted map per
commodity pair with overwrite on equal moments, `upper_bound`-then-step-back lookup,
path search over the edges that have a price point at the moment, product of the edge
prices with inversion, `price × quantity`.  The theorems below are about *every* history
(a list of recorded prices of any length, any dates, any order, any commodities) and
every valuation moment; they are proved through the refinement
`recentEdge_eq_latestOn` (the map machinery computes a fold over the insertion-ordered
history) and by induction on the history / the path.

Tie to the source: `C10.source_pinned` (the code text of the twenty-odd statements the
model mirrors, re-extracted on every run) and `C10.flags` (the comparison operators and
rules the model's definitions *use*, read from the source: `upper_bound` vs
`lower_bound`, overwrite on equal moment, `when <= moment`, which commodity a price marks
PRIMARY, whether -V skips PRIMARY commodities, costs recorded at midnight).  A change of
`upper_bound` to `lower_bound` in history.cc flips `Gen.Prices.boundInclusive`, and
`notAfter_iff` — on which every theorem here rests — no longer compiles.

Proved fragment for the path: graphs on which the search is forced (`ChainFrom`: at each
commodity of the path the only unvisited neighbour is the next one) — single edges,
reversed edges, simple chains, walks through forests.  ledger's Dijkstra on graphs with
several routes is outside it.

-V (no target commodity): `C10.MarketFutureIrrelevant` — the property's last sentence for
-V — is FALSE for the code as it stands; `C10.market_future_irrelevant_false` proves the
negation on a concrete history (a price dated after the valuation date marks a commodity
PRIMARY and thereby stops its revaluation) and `C10.market_future_reorders_neighbours`
shows the second way (a later price creates an edge earlier and wins an equal-date tie).
`C10.market_future_irrelevant_partial` is what holds, with both situations excluded by
explicit decidable guards.  Both witnesses are replayed on the binary by the check
(fingerprints C10:-V:future-price-marks-primary, C10:-V:future-price-reorders-neighbours).
-/
import LedgerModel.Lemmas.Prices
import LedgerModel.Lemmas.PriceRoute
import LedgerModel.Model.PricesPinned

namespace Ledger
open Prices

/-- The statements found in the working tree are the ones the model mirrors. -/
theorem C10.source_pinned : Gen.Prices.shapes = Pinned.Prices.shapes := rfl

/-- The operators and rules read from the source have the values the proofs need. -/
theorem C10.flags :
    Gen.Prices.boundInclusive = true ∧ Gen.Prices.equalDateOverwrites = true ∧
    Gen.Prices.listingInclusive = true ∧ Gen.Prices.priceUnitIsPrimary = true ∧
    Gen.Prices.marketSkipsPrimary = true ∧ Gen.Prices.costPriceAtMidnight = true :=
  ⟨rfl, rfl, rfl, rfl, rfl, rfl⟩

/-- The price point chosen for the pair {a,b} at moment `D` is a recorded price of that
    pair dated not after `D`, and no recorded price of the pair lies in `(chosen, D]`. -/
theorem C10.recent_is_latest_le (hist : List Entry) (a b : Comm) (D : Int) (e : Entry)
    (h : recentEdge hist a b D = some e) :
    e ∈ hist ∧ e.onPair a b ∧ e.date ≤ D ∧
    ∀ x ∈ hist, x.onPair a b → x.date ≤ D → x.date ≤ e.date :=
  recentEdge_sound h

/-- There is no price point exactly when every recorded price of the pair is dated
    after `D`. -/
theorem C10.recent_none_iff (hist : List Entry) (a b : Comm) (D : Int) :
    recentEdge hist a b D = none ↔ ∀ x ∈ hist, x.onPair a b → D < x.date :=
  recentEdge_none_iff hist a b D

/-- Equal moments: of the recorded prices of a pair that carry the greatest date not
    after `D`, the one recorded last is chosen (it overwrote the others), whichever
    way round each was quoted. -/
theorem C10.equal_date_last_wins (pre post : List Entry) (e : Entry) (a b : Comm) (D : Int)
    (hp : e.onPair a b) (he : e.date ≤ D)
    (h1 : ∀ x ∈ pre, x.onPair a b → x.date ≤ D → x.date ≤ e.date)
    (h2 : ∀ x ∈ post, x.onPair a b → x.date ≤ D → x.date < e.date) :
    recentEdge (pre ++ e :: post) a b D = some e := by
  rw [recentEdge_eq_latestOn]
  unfold latestOn
  have : onEdge (pre ++ e :: post) a b = onEdge pre a b ++ e :: onEdge post a b := by
    simp [onEdge, hp]
  rw [this]
  apply pick_foldl_last_wins _ _ _ he
  · intro x hx; exact h1 x (mem_onEdge.mp hx).1 (mem_onEdge.mp hx).2
  · intro x hx; exact h2 x (mem_onEdge.mp hx).1 (mem_onEdge.mp hx).2

/-- In particular a second price for the same pair and the same moment replaces the first. -/
theorem C10.equal_date_overwrites (hist : List Entry) (e1 e2 : Entry) (a b : Comm) (D : Int)
    (hp2 : e2.onPair a b) (hd : e1.date = e2.date) (he : e2.date ≤ D)
    (h : ∀ x ∈ hist, x.onPair a b → x.date ≤ D → x.date ≤ e2.date) :
    recentEdge (hist ++ [e1, e2]) a b D = some e2 := by
  have := C10.equal_date_last_wins (hist ++ [e1]) [] e2 a b D hp2 he
    (fun x hx hxp hxD => (List.mem_append.mp hx).elim (fun hx => h x hx hxp hxD)
      fun hx => by rw [List.mem_singleton.mp hx]; exact Int.le_of_eq hd)
    (fun _ hx => nomatch hx)
  rw [List.append_assoc] at this
  exact this

/-- Dropping every price dated after `D` does not change any price point at `D`. -/
theorem C10.recent_future_irrelevant (hist : List Entry) (a b : Comm) (D : Int) :
    recentEdge (hist.filter (fun e => e.date ≤ D)) a b D = recentEdge hist a b D :=
  recentEdge_filter_date hist a b D

/-- Prices dated after `D` never influence a conversion into a target commodity as of `D`
    (`-X tgt`), for every history, vertex set, holding and target. -/
theorem C10.future_irrelevant (V : List Comm) (hist : List Entry) (D : Int) (tgt : Comm) (h : Holding) :
    valueX V (hist.filter (fun e => e.date ≤ D)) D tgt h = valueX V hist D tgt h := by
  unfold valueX
  congr 1
  funext a b
  exact C10.recent_future_irrelevant hist a b D

/-- A price quoted in the wanted commodity is used as it is … -/
theorem C10.rate_direct (e : Entry) (to : Comm) (h : e.tgt = to) : rate e to = e.price := by
  simp [rate, h]

/-- … and one quoted the other way round is inverted. -/
theorem C10.rate_reversed (e : Entry) (to : Comm) (h : e.tgt ≠ to) : rate e to = 1 / e.price := by
  simp [rate, h, Rat.div_def]

/-- Along a path the factors multiply. -/
theorem C10.rate_along_step (re : Comm → Comm → Option Entry) (a b : Comm) (rest : List Comm)
    (e : Entry) (r : Rat) (he : re a b = some e) (hr : rateAlong re (b :: rest) = some r) :
    rateAlong re (a :: b :: rest) = some (rate e b * r) := by
  simp [rateAlong, he, hr]

/-- Whatever the history: a holding is either left exactly as it is, or it is turned into
    the target commodity with quantity `q × Π` of the factors along a path from its
    commodity to the target, every step of which uses the price point of that pair
    at `D` (which by `C10.recent_is_latest_le` is the latest not after `D`). -/
theorem C10.value_exact (V : List Comm) (hist : List Entry) (D : Int) (tgt : Comm) (h : Holding) :
    valueX V hist D tgt h = (h.q, h.comm) ∨
    ∃ (p : List Comm) (r : Rat),
      p.head? = some h.comm ∧ p.getLast? = some tgt ∧
      Linked (fun a b => recentEdge hist a b D) p ∧
      rateAlong (fun a b => recentEdge hist a b D) p = some r ∧
      valueX V hist D tgt h = (h.q * r, tgt) := by
  unfold valueX valueWith
  by_cases hc : h.comm = tgt
  · exact Or.inl (if_pos hc)
  · rw [if_neg hc]
    cases hp : findPath (fun a b => recentEdge hist a b D) V h.comm tgt with
    | none => exact Or.inl rfl
    | some p =>
      have hs := dfs_sound _ V tgt _ _ _ _ hp
      obtain ⟨r, hr⟩ := rateAlong_of_linked _ p hs.2.2
      refine Or.inr ⟨p, r, hs.1, hs.2.1, hs.2.2, hr, ?_⟩
      dsimp only
      rw [hr]

/-- Simple chains (and every graph on which the walk is forced): the holding is converted
    along exactly that chain, `q × Π pᵢ^{±1}`. -/
theorem C10.value_exact_chain (V : List Comm) (hist : List Entry) (D : Int) (tgt : Comm) (h : Holding)
    (n : Comm) (rest : List Comm)
    (hc : ChainFrom (fun a b => (recentEdge hist a b D).isSome) V [] h.comm (n :: rest))
    (hlen : (n :: rest).length ≤ V.length)
    (hl : (h.comm :: n :: rest).getLast? = some tgt) :
    ∃ r, rateAlong (fun a b => recentEdge hist a b D) (h.comm :: n :: rest) = some r ∧
      valueX V hist D tgt h = (h.q * r, tgt) := by
  have hpath := dfs_chain _ V tgt (n :: rest) [] h.comm (V.length + 1) hc (Nat.lt_succ_of_le hlen) hl
  have hne : h.comm ≠ tgt := chainFrom_ne_last hc hl
  have hs := dfs_sound (fun a b => recentEdge hist a b D) V tgt _ _ _ _ hpath
  obtain ⟨r, hr⟩ := rateAlong_of_linked _ _ hs.2.2
  refine ⟨r, hr, ?_⟩
  rw [valueX, valueWith, if_neg hne, findPath, hpath]
  dsimp only
  rw [hr]

/-- Single edge, quoted in the target commodity: `q × p`. -/
theorem C10.value_exact_direct (V : List Comm) (hist : List Entry) (D : Int) (tgt : Comm) (h : Holding)
    (e : Entry)
    (hc : ChainFrom (fun a b => (recentEdge hist a b D).isSome) V [] h.comm [tgt])
    (hV : 1 ≤ V.length) (he : recentEdge hist h.comm tgt D = some e) (hq : e.tgt = tgt) :
    valueX V hist D tgt h = (h.q * e.price, tgt) := by
  obtain ⟨r, hr, hv⟩ := C10.value_exact_chain V hist D tgt h tgt [] hc hV rfl
  cases hr.symm.trans (C10.rate_along_step _ h.comm tgt [] e 1 he rfl)
  rw [hv, Rat.mul_one, C10.rate_direct e tgt hq]

/-- Reversed edge, only the price of the target in the holding's commodity is known: `q / p`. -/
theorem C10.value_exact_reversed (V : List Comm) (hist : List Entry) (D : Int) (tgt : Comm) (h : Holding)
    (e : Entry)
    (hc : ChainFrom (fun a b => (recentEdge hist a b D).isSome) V [] h.comm [tgt])
    (hV : 1 ≤ V.length) (he : recentEdge hist h.comm tgt D = some e) (hq : e.tgt ≠ tgt) :
    valueX V hist D tgt h = (h.q / e.price, tgt) := by
  obtain ⟨r, hr, hv⟩ := C10.value_exact_chain V hist D tgt h tgt [] hc hV rfl
  cases hr.symm.trans (C10.rate_along_step _ h.comm tgt [] e 1 he rfl)
  rw [hv, Rat.mul_one, C10.rate_reversed e tgt hq, Rat.div_def, Rat.div_def, Rat.one_mul]

/-- A holding whose commodity has no recorded price dated not after `D` (neither as the
    priced commodity nor as the unit) stays exactly as it is. -/
theorem C10.no_price_unconverted (V : List Comm) (hist : List Entry) (D : Int) (tgt : Comm) (h : Holding)
    (hno : ∀ x ∈ hist, (x.src = h.comm ∨ x.tgt = h.comm) → D < x.date) :
    valueX V hist D tgt h = (h.q, h.comm) := by
  unfold valueX valueWith
  by_cases hne : h.comm = tgt
  · exact if_pos hne
  · rw [if_neg hne]
    have hadj : ∀ c, (recentEdge hist h.comm c D).isSome = false := by
      intro c
      have : recentEdge hist h.comm c D = none :=
        (C10.recent_none_iff ..).mpr fun x hx hxp => hno x hx (SamePair.touches hxp (Or.inl rfl))
      rw [this]; rfl
    have : findPath (fun a b => recentEdge hist a b D) V h.comm tgt = none := by
      unfold findPath
      rw [dfs, if_neg hne]
      have : V.filter (fun c => (recentEdge hist h.comm c D).isSome && !([h.comm] : List Comm).contains c) = [] :=
        List.filter_eq_nil_iff.mpr fun c _ => by
          simp only [hadj c, Bool.false_and, Bool.false_eq_true, not_false_eq_true]
      rw [this]
      rfl
    rw [this]

/-- A holding already in the target commodity is unchanged. -/
theorem C10.same_commodity_unchanged (V : List Comm) (hist : List Entry) (D : Int) (h : Holding) :
    valueX V hist D h.comm h = (h.q, h.comm) := by
  simp [valueX, valueWith]

/-- When no two recorded prices of the same pair carry the same moment, the order in
    which the prices were recorded (file order, out-of-order dates) is irrelevant. -/
theorem C10.insertion_order_irrelevant_for_distinct_dates
    (V : List Comm) (hist₁ hist₂ : List Entry) (D : Int) (tgt : Comm) (h : Holding)
    (hp : hist₁.Perm hist₂)
    (hd : ∀ x ∈ hist₁, ∀ y ∈ hist₁, x.date = y.date → x.onPair y.src y.tgt → x = y) :
    valueX V hist₁ D tgt h = valueX V hist₂ D tgt h := by
  suffices hre : (fun a b => recentEdge hist₁ a b D) = fun a b => recentEdge hist₂ a b D from
    congrArg (valueWith · V tgt h) hre
  funext a b
  cases h1 : recentEdge hist₁ a b D with
  | none =>
    symm
    rw [C10.recent_none_iff] at h1 ⊢
    intro x hx hxp
    exact h1 x (hp.mem_iff.mpr hx) hxp
  | some e1 =>
    have ⟨m1, p1, d1, mx1⟩ := C10.recent_is_latest_le _ _ _ _ _ h1
    cases h2 : recentEdge hist₂ a b D with
    | none =>
      rw [C10.recent_none_iff] at h2
      exact absurd d1 (Int.not_le.mpr (h2 e1 (hp.mem_iff.mp m1) p1))
    | some e2 =>
      have ⟨m2, p2, d2, mx2⟩ := C10.recent_is_latest_le _ _ _ _ _ h2
      have hle1 := mx1 e2 (hp.mem_iff.mpr m2) p2 d2
      have hle2 := mx2 e1 (hp.mem_iff.mp m1) p1 d1
      rw [hd e1 m1 e2 (hp.mem_iff.mpr m2) (Int.le_antisymm hle2 hle1) (SamePair.trans p1 (SamePair.symm p2))]

/-- -V never revalues a commodity that some recorded price uses as its unit. -/
theorem C10.market_primary_unconverted (V : List Comm) (hist : List Entry) (D : Int) (h : Holding)
    (hp : ∃ x ∈ hist, x.tgt = h.comm) : valueV V hist D h = (h.q, h.comm) := by
  obtain ⟨x, hx, hxt⟩ := hp
  have : h.comm ∈ primaries hist := mem_primaries.mpr ⟨x, hx, hxt⟩
  simp [valueV, this, Gen.Prices.marketSkipsPrimary]

/-- For a lot acquired at a cost, -V is the conversion into the commodity of the lot
    price, so everything proved for `valueX` applies to it. -/
theorem C10.market_lot_is_exchange (V : List Comm) (hist : List Entry) (D : Int) (h : Holding) (t : Comm)
    (hp : ∀ x ∈ hist, x.tgt ≠ h.comm) (hl : h.lot = some t) :
    valueV V hist D h = valueX V hist D t h := by
  have : h.comm ∉ primaries hist := fun hm => let ⟨x, hx, hxt⟩ := mem_primaries.mp hm; hp x hx hxt
  simp [valueV, this, hl]

/-- Without a lot price, -V picks for `c` a recorded price that involves `c`, is dated not
    after `D`, and such that no recorded price involving `c` lies in `(chosen, D]`. -/
theorem C10.market_pick_is_latest_le (hist : List Entry) (c : Comm) (D : Int) (e : Entry)
    (h : marketPick (Graph.ofHistory hist) c D = some e) :
    e ∈ hist ∧ e.touches c ∧ e.date ≤ D ∧
    ∀ x ∈ hist, x.touches c → x.date ≤ D → x.date ≤ e.date :=
  let ⟨h1, h2, h3, h4, _⟩ := marketPick_hist h
  ⟨h1, h2, h3, h4⟩

/-- … and the holding becomes `q × p` of the unit of that price (`q / p` of the priced
    commodity if the holding's commodity were the unit). -/
theorem C10.market_value_exact (V : List Comm) (hist : List Entry) (D : Int) (h : Holding) (e : Entry)
    (hp : ∀ x ∈ hist, x.tgt ≠ h.comm) (hl : h.lot = none)
    (he : marketPick (Graph.ofHistory hist) h.comm D = some e) :
    valueV V hist D h = (h.q * e.price, e.tgt) := by
  have hnp : h.comm ∉ primaries hist := fun hm => let ⟨x, hx, hxt⟩ := mem_primaries.mp hm; hp x hx hxt
  have ht : e.tgt ≠ h.comm := hp e (marketPick_hist he).1
  simp [valueV, hnp, hl, he, Entry.other, ht, rate]

/-- -V leaves the holding alone when no recorded price involving its commodity is dated
    not after `D`. -/
theorem C10.market_no_price_unconverted (V : List Comm) (hist : List Entry) (D : Int) (h : Holding)
    (hl : h.lot = none) (hno : ∀ x ∈ hist, x.touches h.comm → D < x.date) :
    valueV V hist D h = (h.q, h.comm) := by
  have := (marketPick_hist_none hist h.comm D).mpr hno
  unfold valueV
  split
  · rfl
  · simp [hl, this]

/-- The property's last sentence for -V, at full strength. -/
def C10.MarketFutureIrrelevant : Prop :=
  ∀ (V : List Comm) (hist : List Entry) (D : Int) (h : Holding),
    valueV V (hist.filter (fun e => e.date ≤ D)) D h = valueV V hist D h

/-- It does NOT hold for the code as it stands: `P 1970-01-01 00:00:10 AAA 2 BBB`,
    `P 1970-01-01 00:00:20 CCC 4 AAA`, 10 AAA valued at second 15 — with the later price
    present AAA is PRIMARY and stays `10 AAA`; without it the value is `20 BBB`. -/
theorem C10.market_future_irrelevant_false : ¬ C10.MarketFutureIrrelevant := by
  intro h
  have := h ["AAA", "BBB", "CCC"]
    [{ src := "AAA", tgt := "BBB", date := 10, price := 2 }, { src := "CCC", tgt := "AAA", date := 20, price := 4 }]
    15 { q := 10, comm := "AAA" }
  revert this
  decide +kernel

/-- Second way it fails (PRIMARY flags untouched): a later price `AAA 9 CCC` creates the
    AAA–CCC edge before the AAA–BBB edge, and the tie between the equal-dated quotes
    `AAA 3 BBB` / `AAA 7 CCC` then goes to CCC instead of BBB (history.cc 398-411). -/
theorem C10.market_future_reorders_neighbours :
    valueV ["AAA", "BBB", "CCC"]
      [{ src := "AAA", tgt := "CCC", date := 50, price := 9 }, { src := "AAA", tgt := "BBB", date := 10, price := 3 },
       { src := "AAA", tgt := "CCC", date := 10, price := 7 }] 15 { q := 10, comm := "AAA" } = (70, "CCC") ∧
    valueV ["AAA", "BBB", "CCC"]
      [{ src := "AAA", tgt := "BBB", date := 10, price := 3 },
       { src := "AAA", tgt := "CCC", date := 10, price := 7 }] 15 { q := 10, comm := "AAA" } = (30, "BBB") := by
  decide +kernel

/-- What holds for -V, with the two excluded situations as explicit decidable guards:
    (1) dropping the prices dated after `D` does not change whether the holding's
    commodity is PRIMARY, and (2) the holding is a lot (valued in the unit of its lot
    price) or no two prices of its commodity in different units carry the same moment. -/
theorem C10.market_future_irrelevant_partial (V : List Comm) (hist : List Entry) (D : Int) (h : Holding)
    (hprim : (primaries (hist.filter (fun e => e.date ≤ D))).contains h.comm = (primaries hist).contains h.comm)
    (hties : h.lot.isSome = true ∨ NoCrossTies hist h.comm D) :
    valueV V (hist.filter (fun e => e.date ≤ D)) D h = valueV V hist D h := by
  cases hl : h.lot with
  | some t => simp only [valueV, hprim, hl, C10.future_irrelevant]
  | none =>
    have hg : NoCrossTies hist h.comm D := by
      rcases hties with h' | h'
      · rw [hl] at h'; cases h'
      · exact h'
    simp only [valueV, hprim, hl, marketPick_filter_date hg]

/-! ### graphs with several routes (history.cc 435-546 in general)

`routeW choose` is boost's Dijkstra over the edges that have a price point at the moment,
with `distance_combine = max` (the length of a route is the age of its OLDEST price), and
`choose` standing for `Q.top()`.  Everything below is proved for every `choose` that returns
some gray vertex of least distance (`ChoiceOk`): it therefore holds whatever boost's heap
does with equally distant vertices.  `routeOf` / `valueXG` are the instance that pops what
boost 1.83's 4-ary heap pops (`C10.heap_choice_admissible`). -/

/-- The chosen route is a simple path from the holding's commodity to the target, each step
    of which has a price point at the moment … -/
theorem C10.route_is_applicable (choose : DState → Option Comm) (hch : ChoiceOk choose)
    (hist : List Entry) (D : Int) (c tgt : Comm) (p : List Comm)
    (h : routeW choose (fgraph hist D) D c tgt = some p) :
    p.head? = some c ∧ p.getLast? = some tgt ∧ p.Nodup ∧ Linked (fun a b => recentEdge hist a b D) p :=
  let ⟨h1, h2, _, h4, h5, _⟩ := routeW_sound hch hist D c tgt p h
  ⟨h1, h2, h4, h5⟩

/-- … and that price point is a recorded price of the pair dated not after `D`, with no
    recorded price of the pair in `(chosen, D]`. -/
theorem C10.route_steps_are_latest (choose : DState → Option Comm) (hch : ChoiceOk choose)
    (hist : List Entry) (D : Int) (c tgt : Comm) (p : List Comm)
    (h : routeW choose (fgraph hist D) D c tgt = some p)
    (pre : List Comm) (a b : Comm) (rest : List Comm) (hp : p = pre ++ a :: b :: rest) :
    ∃ e, recentEdge hist a b D = some e ∧ e ∈ hist ∧ e.onPair a b ∧ e.date ≤ D ∧
      ∀ x ∈ hist, x.onPair a b → x.date ≤ D → x.date ≤ e.date := by
  have hl := (C10.route_is_applicable choose hch hist D c tgt p h).2.2.2
  rw [hp] at hl
  obtain ⟨e, he⟩ := Option.isSome_iff_exists.mp (linked_infix pre a b rest hl)
  exact ⟨e, he, recentEdge_sound he⟩

/-- Dijkstra's correctness for the model: among ALL paths of price points from the
    commodity to the target (simple or not), none has a more recent oldest price than
    the chosen route. -/
theorem C10.route_minimal (choose : DState → Option Comm) (hch : ChoiceOk choose)
    (hist : List Entry) (D : Int) (c tgt : Comm) (p : List Comm)
    (h : routeW choose (fgraph hist D) D c tgt = some p)
    (p' : List Comm) (hh : p'.head? = some c) (hl : p'.getLast? = some tgt)
    (hlink : Linked (fun a b => recentEdge hist a b D) p') :
    oldestAge (fun a b => recentEdge hist a b D) D p ≤ oldestAge (fun a b => recentEdge hist a b D) D p' :=
  (routeW_sound hch hist D c tgt p h).2.2.2.2.2 p' hh hl hlink

/-- A route is found whenever there is one. -/
theorem C10.route_complete (choose : DState → Option Comm) (hch : ChoiceOk choose)
    (hist : List Entry) (D : Int) (c tgt : Comm) (hne : c ≠ tgt)
    (p' : List Comm) (hh : p'.head? = some c) (hl : p'.getLast? = some tgt)
    (hlink : Linked (fun a b => recentEdge hist a b D) p') :
    ∃ p, routeW choose (fgraph hist D) D c tgt = some p :=
  routeW_complete hch hist D c tgt hne p' hh hl hlink

/-- The LENGTH of the route (age of its oldest price) does not depend on how ties are broken. -/
theorem C10.route_age_tie_independent (ch₁ ch₂ : DState → Option Comm) (h₁ : ChoiceOk ch₁) (h₂ : ChoiceOk ch₂)
    (hist : List Entry) (D : Int) (c tgt : Comm) (p₁ p₂ : List Comm)
    (hp₁ : routeW ch₁ (fgraph hist D) D c tgt = some p₁) (hp₂ : routeW ch₂ (fgraph hist D) D c tgt = some p₂) :
    oldestAge (fun a b => recentEdge hist a b D) D p₁ = oldestAge (fun a b => recentEdge hist a b D) D p₂ := by
  have a1 := C10.route_is_applicable ch₁ h₁ hist D c tgt p₁ hp₁
  have a2 := C10.route_is_applicable ch₂ h₂ hist D c tgt p₂ hp₂
  have m1 := C10.route_minimal ch₁ h₁ hist D c tgt p₁ hp₁ p₂ a2.1 a2.2.1 a2.2.2.2
  have m2 := C10.route_minimal ch₂ h₂ hist D c tgt p₂ hp₂ p₁ a1.1 a1.2.1 a1.2.2.2
  exact Int.le_antisymm m1 m2

/-- The date reported with the chained price (`least_recent`, history.cc 470-504) is the
    moment minus the route's length. -/
theorem C10.route_least_recent (choose : DState → Option Comm) (hch : ChoiceOk choose)
    (hist : List Entry) (D : Int) (c tgt : Comm) (p : List Comm)
    (h : routeW choose (fgraph hist D) D c tgt = some p) :
    ∃ m, leastRecent (fun a b => recentEdge hist a b D) p = some m ∧
      oldestAge (fun a b => recentEdge hist a b D) D p = D - m := by
  have ⟨_, _, h3, _, h5, _⟩ := routeW_sound hch hist D c tgt p h
  rcases p with _ | ⟨a, _ | ⟨b, rest⟩⟩
  · cases h3
  · exact absurd (Nat.le_of_succ_le_succ h3) (Nat.not_succ_le_zero 0)
  · exact leastRecent_oldest hist D rest a b h5

/-- The value on any price graph: unconverted, or exactly `q × Π` of the factors along the
    chosen route. -/
theorem C10.value_exact_general (choose : DState → Option Comm) (hist : List Entry) (D : Int) (tgt : Comm) (h : Holding) :
    valueW choose (fgraph hist D) D tgt h = (h.q, h.comm) ∨
    ∃ (p : List Comm) (r : Rat), routeW choose (fgraph hist D) D h.comm tgt = some p ∧
      rateAlong (fun a b => recentEdge hist a b D) p = some r ∧
      valueW choose (fgraph hist D) D tgt h = (h.q * r, tgt) := by
  unfold valueW
  by_cases hc : h.comm = tgt
  · exact Or.inl (if_pos hc)
  · rw [if_neg hc, feLookup_fgraph hist D]
    cases routeW choose (fgraph hist D) D h.comm tgt with
    | none => exact Or.inl rfl
    | some p =>
      dsimp only
      cases hr : rateAlong (fun a b => recentEdge hist a b D) p with
      | none => exact Or.inl rfl
      | some r => exact Or.inr ⟨p, r, rfl, hr, rfl⟩

/-- With no path of price points to the target the holding stays as it is (general graphs). -/
theorem C10.unreachable_unconverted (choose : DState → Option Comm) (hch : ChoiceOk choose)
    (hist : List Entry) (D : Int) (tgt : Comm) (h : Holding)
    (hno : ¬ ∃ p : List Comm, p.head? = some h.comm ∧ p.getLast? = some tgt ∧ 2 ≤ p.length ∧
        Linked (fun a b => recentEdge hist a b D) p) :
    valueW choose (fgraph hist D) D tgt h = (h.q, h.comm) := by
  unfold valueW
  by_cases hc : h.comm = tgt
  · exact if_pos hc
  · rw [if_neg hc]
    cases hp : routeW choose (fgraph hist D) D h.comm tgt with
    | none => rfl
    | some p =>
      have ⟨h1, h2, h3, _, h5, _⟩ := routeW_sound hch hist D h.comm tgt p hp
      exact absurd ⟨p, h1, h2, h3, h5⟩ hno

/-- On a forced chain (single edge, reversed edge, simple chain, walk through a forest) the
    general route choice is the chain, whatever the tie-break: … -/
theorem C10.route_coincides_on_chain (choose : DState → Option Comm) (hch : ChoiceOk choose)
    (V : List Comm) (hist : List Entry) (D : Int) (c tgt n : Comm) (rest : List Comm)
    (hV : ∀ e ∈ hist, e.src ∈ V ∧ e.tgt ∈ V)
    (hc : ChainFrom (fun a b => (recentEdge hist a b D).isSome) V [] c (n :: rest))
    (hl : (c :: n :: rest).getLast? = some tgt) :
    routeW choose (fgraph hist D) D c tgt = some (c :: n :: rest) := by
  have hne : c ≠ tgt := chainFrom_ne_last hc hl
  -- the chain itself is a path of price points
  have hchain : Linked (fun a b => recentEdge hist a b D) (c :: n :: rest) := by
    have hpath := dfs_chain _ V tgt (n :: rest) [] c ((n :: rest).length + 1) hc (Nat.lt_succ_self _) hl
    exact (dfs_sound (fun a b => recentEdge hist a b D) V tgt _ _ _ _ hpath).2.2
  obtain ⟨p, hp⟩ := routeW_complete hch hist D c tgt hne (c :: n :: rest) rfl hl hchain
  have ⟨h1, h2, _, h4, h5, _⟩ := routeW_sound hch hist D c tgt p hp
  cases p with
  | nil => cases h1
  | cons a tl =>
    obtain rfl : a = c := Option.some.inj h1
    have hmemV : ∀ x ∈ tl, x ∈ V := by
      intro x hx
      obtain ⟨e, he, hx'⟩ := linked_mem_hist tl a h5 x hx
      rcases hx' with rfl | rfl
      · exact (hV e he).1
      · exact (hV e he).2
    have := chain_unique (fun a b => (recentEdge hist a b D).isSome) V tgt (n :: rest) [] a tl hc hl h2
      (linked_adj _ h5) h4 hmemV (fun _ _ hx => nomatch hx)
    rw [hp, this]

/-- … so there the general valuation is the one of `valueX`, and every theorem above about
    `valueX` on forced chains is a statement about ledger's route choice. -/
theorem C10.value_coincides_on_chain (choose : DState → Option Comm) (hch : ChoiceOk choose)
    (V : List Comm) (hist : List Entry) (D : Int) (tgt : Comm) (h : Holding) (n : Comm) (rest : List Comm)
    (hV : ∀ e ∈ hist, e.src ∈ V ∧ e.tgt ∈ V)
    (hc : ChainFrom (fun a b => (recentEdge hist a b D).isSome) V [] h.comm (n :: rest))
    (hlen : (n :: rest).length ≤ V.length)
    (hl : (h.comm :: n :: rest).getLast? = some tgt) :
    valueW choose (fgraph hist D) D tgt h = valueX V hist D tgt h := by
  have hroute := C10.route_coincides_on_chain choose hch V hist D h.comm tgt n rest hV hc hl
  obtain ⟨r, hr, hv⟩ := C10.value_exact_chain V hist D tgt h n rest hc hlen hl
  have hne : h.comm ≠ tgt := chainFrom_ne_last hc hl
  have hre := feLookup_fgraph hist D
  rw [hv]
  unfold valueW
  simp only [hne, if_false, hroute, hre, hr]

/-- On forced chains prices dated after `D` never influence ledger's `-X` valuation
    (the property's last sentence, for the property's graphs, for the real route choice). -/
theorem C10.future_irrelevant_on_chain (choose : DState → Option Comm) (hch : ChoiceOk choose)
    (V : List Comm) (hist : List Entry) (D : Int) (tgt : Comm) (h : Holding) (n : Comm) (rest : List Comm)
    (hV : ∀ e ∈ hist, e.src ∈ V ∧ e.tgt ∈ V)
    (hc : ChainFrom (fun a b => (recentEdge hist a b D).isSome) V [] h.comm (n :: rest))
    (hlen : (n :: rest).length ≤ V.length)
    (hl : (h.comm :: n :: rest).getLast? = some tgt) :
    valueW choose (fgraph (hist.filter (fun e => e.date ≤ D)) D) D tgt h = valueW choose (fgraph hist D) D tgt h := by
  have hadj : (fun a b => (recentEdge (hist.filter (fun e => e.date ≤ D)) a b D).isSome) =
      (fun a b => (recentEdge hist a b D).isSome) := by
    funext a b; rw [recentEdge_filter_date]
  have hV' : ∀ e ∈ hist.filter (fun e => e.date ≤ D), e.src ∈ V ∧ e.tgt ∈ V :=
    fun e he => hV e (List.mem_filter.mp he).1
  rw [C10.value_coincides_on_chain choose hch V hist D tgt h n rest hV hc hlen hl,
      C10.value_coincides_on_chain choose hch V _ D tgt h n rest hV' (by rw [hadj]; exact hc) hlen hl,
      C10.future_irrelevant]

/-- The property's last sentence for `-X` on ALL price graphs, at full strength. -/
def C10.ExchangeFutureIrrelevantGeneral : Prop :=
  ∀ (hist : List Entry) (D : Int) (tgt : Comm) (h : Holding),
    valueXG (hist.filter (fun e => e.date ≤ D)) D tgt h = valueXG hist D tgt h

/-- It does NOT hold on graphs with several equally old routes: a diamond AAA–BBB–DDD /
    AAA–CCC–DDD with all four prices at second 10 and a later price `AAA 9 CCC` at second 50
    recorded first.  The later price creates the AAA–CCC edge first, CCC is pushed and popped
    before BBB, and the tie goes to the route through CCC (210) instead of BBB (100).
    Reproduced on the binary; outside the graphs the property quantifies over. -/
theorem C10.exchange_future_irrelevant_general_false : ¬ C10.ExchangeFutureIrrelevantGeneral := by
  intro h
  have := h
    [{ src := "AAA", tgt := "CCC", date := 50, price := 9 }, { src := "AAA", tgt := "BBB", date := 10, price := 2 },
     { src := "AAA", tgt := "CCC", date := 10, price := 3 }, { src := "BBB", tgt := "DDD", date := 10, price := 5 },
     { src := "CCC", tgt := "DDD", date := 10, price := 7 }]
    15 "DDD" { q := 10, comm := "AAA" }
  revert this
  decide +kernel

/-- What holds on every graph, with the guard spelled out: if dropping the prices dated
    after `D` leaves the list of applicable edges (in creation order, with their price
    points) as it is, the valuation is the same — for every tie-break. -/
theorem C10.exchange_future_irrelevant_general_partial (choose : DState → Option Comm)
    (hist : List Entry) (D : Int) (tgt : Comm) (h : Holding)
    (hg : fgraph (hist.filter (fun e => e.date ≤ D)) D = fgraph hist D) :
    valueW choose (fgraph (hist.filter (fun e => e.date ≤ D)) D) D tgt h = valueW choose (fgraph hist D) D tgt h := by
  rw [hg]

/-- The VALUE does depend on the tie-break when equally old routes carry different
    prices: the same diamond, boost's heap against a queue scanned from its newest end. -/
theorem C10.value_tie_dependent :
    ∃ (hist : List Entry) (D : Int) (tgt : Comm) (h : Holding),
      valueW popChoice (fgraph hist D) D tgt h ≠ valueW altChoice (fgraph hist D) D tgt h :=
  ⟨[{ src := "AAA", tgt := "BBB", date := 10, price := 2 }, { src := "AAA", tgt := "CCC", date := 10, price := 3 },
    { src := "BBB", tgt := "DDD", date := 10, price := 5 }, { src := "CCC", tgt := "DDD", date := 10, price := 7 }],
   15, "DDD", { q := 10, comm := "AAA" }, by decide +kernel⟩

/-- It does not when all routes whose oldest price is as recent as possible multiply to the
    same factor (in particular when there is only one such route). -/
theorem C10.value_tie_independent (ch₁ ch₂ : DState → Option Comm) (h₁ : ChoiceOk ch₁) (h₂ : ChoiceOk ch₂)
    (hist : List Entry) (D : Int) (tgt : Comm) (h : Holding)
    (huniq : ∀ p₁ p₂ : List Comm,
      p₁.head? = some h.comm → p₁.getLast? = some tgt → p₁.Nodup → Linked (fun a b => recentEdge hist a b D) p₁ →
      p₂.head? = some h.comm → p₂.getLast? = some tgt → p₂.Nodup → Linked (fun a b => recentEdge hist a b D) p₂ →
      oldestAge (fun a b => recentEdge hist a b D) D p₁ = oldestAge (fun a b => recentEdge hist a b D) D p₂ →
      rateAlong (fun a b => recentEdge hist a b D) p₁ = rateAlong (fun a b => recentEdge hist a b D) p₂) :
    valueW ch₁ (fgraph hist D) D tgt h = valueW ch₂ (fgraph hist D) D tgt h := by
  have hre := feLookup_fgraph hist D
  unfold valueW
  by_cases hc : h.comm = tgt
  · rw [if_pos hc, if_pos hc]
  · rw [if_neg hc, if_neg hc, hre]
    cases hp₁ : routeW ch₁ (fgraph hist D) D h.comm tgt with
    | none =>
      cases hp₂ : routeW ch₂ (fgraph hist D) D h.comm tgt with
      | none => rfl
      | some p₂ =>
        have a2 := C10.route_is_applicable ch₂ h₂ hist D h.comm tgt p₂ hp₂
        obtain ⟨p, hp⟩ := C10.route_complete ch₁ h₁ hist D h.comm tgt hc p₂ a2.1 a2.2.1 a2.2.2.2
        rw [hp₁] at hp; cases hp
    | some p₁ =>
      have a1 := C10.route_is_applicable ch₁ h₁ hist D h.comm tgt p₁ hp₁
      cases hp₂ : routeW ch₂ (fgraph hist D) D h.comm tgt with
      | none =>
        obtain ⟨p, hp⟩ := C10.route_complete ch₂ h₂ hist D h.comm tgt hc p₁ a1.1 a1.2.1 a1.2.2.2
        rw [hp₂] at hp; cases hp
      | some p₂ =>
        have a2 := C10.route_is_applicable ch₂ h₂ hist D h.comm tgt p₂ hp₂
        have hage := C10.route_age_tie_independent ch₁ ch₂ h₁ h₂ hist D h.comm tgt p₁ p₂ hp₁ hp₂
        dsimp only
        rw [huniq p₁ p₂ a1.1 a1.2.1 a1.2.2.1 a1.2.2.2 a2.1 a2.2.1 a2.2.2.1 a2.2.2.2 hage]

/-- boost's heap is an admissible tie-break, so all of the above is about `routeOf` / `valueXG`. -/
theorem C10.heap_choice_admissible : ChoiceOk popChoice :=
  { spec := fun _ _ h => popChoice_spec h, none_iff := popChoice_none_iff }

/-- AAA priced in BBB on days 10 and 20 (the second twice, the later record winning),
    BBB priced *in* CCC the other way round. -/
def C10.exHist : List Entry :=
  [{ src := "AAA", tgt := "BBB", date := 20, price := 3 },
   { src := "AAA", tgt := "BBB", date := 10, price := 2 },
   { src := "CCC", tgt := "BBB", date := 5, price := 4 },
   { src := "AAA", tgt := "BBB", date := 20, price := 7 / 2 },
   { src := "AAA", tgt := "BBB", date := 30, price := 9 }]

example : recentEdge C10.exHist "AAA" "BBB" 25 = some { src := "AAA", tgt := "BBB", date := 20, price := 7 / 2 } := by
  decide +kernel

example : recentEdge C10.exHist "BBB" "AAA" 9 = none := by decide +kernel

example : ChainFrom (fun a b => (recentEdge C10.exHist a b 25).isSome) ["AAA", "BBB", "CCC"] [] "AAA" ["BBB", "CCC"] := by
  decide +kernel

/-- 10 AAA → CCC on day 25: 10 × 7/2 (direct) × 1/4 (reversed quote). -/
example : valueX ["AAA", "BBB", "CCC"] C10.exHist 25 "CCC" { q := 10, comm := "AAA" } = (35 / 4, "CCC") := by
  decide +kernel

example : valueX ["AAA", "BBB", "CCC"] C10.exHist 4 "CCC" { q := 10, comm := "AAA" } = (10, "AAA") := by
  decide +kernel

example : valueV ["AAA", "BBB", "CCC"] C10.exHist 25 { q := 10, comm := "AAA" } = (35, "BBB") := by
  decide +kernel

example : valueV ["AAA", "BBB", "CCC"] C10.exHist 25 { q := 10, comm := "BBB" } = (10, "BBB") := by
  decide +kernel

/-- the guards of `C10.market_future_irrelevant_partial` hold on it -/
example : NoCrossTies C10.exHist "AAA" 25 := by decide +kernel

example : (primaries (C10.exHist.filter (fun e => e.date ≤ 25))).contains "AAA" = (primaries C10.exHist).contains "AAA" := by
  decide +kernel

example : marketPick (Graph.ofHistory C10.exHist) "AAA" 25 = some { src := "AAA", tgt := "BBB", date := 20, price := 7 / 2 } := by
  decide +kernel

/-- a triangle: the direct quote AAA→CCC is older (day 5) than the two-hop route (day 20) -/
def C10.exTriangle : List Entry :=
  [{ src := "AAA", tgt := "CCC", date := 5, price := 20 },
   { src := "AAA", tgt := "BBB", date := 20, price := 3 },
   { src := "CCC", tgt := "BBB", date := 20, price := 1 / 2 }]

example : routeOf (fgraph C10.exTriangle 25) 25 "AAA" "CCC" = some ["AAA", "BBB", "CCC"] := by decide +kernel

example : routeOf (fgraph C10.exTriangle 10) 10 "AAA" "CCC" = some ["AAA", "CCC"] := by decide +kernel

example : valueXG C10.exTriangle 25 "CCC" { q := 10, comm := "AAA" } = (60, "CCC") := by decide +kernel

example : oldestAge (fun a b => recentEdge C10.exTriangle a b 25) 25 ["AAA", "BBB", "CCC"] = 5 := by decide +kernel

/-- the forest example again, through the general route choice -/
example : valueXG C10.exHist 25 "CCC" { q := 10, comm := "AAA" } = (35 / 4, "CCC") := by decide +kernel

end Ledger
