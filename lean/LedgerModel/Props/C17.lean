/-
C17 — sorting and regrouping options only reorder or merge postings.

Model: Model/Regroup.lean (sort_posts / sort_xacts / compare_items /
sort_value_is_less_than, truncate_xacts, collapse_posts, subtotal_posts,
by_payee_posts, day_of_week_posts, calc_posts, stacked as chain.cc stacks them).
All theorems are for every posting list and every valuation of the postings
(`RPost.value`: what the amount expression yields, e.g. the cost under -B).

* `--sort`: the output is a permutation of the input (`sort_perm`); when the key
  comparison is a strict weak order on the postings it is ordered by the key
  (`sort_sorted`), ties keep the input order (`sort_stable`), and it is the only
  arrangement with these two properties (`sort_unique`).  The hypothesis is
  proved for date / payee / account keys, amounts of one commodity, amounts that
  all carry a commodity, and every compound key of these (`sortValueLess_swo`).
  It is FALSE in general (`sort_key_swo_everywhere_false`, witness −10 EUR, $0, $5).
  `--sort-xacts` does the same inside every transaction and leaves the
  transactions in place (`sort_xacts`); `--sort-all` is `--sort`.
* `--head N` / `--tail M`, alone or together, negative counts included: the
  handler (per-posting state machine with its early stop, and the two loops of
  flush) keeps the transactions whose index passes the window of flush
  (`truncate_window`, `window_spec`), which is `take N`, `drop (len − M)`, their
  union, `drop K` for `--head -K` and `take (len − K)` for `--tail -K`.
* `--subtotal`, `--by-payee`, `--dow`, `--collapse`, `--depth N`: `GroupSums` –
  one row per group, every group present, each row's value and the grand total
  equal to the per-commodity sums (denotation `den`) of the member postings; also
  for two stages in a row (`*_then_*`; subtotal_posts reads the compound value of a
  row handed down to it – `subtotal_reads_compound`, extracted; without that the
  row is lost, `compound_row_lost_without_flag`), and with the grand total through
  any stack of stages (`regroup_total`).
  subtotal_posts sums `post.amount`, not the amount expression: under a valuation
  that differs from the amount its rows are not the sums of the register's values
  (`subtotal_valued_everywhere_false`).
  Rows of one transaction under `--depth N` come in account-name order
  (`collapse_depth_rows_sorted`).

The comparison operators of the truncation window, of the totals map and the
`.simplified()` flag are the ones read from the source (Gen/Regroup.lean): the
theorems below are proved against those, and the function bodies the model
mirrors, the option wiring and chain_post_handlers are pinned.
-/
import LedgerModel.Lemmas.RegroupSort
import LedgerModel.Lemmas.RegroupRuns
import LedgerModel.Lemmas.RegroupSums
import LedgerModel.Lemmas.RegroupGroups
import LedgerModel.Lemmas.RegroupSortX
import LedgerModel.Model.RegroupPinned

namespace Ledger
open Regroup

/-- the handler bodies found in the working tree are the ones the model mirrors -/
theorem C17.bodies_pinned : Gen.Regroup.bodies = Pinned.Regroup.bodies := rfl

/-- chain.cc stacks the handlers in the order the model's `report` assumes -/
theorem C17.chain_pinned : Gen.Regroup.chainOrder = Pinned.Regroup.chainOrder := rfl

/-- sort_posts sorts with std::stable_sort (a stable algorithm) -/
theorem C17.sort_is_stable_sort : Gen.Regroup.sortCall = "std::stable_sort" := rfl

/-- the regrouping maps are ordered maps keyed as the model keys them -/
theorem C17.containers_pinned :
    (Gen.Regroup.valuesMapType, Gen.Regroup.totalsMapType, Gen.Regroup.payeeMapType,
     Gen.Regroup.subtotalKey, Gen.Regroup.dowIndex) =
    (Pinned.Regroup.valuesMapType, Pinned.Regroup.totalsMapType, Pinned.Regroup.payeeMapType,
     Pinned.Regroup.subtotalKey, Pinned.Regroup.dowIndex) := rfl

/-- collapse's totals map compares account names with `<` (ascending name order) -/
theorem C17.totals_order : Gen.Regroup.totalsOrder = .lt := rfl

/-- the truncation window and early stop compare as the model was proved for -/
theorem C17.window_ops :
    (Gen.Regroup.truncHeadPos, Gen.Regroup.truncHeadNeg, Gen.Regroup.truncTailPos,
     Gen.Regroup.truncTailNeg, Gen.Regroup.truncEarlyStop, Gen.Regroup.sortKeySimplified) =
    (.lt, .ge, .le, .gt, .ge, true) := rfl

/-- `--sort` outputs exactly the postings it was given. -/
theorem C17.sort_perm (ks : List SortKey) (l : List RPost) : (sortPosts ks l).Perm l :=
  sortBy_perm _ l

/-- Ordered by the key: no posting is followed by one that sorts strictly before it. -/
theorem C17.sort_sorted (ks : List SortKey) (l : List RPost) (h : SWOOn (postLess ks) l) :
    (sortPosts ks l).Pairwise (fun a b => postLess ks b a = false) :=
  sortBy_pairwise h

/-- Stable: if `a` stands before `b` in the input and `b` does not sort strictly
    before `a` (in particular when they tie), `a` stands before `b` in the output. -/
theorem C17.sort_stable (ks : List SortKey) (l : List RPost) (h : SWOOn (postLess ks) l)
    {a b : RPost} (hba : postLess ks b a = false) (hs : [a, b].Sublist l) :
    [a, b].Sublist (sortPosts ks l) :=
  sortBy_stable h hba hs

/-- The stable arrangement is unique: any rearrangement `m` of the
    position-tagged input in which each element may precede all later ones
    (not strictly greater; on a tie, earlier in the input) is the model's output. -/
theorem C17.sort_unique (ks : List SortKey) (l : List RPost) (h : SWOOn (postLess ks) l)
    (m : List (RPost × Nat)) (hp : m.Perm l.zipIdx) (hm : m.Pairwise (MayPrecede (postLess ks))) :
    m.map (·.1) = sortPosts ks l :=
  sortBy_unique h m hp hm

/-- compare_items is a strict weak order on `l` for every key list over date,
    payee, account and amount (each possibly inverted), provided the amount key
    – if used – meets amounts of one commodity (zeros of any commodity allowed)
    or only non-zero amounts that all carry a commodity (decidable guard
    `amountKeyGuard`). -/
theorem C17.sortValueLess_swo (ks : List SortKey) (l : List RPost) (h : amountKeyGuard ks l = true) :
    SWOOn (postLess ks) l := by
  apply postLess_swo
  intro k hk
  cases hf : k.field with
  | date => exact keyOK_date l
  | payee => exact keyOK_payee l
  | account => exact keyOK_account l
  | amount =>
    simp only [amountKeyGuard, Bool.or_eq_true] at h
    rcases h with (h | h) | h
    · have := List.all_eq_true.mp h k hk
      simp [hf] at this
    · obtain ⟨c, hc⟩ := oneCommodity_of_guard h
      exact keyOK_amount_one hc
    · exact keyOK_amount_mixed (allCommoditised_of_guard h)

/-- Keys that never involve the amount are always a strict weak order. -/
theorem C17.sortValueLess_swo_no_amount (ks : List SortKey) (l : List RPost)
    (h : ∀ k ∈ ks, k.field ≠ .amount) : SWOOn (postLess ks) l :=
  C17.sortValueLess_swo ks l (by
    simp only [amountKeyGuard, Bool.or_eq_true]
    exact Or.inl (Or.inl (List.all_eq_true.mpr (fun k hk => by simpa using h k hk))))

/-- The mixed-commodity amount key: among non-zero amounts that all carry a
    commodity, `<` is the lexicographic order on (commodity symbol, quantity)
    – value.cc falls back to commodity order, and `>` is boost's `b < a`. -/
theorem C17.mixed_amount_key (l : List RPost) (h : AllCommoditised l) (a b : RPost) (ha : a ∈ l) (hb : b ∈ l) :
    fieldLt .amount a b = decide (lexLt (amtC a, amtQ a) (amtC b, amtQ b)) :=
  fieldLt_amount_mixed h a ha b hb

def C17.w (line : Nat) (q : Rat) (comm : String) : RPost :=
  { line := line, xid := 1, date := 18262, payee := "p", account := "A", virt := false,
    amount := .amt { q := q, prec := 2, keep := false, comm := comm },
    value := .amt { q := q, prec := 2, keep := false, comm := comm }, vdate := 18262 }

/-- The property at full strength for `--sort`: for every key list and every
    posting list the output is ordered by the key. -/
def C17.SortOrderedEverywhere : Prop :=
  ∀ (ks : List SortKey) (l : List RPost), (sortPosts ks l).Pairwise (fun a b => postLess ks b a = false)

/-- It fails: whatever arrangement of −10 EUR, $0, $5 a sort
    by amount produces, some posting is followed by one that compares strictly
    less (the three form a cycle).  `C17.sort_sorted` is the partial theorem,
    its guard being `amountKeyGuard` through `C17.sortValueLess_swo`. -/
theorem C17.sort_ordered_everywhere_false : ¬ C17.SortOrderedEverywhere := by
  intro h
  have hs := h [⟨.amount, false⟩] [C17.w 2 (-10) "EUR", C17.w 3 0 "$", C17.w 4 5 "$"]
  have hp := C17.sort_perm [⟨.amount, false⟩] [C17.w 2 (-10) "EUR", C17.w 3 0 "$", C17.w 4 5 "$"]
  have h1 : postLess [⟨.amount, false⟩] (C17.w 2 (-10) "EUR") (C17.w 3 0 "$") = true := by decide +kernel
  have h2 : postLess [⟨.amount, false⟩] (C17.w 3 0 "$") (C17.w 4 5 "$") = true := by decide +kernel
  have h3 : postLess [⟨.amount, false⟩] (C17.w 4 5 "$") (C17.w 2 (-10) "EUR") = true := by decide +kernel
  have hab : C17.w 2 (-10) "EUR" ≠ C17.w 3 0 "$" := by decide +kernel
  have hbc : C17.w 3 0 "$" ≠ C17.w 4 5 "$" := by decide +kernel
  have hac : C17.w 2 (-10) "EUR" ≠ C17.w 4 5 "$" := by decide +kernel
  generalize sortPosts [⟨.amount, false⟩] [C17.w 2 (-10) "EUR", C17.w 3 0 "$", C17.w 4 5 "$"] = out at hs hp
  cases out with
  | nil => exact absurd hp.symm.eq_nil (List.cons_ne_nil _ _)
  | cons x tl =>
    have hx : ∀ y ∈ tl, postLess [⟨.amount, false⟩] y x = false := (List.pairwise_cons.mp hs).1
    have hmem : ∀ y, y ∈ [C17.w 2 (-10) "EUR", C17.w 3 0 "$", C17.w 4 5 "$"] → y = x ∨ y ∈ tl := by
      intro y hy; exact List.mem_cons.mp (hp.symm.subset hy)
    have hxm : x ∈ [C17.w 2 (-10) "EUR", C17.w 3 0 "$", C17.w 4 5 "$"] := hp.subset List.mem_cons_self
    simp only [List.mem_cons, List.not_mem_nil, or_false] at hxm
    rcases hxm with rfl | rfl | rfl
    · rcases hmem (C17.w 4 5 "$") (.tail _ (.tail _ (.head _))) with e | e
      · exact hac e.symm
      · have := hx _ e; rw [h3] at this; cases this
    · rcases hmem (C17.w 2 (-10) "EUR") (.head _) with e | e
      · exact hab e
      · have := hx _ e; rw [h1] at this; cases this
    · rcases hmem (C17.w 3 0 "$") (.tail _ (.head _)) with e | e
      · exact hbc e
      · have := hx _ e; rw [h2] at this; cases this

/-- The full statement one would like: the key comparison is a strict weak
    order on every posting list. -/
def C17.SortKeySWOEverywhere : Prop := ∀ (ks : List SortKey) (l : List RPost), SWOOn (postLess ks) l

/-- It is false, on the same witness: −10 EUR < $0 (numerically, the zero being INTEGER 0 after
    `.simplified()`), $0 < $5, yet $5 < −10 EUR (by commodity symbol), so no arrangement of the
    three is ordered. -/
theorem C17.sort_key_swo_everywhere_false : ¬ C17.SortKeySWOEverywhere :=
  fun h => C17.sort_ordered_everywhere_false (fun ks l => C17.sort_sorted ks l (h ks l))

/-- `--sort-xacts`: the postings are permuted inside their transactions only – the
    transactions (runs of one `xact`) of the output are those of the input, in the
    same order, each sorted by `sort_posts` (so `sort_perm`, `sort_sorted`,
    `sort_stable`, `sort_unique` apply to every transaction by itself). -/
theorem C17.sort_xacts (ks : List SortKey) (l : List RPost) :
    (sortXacts ks l).Perm l ∧
    sortXacts ks l = ((runs pxid l).map (sortPosts ks)).flatten ∧
    runs pxid (sortXacts ks l) = (runs pxid l).map (sortPosts ks) :=
  ⟨sortXacts_perm ks l, by simp [sortXacts, List.flatMap_def], sortXacts_runs ks l⟩

/-- every transaction of the `--sort-xacts` output is ordered by the key and stable,
    when the comparison is a strict weak order on that transaction -/
theorem C17.sort_xacts_sorted (ks : List SortKey) (l : List RPost)
    (h : ∀ g ∈ runs pxid l, SWOOn (postLess ks) g) :
    ∀ g' ∈ runs pxid (sortXacts ks l), g'.Pairwise (fun a b => postLess ks b a = false) := by
  intro g' hg'
  rw [sortXacts_runs] at hg'
  obtain ⟨g, hg, rfl⟩ := List.mem_map.mp hg'
  exact C17.sort_sorted ks g (h g hg)

/-- `runs` is the decomposition into transactions the handlers see: it
    concatenates back to the input, every block is non-empty and of one
    transaction, neighbouring blocks are of different transactions. -/
theorem C17.runs_spec {α : Type} (xid : α → Nat) (l : List α) :
    (runs xid l).flatten = l ∧ GoodRuns xid none (runs xid l) :=
  ⟨runs_flatten xid l, runs_good xid l⟩

/-- In the plain register (any limit predicate) the runs are exactly the
    journal's transactions that have a posting left, in journal order. -/
theorem C17.plain_runs (f : Filter) (j : Journal) (hd : j.xacts.Pairwise (fun a b => a.line ≠ b.line)) :
    runs pxid (plainPosts f j) = (j.xacts.map (xactPosts f)).filter (fun g => !g.isEmpty) :=
  runs_flatMap_blocks j.xacts (xactPosts f) (fun x => x.line) (fun _ _ _ hp => (mem_xactPosts hp).1) hd

/-- For EVERY pair of counts (positive, zero, negative) the truncate_xacts handler
    keeps exactly the transactions whose index `i` (of `len`) passes the window -/
theorem C17.truncate_window {α : Type} (xid : α → Nat) (head tail : Int) (rows : List α) :
    truncate xid head tail rows =
      selRuns (fun i => truncPrint head tail ((runs xid rows).length : Nat) (i : Int)) 0 (runs xid rows) :=
  truncate_eq_selRuns xid head tail rows

/-- … and the window is: the first `head`, or all but the first `-head`, or the last
    `tail`, or all but the last `-tail` (their union when both are given). -/
theorem C17.window_spec (head tail len i : Int) :
    truncPrint head tail len i = true ↔
      (head > 0 ∧ i < head) ∨ (head < 0 ∧ i ≥ -head) ∨ (tail > 0 ∧ len - i ≤ tail) ∨ (tail < 0 ∧ len - i > -tail) :=
  truncPrint_iff head tail len i

/-- `--head N` keeps exactly the first N transactions, for every N ≥ 0
    (N = 0: nothing; N beyond the count: everything). -/
theorem C17.truncate_head {α : Type} (xid : α → Nat) (N : Nat) (rows : List α) :
    truncate xid (N : Int) 0 rows = ((runs xid rows).take N).flatten :=
  truncate_head_eq xid N rows

/-- `--tail N` keeps exactly the last N transactions, for every N ≥ 0. -/
theorem C17.truncate_tail {α : Type} (xid : α → Nat) (N : Nat) (rows : List α) :
    truncate xid 0 (N : Int) rows = ((runs xid rows).drop ((runs xid rows).length - N)).flatten := by
  have h := truncate_head_tail_eq xid 0 N rows
  rwa [List.take_zero, List.nil_append, Nat.zero_max] at h

/-- `--head N --tail M` keeps the first N transactions and the last M (a union, as
    flush computes it: nothing twice, everything when N + M ≥ count). -/
theorem C17.truncate_head_tail {α : Type} (xid : α → Nat) (N M : Nat) (rows : List α) :
    truncate xid (N : Int) (M : Int) rows =
      ((runs xid rows).take N ++ (runs xid rows).drop (max N ((runs xid rows).length - M))).flatten :=
  truncate_head_tail_eq xid N M rows

/-- `--head -K`: all but the first K transactions; `--tail -K`: all but the last K. -/
theorem C17.truncate_negative {α : Type} (xid : α → Nat) (K : Nat) (hK : 0 < K) (rows : List α) :
    truncate xid (-(K : Int)) 0 rows = ((runs xid rows).drop K).flatten ∧
    truncate xid 0 (-(K : Int)) rows = ((runs xid rows).take ((runs xid rows).length - K)).flatten := by
  have hK' : -(K : Int) < 0 := Int.neg_neg_of_pos (Int.natCast_pos.mpr hK)
  constructor
  · rw [truncate_window_eq xid (-(K : Int)) 0 0 K (Nat.zero_le _), List.take_zero, List.nil_append]
    · intro j hj; exact absurd hj (Nat.not_lt_zero j)
    · intro j _ hj; rw [truncPrint_eq_false_iff]; omega
    · intro j hj _
      exact (truncPrint_iff ..).mpr (.inr (.inl ⟨hK', by rw [Int.neg_neg]; exact Int.ofNat_le.mpr hj⟩))
  · rw [truncate_window_eq xid 0 (-(K : Int)) ((runs xid rows).length - K) (runs xid rows).length (Nat.sub_le _ _),
      List.drop_length, List.append_nil]
    · intro j hj
      exact (truncPrint_iff ..).mpr (.inr (.inr (.inr ⟨hK', by omega⟩)))
    · intro j hj hl; rw [truncPrint_eq_false_iff]; omega
    · intro j hj hl; exact absurd hl (Nat.not_lt.mpr hj)

/-- In the report the truncated rows are rows of the register computed before
    (running totals included: the handler sits behind calc_posts). -/
theorem C17.head_tail_report (o : Opts) (posts s : List RPost) (h : regroup o posts = .ok s)
    (ho : o.head.isSome ∨ o.tail.isSome) :
    report o posts = .ok (selRuns
      (fun i => truncPrint (o.head.getD 0) (o.tail.getD 0)
        ((runs (fun r : RPost × Value => r.1.xid) (register (sortStage o s))).length : Nat) (i : Int)) 0
      (runs (fun r : RPost × Value => r.1.xid) (register (sortStage o s)))) := by
  simp only [report, h, Except.map, truncStage, ho, if_true]
  rw [truncate_eq_selRuns]

/-- the amounts of a journal's postings are single quantities, and valued as themselves -/
theorem C17.plain_good (f : Filter) (j : Journal) :
    AllQty (plainPosts f j) ∧ GoodAmts (plainPosts f j) ∧ ∀ p ∈ plainPosts f j, rawAmt p = p.value := by
  have key : ∀ p ∈ plainPosts f j, ∃ a, p.amount = .amt a ∧ p.value = .amt a := by
    intro p hp
    obtain ⟨x, _, hx⟩ := List.mem_flatMap.mp hp
    exact (mem_xactPosts hx).2
  refine ⟨fun p hp => ?_, fun p hp => ?_, fun p hp => ?_⟩
  · obtain ⟨a, _, h2⟩ := key p hp; simp [h2, isQty]
  · obtain ⟨a, h1, _⟩ := key p hp; exact ⟨.amt a, subAmt_amt h1, rfl⟩
  · obtain ⟨a, h1, h2⟩ := key p hp; simp [rawAmt, subAmt_amt h1, h2]

/-- calc_posts: the running total on row `k` is the per-commodity sum of the
    values of rows `0..k`; on the last row it is the grand total. -/
theorem C17.running_total (rows : List RPost) (hq : AllQty rows) (c : Comm) (k : Nat) (r : RPost × Value)
    (hr : (register rows)[k]? = some r) : r.2.den c = sumDen (rows.take (k + 1)) c :=
  (runTotals_den .void rfl rows hq c k r hr).trans (Rat.zero_add _)

/-- `--subtotal`: one row per account, each the exact sum of that account's
    `post.amount`s (`rawAmt`), whatever the valuation. -/
theorem C17.subtotal_sums (posts rows : List RPost) (hq : GoodAmts posts) (h : subtotal posts = .ok rows) :
    GroupSums rawAmt (fun r => r.value) (fun p => p.account) (fun r => r.account) posts rows :=
  (subtotal_groups posts rows hq h).1

/-- `--by-payee`: one row per (payee, account). -/
theorem C17.by_payee_sums (posts rows : List RPost) (hq : GoodAmts posts) (h : byPayee posts = .ok rows) :
    GroupSums rawAmt (fun r => r.value) (fun p => (p.payee, p.account)) (fun r => (r.payee, r.account)) posts rows :=
  byPayee_groups posts rows hq h

/-- `--dow`: one row per (day of the week, account). -/
theorem C17.dow_sums (posts rows : List RPost) (hq : GoodAmts posts) (h : dow posts = .ok rows) :
    GroupSums rawAmt (fun r => r.value) (fun p => (Cal.weekday p.date, p.account)) (fun r => (Cal.weekday r.date, r.account))
      posts rows :=
  dow_groups posts rows hq h

/-- `--collapse`: transaction by transaction; a transaction with a single
    posting is passed through, any other becomes one `<Total>` row holding the
    exact sum of the values (amount expression) of its postings; the grand total is preserved. -/
theorem C17.collapse_sums (posts : List RPost) (hq : AllQty posts) :
    collapse 0 true id posts = ((runs pxid posts).map (collapseGroup 0 true id)).flatten ∧
    (∀ g ∈ runs pxid posts,
      (collapseGroup 0 true id g = g ∧ g.length = 1) ∨
      (GroupSums (fun p => p.value) (fun r => r.value) (fun _ => "<Total>") (fun r => r.account) g (collapseGroup 0 true id g))) ∧
    (∀ c, sumDen (collapse 0 true id posts) c = sumDen posts c) := by
  refine ⟨collapse_eq_runs 0 true id posts, ?_, fun c => (collapse_total 0 true id (fun _ => List.Perm.refl _) posts hq c).1⟩
  intro g hg
  have hq' : AllQty g := fun p hp => hq p (runs_mem_subset posts g hg p hp)
  rcases collapseGroup_groups 0 true id (fun _ => List.Perm.refl _) g hq' (runs_mem_nonempty posts g hg) with
    ⟨_, _, h1, h2⟩ | h
  · exact Or.inl ⟨h2, h1⟩
  · exact Or.inr h

/-- `--depth N` (N ≥ 1): every transaction becomes one row per ancestor account
    at depth ≤ N, each the exact sum of the values of the postings below it,
    whatever order `σ` the totals map is enumerated in; the grand total is preserved. -/
theorem C17.depth_sums (n : Nat) (hn : n ≠ 0) (σ : AMap Value → AMap Value) (hσ : ∀ m, (σ m).Perm m)
    (posts : List RPost) (hq : AllQty posts) :
    collapse n false σ posts = ((runs pxid posts).map (collapseGroup n false σ)).flatten ∧
    (∀ g ∈ runs pxid posts,
      GroupSums (fun p => p.value) (fun r => r.value) (fun p => depthAccount n p.account) (fun r => r.account) g
        (collapseGroup n false σ g)) ∧
    (∀ c, sumDen (collapse n false σ posts) c = sumDen posts c) := by
  refine ⟨collapse_eq_runs n false σ posts, ?_, fun c => (collapse_total n false σ hσ posts hq c).1⟩
  intro g hg
  have hq' : AllQty g := fun p hp => hq p (runs_mem_subset posts g hg p hp)
  have hk : totalsKey n = fun p => depthAccount n p.account := by
    funext p; simp [totalsKey, hn]
  rcases collapseGroup_groups n false σ hσ g hq' (runs_mem_nonempty posts g hg) with ⟨_, h, _⟩ | h
  · cases h
  · rw [← hk]; exact h

/-- Under `--depth N` the rows of one transaction come in strictly ascending account
    name order – the order of the totals map, whose comparator (read from the
    source, `C17.totals_order`) is `<` on `fullname()`. -/
theorem C17.collapse_depth_rows_sorted (n : Nat) (posts : List RPost) :
    ∀ g ∈ runs pxid posts,
      ((collapseGroup n false id g).map (fun r => r.account)).Pairwise
        (fun a b => Gen.Regroup.totalsOrder = .lt ∧ a < b) := by
  intro g _
  exact (collapseGroup_rows_sorted n g).imp (fun h => ⟨rfl, h⟩)

/-! ### two regrouping options together (chain.cc order: dow | by-payee → subtotal → collapse) -/

/-- subtotal_posts takes the compound value of a posting handed down by another
    subtotalling handler (the source as extracted; before fix 08839e9 it did not). -/
theorem C17.subtotal_reads_compound : Gen.Regroup.subtotalReadsCompound = true := rfl

/-- `--by-payee --subtotal`: the outcome is the `--subtotal` regrouping of the original
    postings – every account's row is the exact sum of its postings, no guard needed. -/
theorem C17.by_payee_then_subtotal (posts r1 r2 : List RPost) (hq : GoodAmts posts) (h1 : byPayee posts = .ok r1)
    (h2 : subtotal r1 = .ok r2) :
    GroupSums rawAmt (fun r => r.value) (fun p => p.account) (fun r => r.account) posts r2 :=
  stage_then_subtotal Prod.snd posts r1 r2 (byPayee_groups posts r1 hq h1) (fun _ _ => rfl)
    (byPayee_same posts r1 hq h1) (noCompound_of_flag C17.subtotal_reads_compound r1) h2

/-- `--dow --subtotal`: likewise. -/
theorem C17.dow_then_subtotal (posts r1 r2 : List RPost) (hq : GoodAmts posts) (h1 : dow posts = .ok r1)
    (h2 : subtotal r1 = .ok r2) :
    GroupSums rawAmt (fun r => r.value) (fun p => p.account) (fun r => r.account) posts r2 :=
  stage_then_subtotal Prod.snd posts r1 r2 (dow_groups posts r1 hq h1) (fun _ _ => rfl)
    (dow_same posts r1 hq h1) (noCompound_of_flag C17.subtotal_reads_compound r1) h2

/-- two postings of one payee to one account in two commodities -/
def C17.w2 : List RPost :=
  [{ C17.w 2 1 "$" with payee := "p", account := "A" }, { C17.w 3 1 "EUR" with payee := "p", account := "A" }]

def C17.okOr (e : Except RErr (List RPost)) : List RPost :=
  match e with
  | .ok r => r
  | .error _ => []

/-- Why the flag matters (the witness of the defect fixed by 08839e9): `--by-payee` hands
    `A  $1, 1 EUR` over as ONE compound row worth $1; read as `post.amount` only
    (`subAmtWith false`) it is a null amount, i.e. contributes nothing to `--subtotal`. -/
theorem C17.compound_row_lost_without_flag :
    (C17.okOr (byPayee C17.w2)).map (fun r => (r.account, decide (r.value.den "$" = 1), (subAmtWith false r).isNone,
      subAmtWith true r == some r.amount)) = [("A", true, true, true)] := by decide +kernel

/-- … and with it the stacked report of the witness is right: A = $1 + 1 EUR. -/
theorem C17.compound_row_kept_with_flag :
    (C17.okOr (subtotal (C17.okOr (byPayee C17.w2)))).map
      (fun r => (r.account, decide (r.value.den "$" = 1), decide (r.value.den "EUR" = 1))) = [("A", true, true)] := by
  decide +kernel

/-- `--subtotal --collapse` / `--subtotal --depth N`: the subtotal rows form one transaction, so
    the outcome is the original postings regrouped by ancestor account at depth N (one `<Total>`
    for N = 0), unless `--collapse` passes a lone row through. -/
theorem C17.subtotal_then_collapse (depth : Nat) (pass : Bool) (posts r1 : List RPost) (hq : GoodAmts posts)
    (h1 : subtotal posts = .ok r1) :
    (depth = 0 ∧ pass = true ∧ r1.length = 1 ∧ collapse depth pass id r1 = r1) ∨
    GroupSums rawAmt (fun r => r.value) (fun p => totalsKeyOf depth p.account) (fun r => r.account) posts
      (collapse depth pass id r1) := by
  obtain ⟨G1, hx⟩ := subtotal_groups posts r1 hq h1
  cases hr : r1 with
  | nil =>
    right
    subst hr
    obtain rfl := G1.posts_eq_nil
    exact groupSums_nil _ _ _ _
  | cons a g =>
    have hruns : runs pxid (a :: g) = [a :: g] := by
      apply runs_const
      intro q hq'
      show q.xid = a.xid
      rw [(hx q (by rw [hr]; simp [hq'])).1, (hx a (by rw [hr]; simp)).1]
    have hcol : collapse depth pass id (a :: g) = collapseGroup depth pass id (a :: g) := by
      rw [collapse_eq_runs, hruns]; simp
    have hq1 : AllQty (a :: g) := by rw [← hr]; exact G1.qty
    rw [hcol]
    rcases collapseGroup_groups depth pass id (fun _ => List.Perm.refl _) (a :: g) hq1 (List.cons_ne_nil _ _) with
      ⟨h0, hp, hl, he⟩ | G2
    · exact Or.inl ⟨h0, hp, hl, he⟩
    · right
      rw [hr] at G1
      exact G1.comp G2 (totalsKeyOf depth) (fun r _ => totalsKey_eq_totalsKeyOf depth r)

/-- `--by-payee --depth N` (N ≥ 1): one row per (payee, ancestor account at depth N) -/
theorem C17.by_payee_then_depth (n : Nat) (hn : n ≠ 0) (posts r1 : List RPost) (hq : GoodAmts posts)
    (h1 : byPayee posts = .ok r1) :
    GroupSums rawAmt (fun r => r.value) (fun p => (p.payee, depthAccount n p.account)) (fun r => (r.payee, r.account))
      posts (collapse n false id r1) := by
  obtain ⟨m, hm, rfl⟩ := byPayee_eq posts r1 h1
  obtain ⟨hnd, hk, _⟩ := byPayeeAll_spec posts [] m (by simp [amapKeys]) hm
  apply blocks_depth_groups n hn posts (amapKeys m) hnd (payeeRowsOf posts m)
    (fun k => (amapKeys m).idxOf k + 1) (fun p => p.payee) (fun r => r.payee)
  · intro k _; exact (payeeRowsOf_groups posts hq m hm k).1
  · intro k _ r hr; exact ((payeeRowsOf_groups posts hq m hm k).2 r hr).xid
  -- `idxOf` is injective on the members of a list
  · have hnd' : (amapKeys m).Pairwise (· ≠ ·) := hnd
    apply hnd'.imp_of_mem
    intro a b ha hb hne he
    apply hne
    have e : (amapKeys m).idxOf a = (amapKeys m).idxOf b := Nat.succ.inj he
    rw [← List.getElem_idxOf (List.idxOf_lt_length_of_mem ha), ← List.getElem_idxOf (List.idxOf_lt_length_of_mem hb)]
    simp only [e]
  · intro k g hg r hr
    obtain ⟨lastp, hl, _, hpay, _⟩ := collapseGroup_row (fun h => hn h.1) hr
    show r.payee = k
    rw [hpay]; exact hg lastp (List.mem_of_getLast? hl)
  · intro p hp
    exact (hk p.payee).mpr (Or.inr ⟨p, hp, rfl⟩)

/-- `--dow --depth N` (N ≥ 1): one row per (day of the week, ancestor account at depth N) -/
theorem C17.dow_then_depth (n : Nat) (hn : n ≠ 0) (posts r1 : List RPost) (hq : GoodAmts posts)
    (h1 : dow posts = .ok r1) :
    GroupSums rawAmt (fun r => r.value) (fun p => (Cal.weekday p.date, depthAccount n p.account))
      (fun r => (Cal.weekday r.date, r.account)) posts (collapse n false id r1) := by
  obtain ⟨he, hst⟩ := dowDays_eq posts _ r1 h1
  subst he
  apply blocks_depth_groups n hn posts [0, 1, 2, 3, 4, 5, 6] (by decide +kernel) (dowRowsOf posts)
    (fun i : Int => i.toNat + 1) (fun p => Cal.weekday p.date) (fun r => Cal.weekday r.date)
  · intro j hj; exact (dowRowsOf_groups posts hq j (hst j hj)).1
  · intro j hj r hr; exact ((dowRowsOf_groups posts hq j (hst j hj)).2 r hr).xid
  · decide +kernel
  · -- the rows of a transaction carry its earliest date, which is one of the dates collapsed
    intro j g hg r hr
    obtain ⟨lastp, hl, _, _, hdate⟩ := collapseGroup_row (fun h => hn h.1) hr
    obtain ⟨q, hq', hqd⟩ := minDate_mem g (List.ne_nil_of_mem (List.mem_of_getLast? hl))
    show Cal.weekday r.date = j
    rw [hdate, ← hqd]; exact hg q hq'
  · intro p _; exact weekday_mem p.date

/-- The grand total through ANY stack of regrouping stages (--dow | --by-payee, --subtotal,
    --collapse / --depth N): the per-commodity sum of the rows is that of the postings, given that
    the first subtotal-family stage sees amounts valued as themselves (`hfirst`: no valuation
    such as -B, which subtotal_posts ignores – `C17.subtotal_valued_everywhere_false`). -/
theorem C17.regroup_total (o : Opts) (posts rows : List RPost) (h : regroup o posts = .ok rows)
    (hq : AllQty posts)
    (hfirst : (o.pre ≠ .none ∨ o.subtotal = true) → GoodAmts posts ∧ ∀ p ∈ posts, rawAmt p = p.value)
    (c : Comm) : sumDen rows c = sumDen posts c :=
  (regroup_sumDen o posts rows h hq hfirst
    (fun _ _ s1 _ => noCompound_of_flag C17.subtotal_reads_compound s1) c).1

/-- … and the running total printed on the last row of the report is that grand total
    (sorting included; truncation only drops rows). -/
theorem C17.grand_total (o : Opts) (posts s : List RPost) (h : regroup o posts = .ok s)
    (hq : AllQty posts)
    (hfirst : (o.pre ≠ .none ∨ o.subtotal = true) → GoodAmts posts ∧ ∀ p ∈ posts, rawAmt p = p.value)
    (c : Comm) (r : RPost × Value) (hl : (register (sortStage o s)).getLast? = some r) :
    r.2.den c = sumDen posts c := by
  obtain ⟨htot, hqs⟩ := regroup_sumDen o posts s h hq hfirst
    (fun _ _ s1 _ => noCompound_of_flag C17.subtotal_reads_compound s1) c
  have hperm : (sortStage o s).Perm s := by
    unfold sortStage
    split
    · exact List.Perm.refl _
    · exact sortBy_perm _ _
    · exact sortXacts_perm _ _
  have hq2 : AllQty (sortStage o s) := fun p hp => hqs p (hperm.subset hp)
  have hlen : (register (sortStage o s)).length = (sortStage o s).length := by
    have := congrArg List.length (runTotals_fst .void (sortStage o s))
    simpa [register] using this
  rw [List.getLast?_eq_getElem?] at hl
  have := C17.running_total (sortStage o s) hq2 c _ r hl
  rw [this, hlen, ← htot]
  have e : (sortStage o s).take ((sortStage o s).length - 1 + 1) = sortStage o s := by
    apply List.take_of_length_le; exact Nat.le_succ_of_pred_le (Nat.le_refl _)
  rw [e]
  exact wsum_perm _ hperm

/-- The valuation: one would like `--subtotal` rows to be the sums of the register's
    values (what the plain register shows as amounts, e.g. costs under -B). -/
def C17.SubtotalValuedEverywhere : Prop :=
  ∀ (posts rows : List RPost), GoodAmts posts → AllQty posts → subtotal posts = .ok rows →
    ∀ c, sumDen rows c = sumDen posts c

/-- a lot of 10 AAA valued at its cost $20 -/
def C17.w3 : List RPost :=
  [{ C17.w 2 10 "AAA" with value := .amt { q := 20, prec := 2, keep := false, comm := "$" } }]

/-- It is false: subtotal_posts adds up `post.amount` (filters.cc 902), not the amount
    expression.  `C17.subtotal_sums` is the theorem that holds (sums of `rawAmt`); they
    coincide when the valuation is the identity (`hfirst` of `C17.regroup_total`). -/
theorem C17.subtotal_valued_everywhere_false : ¬ C17.SubtotalValuedEverywhere := by
  intro h
  have hg : GoodAmts C17.w3 := by
    intro p hp
    simp only [C17.w3, List.mem_cons, List.not_mem_nil, or_false] at hp
    subst hp; exact ⟨_, rfl, rfl⟩
  have hq : AllQty C17.w3 := by
    intro p hp
    simp only [C17.w3, List.mem_cons, List.not_mem_nil, or_false] at hp
    subst hp; rfl
  have h1 : subtotal C17.w3 = .ok (C17.okOr (subtotal C17.w3)) := by decide +kernel
  have := h _ _ hg hq h1 "$"
  have hne : ¬ (sumDen (C17.okOr (subtotal C17.w3)) "$" = sumDen C17.w3 "$") := by decide +kernel
  exact hne this

example : amountKeyGuard [⟨.date, false⟩, ⟨.amount, true⟩] sample = true := by decide +kernel
example : SWOOn (postLess [⟨.date, false⟩, ⟨.amount, true⟩]) sample :=
  C17.sortValueLess_swo _ _ (by decide +kernel)
example : (sortPosts [⟨.date, false⟩, ⟨.amount, true⟩] sample).Pairwise
    (fun a b => postLess [⟨.date, false⟩, ⟨.amount, true⟩] b a = false) :=
  C17.sort_sorted _ _ (C17.sortValueLess_swo _ _ (by decide +kernel))
example : AllCommoditised sample := allCommoditised_of_guard (by decide +kernel)
example : (runs pxid sample).map List.length = [2, 4, 2] := by decide +kernel
example : (truncate pxid 2 0 sample).map (·.line) = [2, 3, 6, 7, 8, 9] := by decide +kernel
example : (truncate pxid 0 1 sample).map (·.line) = [12, 13] := by decide +kernel
example : (truncate pxid 1 1 sample).map (·.line) = [2, 3, 12, 13] := by decide +kernel
example : (truncate pxid (-1) 0 sample).map (·.line) = [6, 7, 8, 9, 12, 13] := by decide +kernel
example : (truncate pxid 0 (-2) sample).map (·.line) = [2, 3] := by decide +kernel
example : ((subtotal sample).toOption.map (fun rows => rows.map (·.account))) =
    some ["Assets:Bank:Checking", "Assets:Cash", "Expenses:Food", "Expenses:Rent"] := by decide +kernel
example : ((byPayee sample).toOption.map List.length) = some 6 := by decide +kernel
example : ((dow sample).toOption.map List.length) = some 6 := by decide +kernel
example : (collapse 0 true id sample).map (·.account) = ["<Total>", "<Total>", "<Total>"] := by decide +kernel
example : ∀ c, sumDen (collapse 1 false id sample) c = sumDen sample c :=
  (C17.depth_sums 1 (by decide) id (fun _ => List.Perm.refl _) sample sample_allQty).2.2
example : ((subtotal (C17.okOr (byPayee sample))).toOption.map List.length) = some 4 := by decide +kernel

end Ledger
