/-
C18 — machine-readable outputs are well-formed and faithful.

"CSV/XML/emacs outputs are well-formed and round-trip the field values": for
every string a journal can put in a payee, account, code, note or commodity,
the text ledger writes for it is read back, by the conventional reader of the
format, as exactly that string — and the surrounding document structure
(record/field boundaries, markup, parentheses) is not disturbed by it.

The statements are about the escaping functions as they are in the working
tree: `csvQuote`, `csvQuoteRfc`, `emacsEscape`, `xmlEscape` are defined from
`Gen.quotedPairs`, `Gen.quotedRfcPairs`, `Gen.emacsEscapePairs`,
`Gen.xmlEntityPairs` (tools/extract_emit.py), so `lake build` re-proves
every statement against the current source.  All for arbitrary strings / documents, by
induction; no bound.

Known violation on the pinned tree: `quoted()` (report.cc fn_quoted) escapes the
quote as `\"` but leaves the backslash alone.  `C18.csv_roundtrip` is the full
statement; it is conditional on the flag `csvFaithful` that is computed from the
extracted source text (false on the pinned tree), `C18.csv_roundtrip_false`
proves the negation of the full statement under the complementary flag on the
witness payee `a\`, and `C18.csv_roundtrip_partial` is the part that holds
regardless (backslash-free fields).
-/
import LedgerModel.Lemmas.Emit
import LedgerModel.Gen.EmitFns
import LedgerModel.Model.EmitFnsPinned

namespace Ledger
open Emit

/-- The bodies of fn_quoted / fn_quoted_rfc, of the emacs emitter (write_xact,
    operator(), escape_string, flush) and of the XML put_* emitters found in the
    working tree are the ones this model was written against. -/
theorem C18.emit_fns_pinned : Gen.emitFns = Pinned.emitFns := rfl

/-- report.h's default `--csv-format` is exactly: the extracted columns, each
    wrapped in the one quoting function, joined by commas, ended by a newline —
    i.e. the shape `csvRowWith` models. -/
theorem C18.csv_format_shape :
    Gen.csvFormat = csvFormatOf Gen.csvQuoter Gen.csvColumns ∧
    (Gen.csvQuoter = "quoted" ∨ Gen.csvQuoter = "quoted_rfc") := by decide +kernel

/-- emacs.cc streams every string-valued field through `escape_string`, and the
    only operands it streams raw are line numbers and the two halves of the
    date (pinned copy of the extracted operand lists: dropping an
    `escape_string` call changes `Gen.emacsEscapedFields`/`emacsRawStreams`). -/
theorem C18.emacs_fields_pinned :
    Gen.emacsEscapedFields = ["xact.pos->pathname.string()", "*xact.code", "xact.payee",
      "post.reported_account()->fullname()", "post.amount", "*post.cost", "*post.note"] ∧
    Gen.emacsRawStreams = ["xact.pos->beg_line", "-1", "(date/65536)", "(date%65536)",
      "post.pos->beg_line", "-1"] ∧
    Gen.xmlWriter = "boost::property_tree::write_xml" := ⟨rfl, rfl, rfl⟩

/-- RFC 4180 (`quoted_rfc`): any document — any number of records, any fields,
    including quotes, commas, newlines and backslashes — is read back exactly
    by the quote-doubling reader. -/
theorem C18.csv_rfc_roundtrip (rows : List (List Str)) (hne : ∀ row ∈ rows, row ≠ []) :
    csvReadRfc (csvDocRfc rows) = some rows := by
  unfold csvReadRfc csvDocRfc
  rw [csvQuoteRfc_eq_wrapQ]
  exact csvGo_doc .rfc _ rows hne
    (fun _ _ s _ => readsBack_rfc _ escChar_quotedRfc_quote escChar_quotedRfc_other s)

/-- one record, as a corollary -/
theorem C18.csv_rfc_row_roundtrip (fields : List Str) (hne : fields ≠ []) :
    csvReadRfc (csvRowRfc fields) = some [fields] := by
  have := C18.csv_rfc_roundtrip [fields] (by simpa using hne)
  simpa [csvDocRfc, csvDocWith, csvRowRfc] using this

/-- FULL STATEMENT for the shipped `csv` report: every document is read back
    exactly by the dialect its quoting function belongs to.  Holds whenever the
    source makes `csvFaithful` true (the format uses `quoted_rfc`, or `quoted`
    also escapes the backslash); on the pinned tree the flag is false and
    `C18.csv_roundtrip_false` applies instead. -/
theorem C18.csv_roundtrip (h : csvFaithful = true)
    (rows : List (List Str)) (hne : ∀ row ∈ rows, row ≠ []) :
    ledgerCsvRead (ledgerCsvDoc rows) = some rows :=
  ledgerCsv_reads rows hne fun hs _ _ s _ =>
    have hb : quotedEscapesBackslash = true := by simpa [csvFaithful, hs] using h
    readsBack_backslash _ escChar_quoted_quote escChar_quoted_other s fun _ => escChar_quoted_backslash hb

/-- the witnesses: a payee ending in a backslash, and one holding `\"` -/
def C18.witness1 : List (List Str) := [[['a', '\\']]]
def C18.witness2 : List (List Str) := [[['a', '\\', '"', 'b']]]

/-- NEGATION of the full statement on the pinned tree (`csvFaithful = false`):
    the record ledger writes for the single field `a\` is `"a\"` + newline, which
    no dialect reads back — the backslash reader takes `\"` for an escaped quote
    and runs off the end, the RFC reader does read `a\` here but fails on `a\"b`
    (written `"a\\"b"`), so neither conventional dialect recovers both. -/
theorem C18.csv_roundtrip_false (h : csvFaithful = false) :
    ¬ (∀ rows : List (List Str), (∀ row ∈ rows, row ≠ []) → ledgerCsvRead (ledgerCsvDoc rows) = some rows) ∧
    csvReadBackslash (ledgerCsvDoc C18.witness1) ≠ some C18.witness1 ∧
    csvReadBackslash (ledgerCsvDoc C18.witness2) ≠ some C18.witness2 ∧
    csvReadRfc (ledgerCsvDoc C18.witness2) ≠ some C18.witness2 := by
  have eval : csvFaithful = false →
      ledgerCsvRead (ledgerCsvDoc C18.witness1) ≠ some C18.witness1 ∧
      csvReadBackslash (ledgerCsvDoc C18.witness1) ≠ some C18.witness1 ∧
      csvReadBackslash (ledgerCsvDoc C18.witness2) ≠ some C18.witness2 ∧
      csvReadRfc (ledgerCsvDoc C18.witness2) ≠ some C18.witness2 := by decide +kernel
  obtain ⟨h1, rest⟩ := eval h
  exact ⟨fun H => h1 (H C18.witness1 (by decide +kernel)), rest⟩

/-- What holds for the source as it is now, with no hypothesis: either the flag
    is true and every document round-trips, or it is false and not every
    document does (`#eval Emit.csvFaithful` / driver op `emit.info` say which;
    false on the pinned tree). -/
theorem C18.csv_verdict :
    (csvFaithful = true ∧
      ∀ rows : List (List Str), (∀ row ∈ rows, row ≠ []) → ledgerCsvRead (ledgerCsvDoc rows) = some rows) ∨
    (csvFaithful = false ∧
      ¬ ∀ rows : List (List Str), (∀ row ∈ rows, row ≠ []) → ledgerCsvRead (ledgerCsvDoc rows) = some rows) := by
  cases h : csvFaithful
  · exact Or.inr ⟨rfl, (C18.csv_roundtrip_false h).1⟩
  · exact Or.inl ⟨rfl, C18.csv_roundtrip h⟩

/-- PARTIAL: whatever the flag, documents whose fields hold no backslash are read
    back exactly (guard: `noBackslash`, decidable). -/
theorem C18.csv_roundtrip_partial
    (rows : List (List Str)) (hne : ∀ row ∈ rows, row ≠ [])
    (hbs : ∀ row ∈ rows, ∀ f ∈ row, noBackslash f = true) :
    ledgerCsvRead (ledgerCsvDoc rows) = some rows :=
  ledgerCsv_reads rows hne fun _ row hr s hsr =>
    readsBack_backslash _ escChar_quoted_quote escChar_quoted_other s fun hm => absurd hm (not_mem_of_noBackslash (hbs row hr s hsr))

/-- `join()` (the note column of the csv report): the result holds no newline —
    a record stays on one line —, a text without newlines is copied unchanged
    (every character of every script), and for a text without backslashes the
    reader that turns `\\n` back into a newline recovers it exactly. -/
theorem C18.join_faithful (s : Str) :
    '\n' ∉ joinLines s ∧
    ((∀ c ∈ s, c ≠ '\n') → joinLines s = s) ∧
    (noBackslash s = true → unjoinLines false (joinLines s) = s) := by
  refine ⟨fun h => ?_, fun h => escape_eq_self fun c hc => escChar_join_other c (h c hc), fun h => ?_⟩
  · obtain ⟨c, _, hx⟩ := mem_escape h
    by_cases hc : c = '\n'
    · rw [hc, escChar_join_newline] at hx; revert hx; decide +kernel
    · rw [escChar_join_other c hc, List.mem_singleton] at hx; exact hc hx.symm
  · have := escape_foldr Gen.joinPairs (unjoinLines false) (fun c r => c :: r) s [] fun c hc t => by
      by_cases hn : c = '\n'
      · rw [hn, escChar_join_newline]; simp [unjoinLines]
      · have hb : c ≠ '\\' := fun e => not_mem_of_noBackslash h (e ▸ hc)
        rw [escChar_join_other c hn]; simp [unjoinLines, hb]
    rw [List.append_nil] at this
    rw [joinLines, this]
    simp [unjoinLines]

/-- the note column of the shipped format is the only one that goes through `join()` -/
theorem C18.csv_join_columns :
    columnJoins = [false, false, false, false, false, false, false, true] := by decide +kernel

/-- The text the XML writer produces for any string is read back as that
    string by a reader of XML character data (so every `&` in it starts a
    complete, known reference and there is no bare `<`), and it contains none of
    `<`, `>`, `"`, `'`: it is well-formed as element content and inside an
    attribute value alike. -/
theorem C18.xml_escape_roundtrip (s : Str) :
    xmlUnescape (xmlEscape s) = some s ∧
    ∀ x ∈ xmlEscape s, x ≠ '<' ∧ x ≠ '>' ∧ x ≠ '"' ∧ x ≠ '\'' := by
  cases s with
  | nil => exact ⟨rfl, fun _ hx => (List.not_mem_nil hx).elim⟩
  | cons c t =>
    by_cases hb : allBlank (c :: t) = true
    · have hc : c = ' ' ∧ allBlank t = true := by
        simpa only [allBlank, List.all_cons, Bool.and_eq_true, beq_iff_eq] using hb
      refine ⟨?_, ?_⟩
      · simp only [xmlEscape, hb, ite_true, xmlUnescape]
        rw [xmlBlankRef_reads, xmlGo_blanks t hc.2, hc.1]; rfl
      · intro x hx
        simp only [xmlEscape, hb, ite_true, List.mem_append] at hx
        rcases hx with hx | hx
        · have ref : ∀ x ∈ Gen.xmlBlankRef, x ≠ '<' ∧ x ≠ '>' ∧ x ≠ '"' ∧ x ≠ '\'' := by decide +kernel
          exact ref x hx
        · obtain rfl : x = ' ' := eq_of_beq (List.all_eq_true.mp hc.2 x hx)
          decide +kernel
    · refine ⟨?_, ?_⟩
      · simp only [xmlEscape, hb, xmlUnescape]
        have := xmlGo_escape (c :: t) []
        simpa [xmlGo] using this
      · intro x hx
        simp only [xmlEscape, hb] at hx
        obtain ⟨c', _, hx'⟩ := mem_escape hx
        exact xml_escChar_clean c' x hx'

/-- A string literal written by emacs.cc is read back, by a Lisp reader, as the
    original string, and the reader stops exactly at the closing quote —
    whatever the string holds (quotes, backslashes, parentheses, newlines). -/
theorem C18.emacs_escape_roundtrip (s t : Str) :
    sexpReadString (emacsStr s ++ t) = some (s, t) := by
  simp [emacsStr, sexpReadString, sexpStrBody_emacs]

/-- Parentheses and quotes inside a written string never count: scanning the
    literal from code state returns to code state at the same depth. -/
theorem C18.emacs_balanced (d : Nat) (s t : Str) :
    sexpScan d .code (emacsStr s ++ t) = sexpScan d .code t :=
  neutral_emacsStr s d t

/-- The whole `emacs` report, for any list of transactions with any postings
    and any field contents, is a balanced s-expression (depth 0 at the end, never
    negative, not ending inside a string). -/
theorem C18.emacs_doc_balanced (xs : List EXact) :
    sexpScan 0 .code (emacsDoc xs) = some 0 := by
  cases xs with
  | nil => rfl
  | cons x xs =>
    have h1 : emacsDoc (x :: xs) = '(' :: '(' :: (emacsXact x ++ (emacsMore xs ++ [')', ')', '\n'])) := by
      simp [emacsDoc]
    have h2 : ∀ r, sexpScan 0 .code ('(' :: '(' :: r) = sexpScan 2 .code r := fun r => by
      rw [sexpScan_code_open, sexpScan_code_open]
    rw [h1, h2, neutral_xact x, sexpScan_emacsMore 1 xs]
    decide +kernel

/-! ### non-vacuity -/

example : csvRow ["a\"b".toList, "x,y".toList] = "\"a\\\"b\",\"x,y\"\n".toList := by decide +kernel
example : csvReadRfc (csvDocRfc [["a\\".toList, "q\"\n,".toList], ["".toList]])
    = some [["a\\".toList, "q\"\n,".toList], ["".toList]] := by decide +kernel
example : csvReadBackslash (csvDoc [["say \"hi\", ok".toList]]) = some [["say \"hi\", ok".toList]] := by decide +kernel
example : ledgerCsvRecord ["2020/01/02".toList, [], "p".toList, "A".toList, "EUR".toList, "5".toList, [], " crème\n brûlée".toList]
    = (ledgerCsvRow ["2020/01/02".toList, [], "p".toList, "A".toList, "EUR".toList, "5".toList, [], " crème\\n brûlée".toList]) := by decide +kernel
example : xmlEscape "a<b & \"c\"".toList = "a&lt;b &amp; &quot;c&quot;".toList := by decide +kernel
example : xmlEscape "  ".toList = "&#32; ".toList := by decide +kernel
example : emacsStr "a\\\"(b".toList = "\"a\\\\\\\"(b\"".toList := by decide +kernel
example : sexpScan 0 .code (emacsDoc [⟨"f".toList, 1, 24077, 12928, none, ")(\"".toList,
    [⟨2, "A:(b".toList, "$1".toList, .cleared, none, some "n)".toList⟩]⟩]) = some 0 := by decide +kernel

end Ledger
