/-
C07 — filters select exactly the matching postings and never alter them.

Model: Model/Query.lean (predicate trees, `evalPred`, `filterPosts`, printing,
the report.h option templates) and Model/QueryParse.lean (query.cc lexer and
parser over an argument list, query trees and their canonical rendering).
boost::regex is the parameter `m : Matcher`; the value-expression parser that
`expr TEXT` hands its text to is the parameter `exprOf`.  Every theorem is for
all matchers, all predicates / query trees and all posting lists.

An evaluation error (value.cc "Cannot compare …") aborts a report at the
posting where it occurs; `filterPosts` returns the rows already passed on and
the error.  `filter_partition` and `error_aborts_both` state that case
explicitly; the multiset laws for `&`/`|` are stated where evaluation succeeds
(`NoErr`), which `welltyped_total` shows is the whole fragment of well-typed
comparisons.

Tie to the source: the `*_pinned` theorems (tables and function bodies
re-extracted from query.cc, report.h, report.cc, chain.cc, filters.h, op.cc,
item.cc, post.cc on every run), `begin_end_split` stated over the generated
templates, and the differential check tools/props/c07.py.
-/
import LedgerModel.Lemmas.Query
import LedgerModel.Lemmas.QueryParse
import LedgerModel.Model.QueryKeywordsPinned
import LedgerModel.Model.BeginEndPinned
import LedgerModel.Model.QueryFnsPinned
import LedgerModel.Gen.QueryFns

namespace Ledger
open Query

/-- query.cc lexer tables (single-character tokens, `=` rule, quotes, identifier
    stops, keyword chain, `expr` consuming the next argument). -/
theorem C07.lexer_tables_pinned :
    (Gen.queryQuoteChars, Gen.queryWhitespace, Gen.queryIdentWhitespace, Gen.queryCharTokens,
     Gen.queryEqTokens, Gen.queryIdentStops, Gen.queryKeywords, Gen.queryNextArgKeywords) =
    (Pinned.queryQuoteChars, Pinned.queryWhitespace, Pinned.queryIdentWhitespace, Pinned.queryCharTokens,
     Pinned.queryEqTokens, Pinned.queryIdentStops, Pinned.queryKeywords, Pinned.queryNextArgKeywords) := rfl

/-- query.cc parser shape: `or` loops over `and` loops over unary over term,
    juxtaposition builds O_OR, context identifiers, section keywords. -/
theorem C07.grammar_pinned :
    (Gen.queryLadder, Gen.queryJuxtaposition, Gen.queryContextIdents, Gen.queryMetaFunction,
     Gen.queryContextTokens, Gen.queryStopTokens, Gen.querySections) =
    (Pinned.queryLadder, Pinned.queryJuxtaposition, Pinned.queryContextIdents, Pinned.queryMetaFunction,
     Pinned.queryContextTokens, Pinned.queryStopTokens, Pinned.querySections) := rfl

/-- report.h / report.cc option templates, `--limit` combination, chain.cc filter
    stages, filters.h pass-through shape. -/
theorem C07.begin_end_pinned :
    (Gen.beginPredicate, Gen.endPredicate, Gen.periodBeginPredicate, Gen.periodEndPredicate,
     Gen.limitOptions, Gen.limitCombine, Gen.filterStages, Gen.filterPostsPassesUnchanged) =
    (Pinned.beginPredicate, Pinned.endPredicate, Pinned.periodBeginPredicate, Pinned.periodEndPredicate,
     Pinned.limitOptions, Pinned.limitCombine, Pinned.filterStages, Pinned.filterPostsPassesUnchanged) := rfl

/-- normalised bodies of the C++ functions the model mirrors. -/
theorem C07.query_fns_pinned : Gen.queryFns = Pinned.queryFns := rfl

/-- `--limit P` and `--limit 'not P'`: the two runs fail or succeed together
    (with the same error); the rows they pass on are together a permutation of
    the postings looked at before the abort — of all postings when nothing
    fails —; no posting is in both; and each output is a sub-list of the input
    (same postings, same order, nothing altered or invented). -/
theorem C07.filter_partition (m : Matcher) (p : Pred) (ps : List PostCtx) :
    (filterPosts m p ps).2 = (filterPosts m (.not p) ps).2 ∧
    ((filterPosts m p ps).1 ++ (filterPosts m (.not p) ps).1).Perm (processed m p ps) ∧
    ((filterPosts m p ps).2 = none →
      ((filterPosts m p ps).1 ++ (filterPosts m (.not p) ps).1).Perm ps) ∧
    (∀ c, c ∈ (filterPosts m p ps).1 → c ∉ (filterPosts m (.not p) ps).1) ∧
    (filterPosts m p ps).1.Sublist ps ∧ (filterPosts m (.not p) ps).1.Sublist ps := by
  simp only [filterPosts_eq, processed_not, firstErr_not]
  obtain ⟨hperm, hdisj⟩ := filter_compl (holds m p) (holds m (.not p)) (processed m p ps) fun c hc =>
    (processed_ok m p ps c hc).elim fun _ hb => holds_not_of_ok hb
  refine ⟨trivial, hperm, fun h => ?_, hdisj, ?_, ?_⟩
  · exact hperm.trans (.of_eq (processed_of_noErr (noErr_of_firstErr h)).1)
  · exact List.filter_sublist.trans (processed_sublist m p ps)
  · exact List.filter_sublist.trans (processed_sublist m p ps)

/-- The error case, stated on its own: a predicate whose evaluation fails on
    some posting aborts the run under `P` and the run under `not P` at the same
    posting with the same error. -/
theorem C07.error_aborts_both (m : Matcher) (p : Pred) (ps : List PostCtx) :
    (filterPosts m p ps).2 = (filterPosts m (.not p) ps).2 ∧
    processed m p ps = processed m (.not p) ps ∧
    ((filterPosts m p ps).2 = none ↔ NoErr m p ps) := by
  simp only [filterPosts_eq, processed_not, firstErr_not, true_and]
  exact ⟨noErr_of_firstErr, fun h => (processed_of_noErr h).2⟩

/-- Without an evaluation error the filter is `List.filter`. -/
theorem C07.filter_is_selection (m : Matcher) (p : Pred) (ps : List PostCtx) (h : NoErr m p ps) :
    filterPosts m p ps = (ps.filter (holds m p), none) := filterPosts_of_noErr h

/-- Well-typed predicates (amount against an amount literal, date against a date
    literal, any matches / tags / flags, any nesting) never fail to evaluate. -/
theorem C07.welltyped_total (m : Matcher) (p : Pred) (hw : p.wellTyped = true) (c : PostCtx) :
    ∃ b, evalPred m p c = .ok b := by
  induction p with
  | matchF f pat => exact ⟨_, rfl⟩
  | hasTag t v => exact ⟨_, rfl⟩
  | flag f => exact ⟨_, rfl⟩
  | cmp s op rhs =>
    cases s <;> cases rhs <;> simp only [Pred.wellTyped, Bool.false_eq_true] at hw
    · rename_i a
      simp only [evalPred, cmpValues]
      exact cmpVal_total op (scalar_amount c) (.inr ⟨a, rfl⟩)
    · simp [evalPred, cmpValues]
  | not p ih => exact evalPred_not_ok (ih hw)
  | and p q ihp ihq =>
    have hw : p.wellTyped = true ∧ q.wellTyped = true := Bool.and_eq_true_iff.mp hw
    exact evalPred_and_ok (ihp hw.1) (ihq hw.2)
  | or p q ihp ihq =>
    have hw : p.wellTyped = true ∧ q.wellTyped = true := Bool.and_eq_true_iff.mp hw
    exact evalPred_or_ok (ihp hw.1) (ihq hw.2)

/-- `P and Q` selects the intersection: it is filtering by `Q` what filtering by
    `P` kept (which is also what `--limit P --limit Q` does, report.h 748-753);
    as multisets, every posting occurs `min` of its two multiplicities; a
    posting is kept iff both keep it. -/
theorem C07.filter_and (m : Matcher) (p q : Pred) (ps : List PostCtx)
    (hp : NoErr m p ps) (hq : NoErr m q ps) :
    filterPosts m (.and p q) ps = ((filterPosts m q (filterPosts m p ps).1).1, none) ∧
    (∀ c, (filterPosts m (.and p q) ps).1.count c =
          min ((filterPosts m p ps).1.count c) ((filterPosts m q ps).1.count c)) ∧
    (∀ c, c ∈ (filterPosts m (.and p q) ps).1 ↔
          c ∈ (filterPosts m p ps).1 ∧ c ∈ (filterPosts m q ps).1) := by
  have hq' : NoErr m q (ps.filter (holds m p)) := fun c hc => hq c (List.mem_filter.mp hc).1
  rw [filterPosts_of_noErr (noErr_and hp hq), filterPosts_of_noErr hp, filterPosts_of_noErr hq,
    filterPosts_of_noErr hq', funext (holds_and m p q)]
  refine ⟨?_, ?_, ?_⟩
  · simp only [List.filter_filter]
    congr 1
    exact List.filter_congr (fun c _ => Bool.and_comm _ _)
  · intro c
    simp only [count_filter_eq]
    cases holds m p c <;> cases holds m q c <;> simp
  · intro c
    simp only [List.mem_filter, Bool.and_eq_true]
    exact and_and_left

/-- `P or Q` selects the union: multiplicities are the `max`; together with the
    intersection it accounts for exactly the rows of the two single runs; a
    posting is kept iff one of them keeps it. -/
theorem C07.filter_or (m : Matcher) (p q : Pred) (ps : List PostCtx)
    (hp : NoErr m p ps) (hq : NoErr m q ps) :
    (filterPosts m (.or p q) ps).2 = none ∧
    (∀ c, (filterPosts m (.or p q) ps).1.count c =
          max ((filterPosts m p ps).1.count c) ((filterPosts m q ps).1.count c)) ∧
    ((filterPosts m (.or p q) ps).1 ++ (filterPosts m (.and p q) ps).1).Perm
      ((filterPosts m p ps).1 ++ (filterPosts m q ps).1) ∧
    (∀ c, c ∈ (filterPosts m (.or p q) ps).1 ↔
          c ∈ (filterPosts m p ps).1 ∨ c ∈ (filterPosts m q ps).1) := by
  have e : ps.filter (holds m (.or p q)) = ps.filter (fun c => holds m p c || holds m q c) :=
    List.filter_congr fun c hc => (hp c hc).elim fun _ hb => holds_or_of_ok hb
  rw [filterPosts_of_noErr (noErr_or hp hq), filterPosts_of_noErr (noErr_and hp hq),
    filterPosts_of_noErr hp, filterPosts_of_noErr hq, e, funext (holds_and m p q)]
  refine ⟨rfl, ?_, filter_or_and_perm _ _ _, ?_⟩
  · intro c
    simp only [count_filter_eq]
    cases holds m p c <;> cases holds m q c <;> simp
  · intro c
    simp only [List.mem_filter, Bool.or_eq_true]
    exact and_or_left

/-- a double negation filters like the predicate itself (errors included). -/
theorem C07.filter_not_not (m : Matcher) (p : Pred) (ps : List PostCtx) :
    filterPosts m (.not (.not p)) ps = filterPosts m p ps := by
  have h : ∀ c, evalPred m (.not (.not p)) c = evalPred m p c := by
    intro c
    simp only [evalPred_not]
    cases evalPred m p c with
    | ok b => simp
    | error e => rfl
  induction ps with
  | nil => rfl
  | cons c cs ih => simp only [filterPosts, h, ih]

/-- The predicate tree built for a query tree evaluates, on every posting, to the
    query's meaning (patterns against the field of their context, `%` for tags,
    juxtaposition and `or` as alternatives, `and`, `not`), in every ambient
    context and for every expression parser. -/
theorem C07.query_expr_equiv (m : Matcher) (exprOf : String → Option Pred) (q : Q) (ctx : Ctx) (c : PostCtx) :
    (q.toPred exprOf ctx).map (fun p => evalPred m p c) = q.eval m exprOf ctx c := by
  induction q generalizing ctx with
  | term pat => cases ctx <;> rfl
  | tag n v => rfl
  | expr t => rfl
  | ctx k q ih => exact ih k.toCtx
  | not q ih =>
    unfold Q.toPred Q.eval
    rw [← ih ctx]
    cases q.toPred exprOf ctx with
    | none => rfl
    | some P =>
      simp only [Option.map_some, evalPred_not]
      cases evalPred m P c <;> rfl
  -- with both operands denoting, the two sides are the same case analysis of the left operand's value
  | and a b iha ihb | or a b iha ihb | juxt a b iha ihb =>
    unfold Q.toPred Q.eval
    rw [← iha ctx, ← ihb ctx]
    cases a.toPred exprOf ctx <;> cases b.toPred exprOf ctx <;> rfl

/-- Parsing the canonical command-line rendering of a query tree (fewest
    parentheses; `and` over `or` over juxtaposition; operators associate to the
    left; `not` and the context prefixes `@ # = %` take a term) returns exactly
    the tree's predicate — for every tree whose patterns are plain words and
    whose `expr` texts parse. -/
theorem C07.query_parse_print (exprOf : String → Option Pred) (q : Q) (hw : q.wf exprOf = true) :
    Query.parse exprOf (q.args 0) = .ok (q.toPred exprOf .account) ∧
    (q.toPred exprOf .account).isSome = true := by
  obtain ⟨P, hP⟩ := toPred_isSome exprOf q hw .account nofun
  simp [Query.parse, parseAll_canonical exprOf q hw P hP, hP]

/-- The canonical token stream parses to the tree at every binding strength
    (the precedence and associativity facts behind `query_parse_print`):
    rendered as a term it is one term; rendered at strength 0 it is the whole
    juxtaposition. -/
theorem C07.query_tokens_parse (exprOf : String → Option Pred) (q : Q) (ctx : Ctx) (P : Pred)
    (hP : q.toPred exprOf ctx = some P) (rest : List Tok) (hr : Follow0 rest) :
    parseTerm exprOf ctx (q.toks 4 ++ rest) = .ok (some P, rest) ∧
    parseUnary exprOf ctx (q.toks 3 ++ rest) = .ok (some P, rest) ∧
    parseAnd exprOf ctx (q.toks 2 ++ rest) = .ok (some P, rest) ∧
    parseOr exprOf ctx (q.toks 1 ++ rest) = .ok (some P, rest) := by
  have h := toks_spec exprOf q ctx P hP
  refine ⟨h 4 rest hr.to1.to2, h 3 rest hr.to1.to2, ?_, ?_⟩
  · rw [h 2 rest hr.to1.to2, andLoop_stop exprOf ctx P rest hr.to1]
  · rw [h 1 rest hr.to1, orLoop_stop exprOf ctx P rest hr]

/-- `--begin D` keeps exactly the postings dated on or after `D`, `--end D`
    exactly those dated before `D` (neither can fail); together they are a
    permutation of the journal's postings and no posting is in both — for every
    `D` and every posting list, over the templates currently in report.h. -/
theorem C07.begin_end_split (m : Matcher) (d : Int) (ps : List PostCtx) :
    ∃ b e, beginPred d = some b ∧ endPred d = some e ∧
      filterPosts m b ps = (ps.filter (fun c => decide (d ≤ c.date)), none) ∧
      filterPosts m e ps = (ps.filter (fun c => decide (c.date < d)), none) ∧
      ((filterPosts m b ps).1 ++ (filterPosts m e ps).1).Perm ps ∧
      (∀ c, c ∈ (filterPosts m b ps).1 → c ∉ (filterPosts m e ps).1) := by
  refine ⟨.cmp .date .ge (.date d), .cmp .date .lt (.date d), rfl, rfl, ?_⟩
  have nb : NoErr m (.cmp .date .ge (.date d)) ps := fun c _ => ⟨_, rfl⟩
  have ne : NoErr m (.cmp .date .lt (.date d)) ps := fun c _ => ⟨_, rfl⟩
  have hb : holds m (.cmp .date .ge (.date d)) = fun c => decide (d ≤ c.date) :=
    funext fun c => holds_of_ok rfl
  have he : holds m (.cmp .date .lt (.date d)) = fun c => decide (c.date < d) :=
    funext fun c => holds_of_ok rfl
  obtain ⟨hperm, hdisj⟩ := filter_split nb ne fun c _ => by
    simp only [hb, he, ← decide_not, Int.not_le]
  exact ⟨by rw [filterPosts_of_noErr nb, hb], by rw [filterPosts_of_noErr ne, he], hperm, hdisj⟩

/-- `--real` and a `virtual` limit, `--cleared` and `--uncleared` (which report.h
    expands to `uncleared|pending`) each split the postings in two (states are
    0, 1 or 2). -/
theorem C07.option_splits (m : Matcher) (ps : List PostCtx) (hs : ∀ c ∈ ps, c.state ≤ 2) :
    ∃ r cl un, optionPred "real" = some r ∧ optionPred "cleared" = some cl ∧ optionPred "uncleared" = some un ∧
      ((filterPosts m r ps).1 ++ (filterPosts m (.flag .virtual) ps).1).Perm ps ∧
      ((filterPosts m cl ps).1 ++ (filterPosts m un ps).1).Perm ps ∧
      (∀ c, c ∈ (filterPosts m cl ps).1 → c ∉ (filterPosts m un ps).1) := by
  have ho : optionPred "real" = some (.flag .real) ∧ optionPred "cleared" = some (.flag .cleared) ∧
      optionPred "uncleared" = some (.or (.flag .uncleared) (.flag .pending)) := by decide +kernel
  refine ⟨_, _, _, ho.1, ho.2.1, ho.2.2, ?_⟩
  have n1 : ∀ f, NoErr m (.flag f) ps := fun f c _ => ⟨_, rfl⟩
  have hf : ∀ f c, holds m (.flag f) c = c.flag f := fun f c => holds_of_ok rfl
  have hv := filter_split (n1 .real) (n1 .virtual) fun c _ => by
    rw [hf, hf]; exact (Bool.not_not _).symm
  have hc := filter_split (n1 .cleared) (noErr_or (n1 .uncleared) (n1 .pending)) fun c hc => by
    have h3 : ∀ n : Nat, n ≤ 2 → (decide (n = 0) || decide (n = 2)) = !decide (n = 1) := by decide +kernel
    rw [holds_or_of_ok rfl, hf, hf, hf]
    exact h3 c.state (hs c hc)
  exact ⟨hv.1, hc.1, hc.2⟩

/-- a second `--limit` (and command-line query terms after a `--limit`) is and-ed
    to the first (report.h 748-753): filtering by the combination is filtering
    twice. -/
theorem C07.limit_twice (m : Matcher) (p q : Pred) (ps : List PostCtx)
    (hp : NoErr m p ps) (hq : NoErr m q ps) :
    ∃ pq, combinePred p q = some pq ∧
      filterPosts m pq ps = ((filterPosts m q (filterPosts m p ps).1).1, none) :=
  ⟨.and p q, by unfold combinePred; rw [if_pos (by decide +kernel)], (C07.filter_and m p q ps hp hq).1⟩

/-! ### non-vacuity -/

namespace C07ex

def exPost (acct : String) (line : Nat) (st : Nat) (k : PostKind) (q : Rat) : Posting :=
  { account := acct, kind := k, state := st, amount := some ⟨q, 2, false, "EUR"⟩, cost := none,
    assert := none, note := "", line := line }

def exXact (d : Int) (payee code : String) (st : Nat) : Xact :=
  { date := d, aux := none, state := st, code := code, payee := payee, note := "", posts := [], line := 1, endLine := 3 }

def exPs : List PostCtx :=
  [ { post := exPost "Assets:Cash" 2 0 .real 10, xact := exXact 100 "shop" "c1" 1 },
    { post := exPost "Expenses:Food" 3 2 .virtual (-10), xact := exXact 100 "shop" "c1" 1 },
    { post := exPost "Assets:Bank" 6 0 .real 5, xact := exXact 200 "work" "" 0, tags := [("tg", some "v1")] } ]

/-- case-insensitive substring search (what the checks run the model with). -/
def exMatch : Matcher := substrMatcher

-- a predicate that selects a proper non-empty subset, and its complement
example : ((filterPosts exMatch (.matchF .account "Assets") exPs).1.map (·.post.line),
           (filterPosts exMatch (.not (.matchF .account "Assets")) exPs).1.map (·.post.line)) = ([2, 6], [3]) := by
  decide +kernel

example : (filterPosts exMatch (.and (.matchF .account "Assets") (.flag .cleared)) exPs).1.map (·.post.line) = [2] := by
  decide +kernel
example : (filterPosts exMatch (.or (.matchF .payee "work") (.flag .pending)) exPs).1.map (·.post.line) = [3, 6] := by
  decide +kernel

-- an evaluation error aborts both runs after the same rows were looked at
example : (filterPosts exMatch (.or (.flag .real) (.cmp .date .gt (.amt ⟨5, 0, false, ""⟩))) exPs).2 = some .cannotCompare ∧
          (filterPosts exMatch (.not (.or (.flag .real) (.cmp .date .gt (.amt ⟨5, 0, false, ""⟩)))) exPs).2 = some .cannotCompare ∧
          ((filterPosts exMatch (.or (.flag .real) (.cmp .date .gt (.amt ⟨5, 0, false, ""⟩))) exPs).1.map (·.post.line)) = [2] := by
  decide +kernel

-- the hypotheses of filter_and / filter_or hold on a non-trivial list
example : NoErr exMatch (.cmp .amount .gt (.amt ⟨6, 0, false, "EUR"⟩)) exPs :=
  fun c _ => C07.welltyped_total exMatch _ rfl c

-- --begin / --end at a boundary date: the posting dated exactly D is on the begin side
example : ((exPs.filter (fun c => decide ((200 : Int) ≤ c.date))).map (·.post.line),
           (exPs.filter (fun c => decide (c.date < (200 : Int)))).map (·.post.line)) = ([6], [2, 3]) := by
  decide +kernel

def exExpr (s : String) : Option Pred :=
  if s = "amount > 6 EUR" then some (.cmp .amount .gt (.amt ⟨6, 0, false, "EUR"⟩)) else none

def exQ : Q := .and (.juxt (.term "Assets") (.ctx .payee (.term "work")))
                    (.not (.or (.tag "tg" (some "v1")) (.expr "amount > 6 EUR")))

example : exQ.wf exExpr = true := by decide +kernel
example : exQ.args 0 = ["(", "Assets", "@", "work", ")", "and", "not", "(", "%tg=v1", "or", "expr", "amount > 6 EUR", ")"] := by
  decide +kernel
example : (exQ.toPred exExpr .account).map render =
    some "(((account =~ /Assets/) | (payee =~ /work/)) & (! (has_tag(((/tg/, /v1/))) | (amount > {6 EUR}))))" := by
  decide +kernel

-- precedence: `a b or c and d` is a | (b | (c & d))
example : (Q.juxt (.term "a") (.or (.term "b") (.and (.term "c") (.term "d")))).args 0 = ["a", "b", "or", "c", "and", "d"] := by
  decide +kernel

end C07ex

end Ledger
