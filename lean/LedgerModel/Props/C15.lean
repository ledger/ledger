/-
C15 — value expressions evaluate as written and survive printing.

The model is `Model/Expr.lean`: tokeniser (token.cc), a recursive-descent parser
*driven by the table `Gen.ladder` that tools/extract_expr.py regenerates from
parser.cc*, `printToks` / `print` (op_t::print), `compile` with and without
constant folding (op_t::compile) and `calcF` (op_t::calc).  The documented
precedence ladder is written by hand in `Lemmas/ExprParse.lean`
(`levelName`, `BinOp.lvl`, `render`); the theorems say that the generated
parser realises it.

Theorems about parsing are stated over token lists (`parseToks`): a literal is an
opaque `Tok.value`.  The step text ↔ tokens (`Lex.tokenize`, `print`) is tied to
ledger by the correspondence check only (tools/props/c15.py), which also
re-checks `tokenize (print e) = printToks e` on every generated case.

Places where the code does NOT (or did not) have the property are kept visible
here: the full statement as a `def … : Prop`, its negation proved on a witness
that the check replays on the binary, and the `_partial` theorem with its guard:
* `C15.PrintParseValue` – op_t::print parenthesised the O_COLON node (repaired in
                          /repo; the statement is now proved in full under the
                          extracted flag, and `print_colon_flag` pins the repair);
* `C15.CompileSound`    – constant folding evaluates what short circuit skips,
                          folds O_COLON, folds argument lists;
* `C15.ParamScope`      – a local definition mentioning a parameter is captured
                          by an inner function with the same parameter name.
-/
import LedgerModel.Lemmas.ExprParse
import LedgerModel.Lemmas.ExprEval
import LedgerModel.Lemmas.ExprScope
import LedgerModel.Lemmas.ExprParam
import LedgerModel.Gen.ExprFns
import LedgerModel.Gen.ExprFlags
import LedgerModel.Model.ExprFnsPinned

namespace Ledger

/-- The bodies of the parser / tokeniser / op_t / scope routines found in the
    working tree are the ones the model was written against. -/
theorem C15.expr_fns_pinned : Gen.exprFns = Pinned.exprFns := rfl

/-- follow the `first` links of the generated table: (function, shape, accepted
    tokens with the node they build, loops?, parser of the left operand, parser of
    the operands after the operator) -/
def ladderChain (start : String) : Nat → List (String × String × List (String × String × Bool) × Bool × String × String)
  | 0 => []
  | n + 1 =>
    match findRow start with
    | none => []
    | some r => (r.name, r.shape, r.ops, r.loop, r.first, r.operand) :: ladderChain r.first n

/-- The ladder regenerated from parser.cc is the documented one:
    `?:` (accepted once) < `or` < `and` < comparisons < `+ -` < `* / div` < unary `! -`;
    every binary level is a `while (true)` loop whose right operands are parsed one
    level tighter (left associativity), `!=` builds `!(… == …)`. -/
theorem C15.ladder_is_documented :
    ladderChain "parse_querycolon_expr" 7 =
      [("parse_querycolon_expr", "ternary",
          [("QUERY", "O_QUERY", false), ("COLON", "O_COLON", false), ("KW_IF", "O_QUERY", false), ("KW_ELSE", "O_COLON", false)],
          false, "parse_or_expr", "parse_or_expr"),
       ("parse_or_expr", "binloop", [("KW_OR", "O_OR", false)], true, "parse_and_expr", "parse_and_expr"),
       ("parse_and_expr", "binloop", [("KW_AND", "O_AND", false)], true, "parse_logic_expr", "parse_logic_expr"),
       ("parse_logic_expr", "binloop",
          [("EQUAL", "O_EQ", false), ("NEQUAL", "O_EQ", true), ("MATCH", "O_MATCH", false), ("NMATCH", "O_MATCH", true),
           ("LESS", "O_LT", false), ("LESSEQ", "O_LTE", false), ("GREATER", "O_GT", false), ("GREATEREQ", "O_GTE", false)],
          true, "parse_add_expr", "parse_add_expr"),
       ("parse_add_expr", "binloop", [("PLUS", "O_ADD", false), ("MINUS", "O_SUB", false)], true, "parse_mul_expr", "parse_mul_expr"),
       ("parse_mul_expr", "binloop", [("STAR", "O_MUL", false), ("SLASH", "O_DIV", false), ("KW_DIV", "O_DIV", false)], true,
          "parse_unary_expr", "parse_unary_expr"),
       ("parse_unary_expr", "prefix", [("EXCLAM", "O_NOT", false), ("MINUS", "O_NEG", false)], false,
          "parse_dot_expr", "parse_dot_expr")] := by
  rfl

/-- The spellings of the word operators and symbols (token.cc): `and`/`&`/`&&`,
    `or`/`|`/`||`, `not`/`!`, `div`, `if`/`else`, `!=`, `<=`, `>=`, `==`, `->`. -/
theorem C15.spellings_documented :
    (Gen.reservedWords.map (fun w => (w.1, w.2.1)) =
      [("and", "KW_AND"), ("div", "KW_DIV"), ("else", "KW_ELSE"), ("false", "VALUE"), ("if", "KW_IF"), ("or", "KW_OR"),
       ("not", "EXCLAM"), ("true", "VALUE")]) ∧
    Gen.symbolSpellings.lookup "&" = some "KW_AND" ∧ Gen.symbolSpellings.lookup "&&" = some "KW_AND" ∧
    Gen.symbolSpellings.lookup "|" = some "KW_OR" ∧ Gen.symbolSpellings.lookup "||" = some "KW_OR" ∧
    Gen.symbolSpellings.lookup "!" = some "EXCLAM" ∧ Gen.symbolSpellings.lookup "!=" = some "NEQUAL" ∧
    Gen.symbolSpellings.lookup "==" = some "EQUAL" ∧ Gen.symbolSpellings.lookup "<=" = some "LESSEQ" ∧
    Gen.symbolSpellings.lookup ">=" = some "GREATEREQ" ∧ Gen.symbolSpellings.lookup "->" = some "ARROW" ∧
    Gen.symbolSpellings.lookup "?" = some "QUERY" ∧ Gen.symbolSpellings.lookup ":" = some "COLON" ∧
    Gen.contextSymbols = ["/"] := by
  decide +kernel

/-- **Precedence and associativity, for every tree.**  Write any operator tree
    (literals, identifiers, unary `- !`, the eleven binary operators, `?:`) with
    parentheses only where the documented ladder demands them – around a looser
    operator inside a tighter one, around the right operand of an operator of the
    same level, around any operator under a unary one – and the parser generated
    from parser.cc returns exactly that tree. -/
theorem C15.parse_respects_ladder (e : Expr) (he : e.isOpTree = true) : parseToks (renderMinimal e) = .ok e :=
  parse_render false e he

/-- … and extra parentheses never change the tree: the same holds with every
    operator node parenthesised. -/
theorem C15.parse_fully_parenthesised (e : Expr) (he : e.isOpTree = true) : parseToks (render true 0 e) = .ok e :=
  parse_render true e he

/-- FULL STATEMENT: what op_t::print emits for an operator tree parses back to a
    tree with the same value.  It holds exactly when op_t::print does not wrap the
    O_COLON node of a conditional in parentheses of its own
    (`Gen.printParenthesisesColon`, read off the two tests op.cc 669-670 / 860-861
    on every run): see `print_parse_value`, `print_parse_value_fails`,
    `print_colon_flag`. -/
def C15.PrintParseValue : Prop :=
  ∀ (env : PrecEnv) (e : Expr), e.isOpTree = true →
    ∃ e', parseToks (printToks e) = .ok e' ∧ ∀ f G, evalWith env true f G e' = evalWith env true f G e

/-- The working tree prints a conditional as `(a ? b : c)`.  (It printed
    `(a ? (b : c))` until the repair of finding `C15:op.cc:print:O_COLON`; a
    regression of that repair breaks this obligation.) -/
theorem C15.print_colon_flag : Gen.printParenthesisesColon = false := by decide

/-- With the O_COLON node unparenthesised, the printed token sequence of EVERY
    operator tree – conditionals included, nested anywhere – parses back to the
    very same tree (hence the same value, in every scope). -/
theorem C15.print_parse_value (h : Gen.printParenthesisesColon = false) : C15.PrintParseValue := by
  intro env e he
  have hp : parseToks (printToks e) = .ok e := by
    unfold printToks
    rw [h, ← printToksAux_eq_render false e he (fun h' => by cases h') 0]
    exact parse_render true e he
  exact ⟨e, hp, fun _ _ => rfl⟩

/-- `1 ? 2 : 3` -/
def C15.witnessCond : Expr :=
  .query (.val (.amt ⟨1, 0, false, ""⟩)) (.val (.amt ⟨2, 0, false, ""⟩)) (.val (.amt ⟨3, 0, false, ""⟩))

/-- With the O_COLON node parenthesised, op_t::print writes `(1 ? (2 : 3))` and the
    parser rejects the `:` – the full statement is false.  (The state of the pinned
    tree; replayed on the binary by the check, fingerprint `C15:op.cc:print:O_COLON`.) -/
theorem C15.print_parse_value_fails (h : Gen.printParenthesisesColon = true) : ¬ C15.PrintParseValue := by
  intro hfull
  obtain ⟨e', h1, _⟩ := hfull (fun _ => 0) C15.witnessCond rfl
  have : parseToks (printToksAux true .none C15.witnessCond) = .error errParse := by decide +kernel
  unfold printToks at h1
  rw [h, this] at h1
  cases h1

/-- Whatever op_t::print does with O_COLON: a tree without a conditional prints to
    a token sequence that parses back to the very same tree. -/
theorem C15.print_parse_value_partial (e : Expr) (he : e.isOpTree = true) (hq : e.noQuery = true) :
    parseToks (printToks e) = .ok e ∧
    ∀ (env : PrecEnv) e', parseToks (printToks e) = .ok e' → ∀ f G, evalWith env true f G e' = evalWith env true f G e := by
  have h : parseToks (printToks e) = .ok e := by
    rw [printToks, ← printToksAux_eq_render _ e he (fun _ => hq) 0]; exact parse_render true e he
  refine ⟨h, ?_⟩
  intro env e' h' f G
  rw [h] at h'
  cases h'
  rfl

/-- `and`, `or` and `?:` do not evaluate the operand that is not selected: once the
    left operand (the condition) has value `x`, the result does not depend on the
    other operand at all – whatever it is, even an expression that fails.  `and`
    yields `false` or the right operand's value, `or` the left operand's value or
    the right one's (op.cc 379-400). -/
theorem C15.short_circuit (env : PrecEnv) (f : Nat) (σ : Scope) (l : Expr) (x : RVal)
    (h : calcF env f σ l = .ok x) :
    (x.truth env = false → ∀ r, calcF env f σ (.bin .and l r) = .ok (.v (.bool false))) ∧
    (x.truth env = true → ∀ r, calcF env f σ (.bin .and l r) = calcF env f σ r) ∧
    (x.truth env = true → ∀ r, calcF env f σ (.bin .or l r) = .ok x) ∧
    (x.truth env = false → ∀ r, calcF env f σ (.bin .or l r) = calcF env f σ r) ∧
    (x.truth env = true → ∀ a b, calcF env f σ (.query l a b) = calcF env f σ a) ∧
    (x.truth env = false → ∀ a b, calcF env f σ (.query l a b) = calcF env f σ b) := by
  cases f with
  | zero => simp [calcF] at h
  | succ g =>
    simp only [calcF] at h ⊢
    refine ⟨fun ht r => ?_, fun ht r => ?_, fun ht r => ?_, fun ht r => ?_, fun ht a b => ?_, fun ht a b => ?_⟩
    · rw [calcStep_bin, h, Except.bind_ok, binRest_and, ht]; rfl
    · rw [calcStep_bin, h, Except.bind_ok, binRest_and, ht]; rfl
    · rw [calcStep_bin, h, Except.bind_ok, binRest_or, ht]; rfl
    · rw [calcStep_bin, h, Except.bind_ok, binRest_or, ht]; rfl
    · rw [calcStep_query, h, Except.bind_ok, ht]; rfl
    · rw [calcStep_query, h, Except.bind_ok, ht]; rfl

/-- FULL STATEMENT (false on the pinned tree): an expression gives the same result
    whether it is compiled with constant folding or evaluated without it. -/
def C15.CompileSound : Prop :=
  ∀ (env : PrecEnv) (f : Nat) (G : Frame) (e : Expr),
    (evalWith env true f G e).map RVal.erase = (evalWith env false f G e).map RVal.erase

/-- `false & ((x = 1; 1) / 0)` -/
def C15.witnessFold : Expr :=
  .bin .and (.val (.bool false))
    (.bin .div (.seq (.define (.ident "x" .nil) (.scope (.val (.amt ⟨1, 0, false, ""⟩)))) (.val (.amt ⟨1, 0, false, ""⟩)))
      (.val (.amt ⟨0, 0, false, ""⟩)))

/-- `true ? (x = 1; 2) : (x = 1; 3)` -/
def C15.witnessFoldColon : Expr :=
  .query (.val (.bool true))
    (.seq (.define (.ident "x" .nil) (.scope (.val (.amt ⟨1, 0, false, ""⟩)))) (.val (.amt ⟨2, 0, false, ""⟩)))
    (.seq (.define (.ident "x" .nil) (.scope (.val (.amt ⟨1, 0, false, ""⟩)))) (.val (.amt ⟨3, 0, false, ""⟩)))

/-- Folding (op.cc 214-218) evaluates `(x = 1; 1) / 0` at compile time although
    `false & …` never evaluates it: Divide by zero instead of `false`.  Replayed on
    the binary by the check (`C15:op.cc:compile:fold-skipped-operand`). -/
theorem C15.compile_sound_fails : ¬ C15.CompileSound := by
  intro h
  have := h (fun _ => 0) 5 [] C15.witnessFold
  revert this
  decide +kernel

/-- a second, independent way it fails: folding an O_COLON node whose branches
    became literals evaluates the O_COLON, which op.cc 402-404 asserts never
    happens (`C15:op.cc:compile:fold-O_COLON`) -/
theorem C15.compile_sound_fails_colon :
    evalWith (fun _ => 0) true 5 [] C15.witnessFoldColon = .error errAssert ∧
    evalWith (fun _ => 0) false 5 [] C15.witnessFoldColon = .ok (.v (.amt ⟨2, 0, false, ""⟩)) := by
  decide +kernel

/-- Guard: compiling with folding raises no error (`(compile env true G [] e).isOk`).
    Then folding changes neither the value nor the error of the evaluation, for
    every expression of the modelled language (definitions, lambdas, calls and
    recursion included), every scope and every fuel. -/
theorem C15.compile_sound_partial (env : PrecEnv) (f : Nat) (G : Frame) (e : Expr) (r : Expr × Bool × Frame)
    (hok : compile env true G [] e = .ok r) :
    (evalWith env true f G e).map RVal.erase = (evalWith env false f G e).map RVal.erase := by
  obtain ⟨e1, c, G1⟩ := r
  obtain ⟨e2, G2, h2, hf, hG⟩ := compile_fold env e G G [] e1 c G1 (FrameRel.refl env G) hok
  simp only [evalWith, hok, h2]
  exact (calcF_fold env f e1 e2 [G1] [G2] hf (.cons hG .nil)).erase

/-- **Definition-site binding.**  Compile `e` in a scope `G` that binds the names
    `B` (`e` is a tree as the parser builds it; no lambda or function parameter in
    it is named in `B`).  Whatever is bound to the names `B` afterwards – the frame
    `Δ` of later (re)definitions – the compiled `e'` evaluates exactly as it does
    without them: a function or lambda body sees the binding its free names had
    where it was defined, not the one in force where it is called.  Recursion and
    names left unresolved at the definition site (looked up at every use,
    op.cc 114-116) are covered: they are simply not in `B`. -/
theorem C15.lexical_scope (env : PrecEnv) (fold : Bool) (B : List String) (G : Frame) (e e' : Expr) (c : Bool)
    (G' Δ : Frame) (f : Nat)
    (hsrc : srcOK B e = true) (hG : GOK B G) (hdom : DomOK B G)
    (hc : compile env fold G [] e = .ok (e', c, G'))
    (hΔ : ∀ p ∈ Δ, B.contains p.1 = true ∧ noFree B p.2 = true) :
    calcF env f [Δ ++ G'] e' = calcF env f [G'] e' := by
  obtain ⟨h1, h2, _⟩ := compile_noFree env fold B e G [] e' c G' hsrc hG (by intro ps hps; simp at hps) hdom hc
  refine (calcF_noFree env B f e' [Δ ++ G'] [G'] h1 ⟨?_, ?_, ?_⟩).1
  · intro n hn
    rw [Scope.lookup_single, Scope.lookup_single]
    exact lookup_append_off (fun p hp => (hΔ p hp).1) n hn
  · intro n d hd
    rw [Scope.lookup_single] at hd
    exact lookup_append_noFree (fun p hp => (hΔ p hp).2) h2 n d hd
  · intro n d hd
    rw [Scope.lookup_single] at hd
    exact (h2 n d hd).1

/-- renaming an identifier throughout a source tree (parameters included) -/
def renameIdent (p q : String) : Expr → Expr
  | .nil => .nil
  | .plug => .plug
  | .val v => .val v
  | .ident n d => .ident (if n = p then q else n) (renameIdent p q d)
  | .scope b => .scope (renameIdent p q b)
  | .un op e => .un op (renameIdent p q e)
  | .bin op l r => .bin op (renameIdent p q l) (renameIdent p q r)
  | .query c a b => .query (renameIdent p q c) (renameIdent p q a) (renameIdent p q b)
  | .cons l r => .cons (renameIdent p q l) (renameIdent p q r)
  | .seq l r => .seq (renameIdent p q l) (renameIdent p q r)
  | .define l r => .define (renameIdent p q l) (renameIdent p q r)
  | .lambda x b => .lambda (renameIdent p q x) (renameIdent p q b)
  | .call f a => .call (renameIdent p q f) (renameIdent p q a)

def occursIdent (q : String) : Expr → Bool
  | .ident n d => n = q || occursIdent q d
  | .scope b => occursIdent q b
  | .un _ e => occursIdent q e
  | .bin _ l r => occursIdent q l || occursIdent q r
  | .query c a b => occursIdent q c || occursIdent q a || occursIdent q b
  | .cons l r => occursIdent q l || occursIdent q r
  | .seq l r => occursIdent q l || occursIdent q r
  | .define l r => occursIdent q l || occursIdent q r
  | .lambda x b => occursIdent q x || occursIdent q b
  | .call f a => occursIdent q f || occursIdent q a
  | _ => false

/-- `AlphaStep e e'`: `e'` is `e` with the parameter of ONE lambda renamed to a name
    that does not occur in that lambda – the same program under lexical scoping. -/
inductive AlphaStep : Expr → Expr → Prop
  | here (p q : String) (b : Expr) : occursIdent q b = false → q ≠ p →
      AlphaStep (.lambda (.ident p .nil) b) (.lambda (.ident q .nil) (renameIdent p q b))
  | scope {b b' : Expr} : AlphaStep b b' → AlphaStep (.scope b) (.scope b')
  | un (op : UnOp) {e e' : Expr} : AlphaStep e e' → AlphaStep (.un op e) (.un op e')
  | binL (op : BinOp) (r : Expr) {l l' : Expr} : AlphaStep l l' → AlphaStep (.bin op l r) (.bin op l' r)
  | binR (op : BinOp) (l : Expr) {r r' : Expr} : AlphaStep r r' → AlphaStep (.bin op l r) (.bin op l r')
  | queryC (a b : Expr) {c c' : Expr} : AlphaStep c c' → AlphaStep (.query c a b) (.query c' a b)
  | queryA (c b : Expr) {a a' : Expr} : AlphaStep a a' → AlphaStep (.query c a b) (.query c a' b)
  | queryB (c a : Expr) {b b' : Expr} : AlphaStep b b' → AlphaStep (.query c a b) (.query c a b')
  | consL (r : Expr) {l l' : Expr} : AlphaStep l l' → AlphaStep (.cons l r) (.cons l' r)
  | consR (l : Expr) {r r' : Expr} : AlphaStep r r' → AlphaStep (.cons l r) (.cons l r')
  | seqL (r : Expr) {l l' : Expr} : AlphaStep l l' → AlphaStep (.seq l r) (.seq l' r)
  | seqR (l : Expr) {r r' : Expr} : AlphaStep r r' → AlphaStep (.seq l r) (.seq l r')
  | defineR (l : Expr) {r r' : Expr} : AlphaStep r r' → AlphaStep (.define l r) (.define l r')
  | lambdaB (x : Expr) {b b' : Expr} : AlphaStep b b' → AlphaStep (.lambda x b) (.lambda x b')
  | callF (a : Expr) {f f' : Expr} : AlphaStep f f' → AlphaStep (.call f a) (.call f' a)
  | callA (f : Expr) {a a' : Expr} : AlphaStep a a' → AlphaStep (.call f a) (.call f a')

/-- FULL STATEMENT (false on the pinned tree): parameters are lexically scoped –
    renaming one lambda's parameter to a fresh name never changes a value. -/
def C15.ParamScope : Prop :=
  ∀ (env : PrecEnv) (e e' : Expr), AlphaStep e e' → evalExpr env e = evalExpr env e'

private def lit (n : Int) : Expr := .val (.amt ⟨(n : Rat), 0, false, ""⟩)

/-- `g(x) = (t = x * 2; (P -> t + P)(5)); g(1)` for the inner parameter name `P` -/
def C15.witnessCapture (P : String) : Expr :=
  .seq
    (.define (.call (.ident "g" .nil) (.ident "x" .nil))
      (.scope (.seq (.define (.ident "t" .nil) (.scope (.bin .mul (.ident "x" .nil) (lit 2))))
                    (.call (.lambda (.ident P .nil) (.scope (.bin .add (.ident "t" .nil) (.ident P .nil)))) (lit 5)))))
    (.call (.ident "g" .nil) (lit 1))

/-- With the inner parameter also called `x`, the local definition `t = x * 2` is
    re-evaluated in the inner frame: 15 instead of 7.  Definitions are stored
    unevaluated (op.cc 144-148) and a parameter is looked up dynamically (PLUG,
    op.cc 188-189, 240-243).  Replayed on the binary (`C15:scope:parameter-capture`). -/
theorem C15.param_scope_fails : ¬ C15.ParamScope := by
  intro h
  have hstep : AlphaStep (C15.witnessCapture "x") (C15.witnessCapture "y") :=
    .seqL _ (.defineR _ (.scope (.seqR _ (.callF _ (.here "x" "y" _ (by decide) (by decide))))))
  have := h (fun _ => 0) _ _ hstep
  revert this
  decide +kernel

/-- Guard: the lambda's compiled body is an operator tree (`isOpBody`: literals,
    identifiers, unary, binary, `?:`), the new name `q` is not looked up in it
    (`lookedUp`), and no definition compiled into the body (`defsOff`) or held by
    the enclosing scope mentions `p` or `q` unresolved.  Then `(p -> body)(v)` and
    `(q -> body[p := q])(v)` have the same value: without a captured definition
    that mentions the parameter, parameters ARE lexically scoped.  The witness of
    `C15.param_scope_fails` violates exactly `defsOff`: its body refers to
    `t = x * 2`. -/
theorem C15.param_scope_partial (env : PrecEnv) (p q : String) (v : Value) (σ : Scope) (body : Expr) (f : Nat)
    (hσ : ScopeNoFree [p, q] σ) (hbody : body.isOpBody = true) (hfresh : lookedUp q body = false)
    (hdefs : defsOff [p, q] body = true) :
    calcF env f σ (.call (.lambda (.ident p .nil) (.scope body)) (.val v)) =
      calcF env f σ (.call (.lambda (.ident q .nil) (.scope (renameParam p q body))) (.val v)) :=
  param_rename_call env p q v σ hσ body hbody hfresh hdefs f

/-- `1 + 2 * 3 - 4 < 5 & ! x | y ? 6 : 7`, minimally written, parses to the documented tree -/
example :
    parseToks [.value (.int 1), .plus, .value (.int 2), .star, .value (.int 3), .minus, .value (.int 4), .less, .value (.int 5),
               .kwAnd, .exclam, .ident "x", .kwOr, .ident "y", .query, .value (.int 6), .colon, .value (.int 7)] =
      .ok (.query
            (.bin .or
              (.bin .and
                (.bin .lt (.bin .sub (.bin .add (.val (.int 1)) (.bin .mul (.val (.int 2)) (.val (.int 3)))) (.val (.int 4))) (.val (.int 5)))
                (.un .not (.ident "x" .nil)))
              (.ident "y" .nil))
            (.val (.int 6)) (.val (.int 7))) := by
  decide +kernel

/-- the same tree is an operator tree, and `renderMinimal` gives that token list -/
example :
    let e : Expr := .query
            (.bin .or
              (.bin .and
                (.bin .lt (.bin .sub (.bin .add (.val (.int 1)) (.bin .mul (.val (.int 2)) (.val (.int 3)))) (.val (.int 4))) (.val (.int 5)))
                (.un .not (.ident "x" .nil)))
              (.ident "y" .nil))
            (.val (.int 6)) (.val (.int 7))
    e.isOpTree = true ∧
    renderMinimal e = [.value (.int 1), .plus, .value (.int 2), .star, .value (.int 3), .minus, .value (.int 4), .less, .value (.int 5),
               .kwAnd, .exclam, .ident "x", .kwOr, .ident "y", .query, .value (.int 6), .colon, .value (.int 7)] := by
  decide +kernel

/-- `(1 + 2) * 3` and `1 - (2 - 3)` keep their parentheses, `1 - 2 - 3` associates to the left -/
example :
    renderMinimal (.bin .mul (.bin .add (.val (.int 1)) (.val (.int 2))) (.val (.int 3))) =
      [.lparen, .value (.int 1), .plus, .value (.int 2), .rparen, .star, .value (.int 3)] ∧
    renderMinimal (.bin .sub (.val (.int 1)) (.bin .sub (.val (.int 2)) (.val (.int 3)))) =
      [.value (.int 1), .minus, .lparen, .value (.int 2), .minus, .value (.int 3), .rparen] ∧
    renderMinimal (.bin .sub (.bin .sub (.val (.int 1)) (.val (.int 2))) (.val (.int 3))) =
      [.value (.int 1), .minus, .value (.int 2), .minus, .value (.int 3)] := by
  decide +kernel

/-- `1 ? 2 : 3` prints as `( 1 ? 2 : 3 )` and parses back -/
example : printToks C15.witnessCond =
      [.lparen, .value (.amt ⟨1, 0, false, ""⟩), .query, .value (.amt ⟨2, 0, false, ""⟩), .colon, .value (.amt ⟨3, 0, false, ""⟩), .rparen] ∧
    parseToks (printToks C15.witnessCond) = .ok C15.witnessCond := by
  decide +kernel

/-- short circuit: `false & (1 / 0)` is false, `1 | (1 / 0)` is 1, `(1 / 0) & false` fails -/
example :
    evalExpr (fun _ => 0) (.bin .and (.val (.bool false)) (.bin .div (lit 1) (lit 0))) = .ok (.v (.bool false)) ∧
    evalExpr (fun _ => 0) (.bin .or (lit 1) (.bin .div (lit 1) (lit 0))) = .ok (.v (.amt ⟨1, 0, false, ""⟩)) ∧
    evalExpr (fun _ => 0) (.bin .and (.bin .div (lit 1) (lit 0)) (.val (.bool false))) = .error .divZero := by
  decide +kernel

/-- folding does happen and is harmless here: `(x = 1; 5) + 3` compiles to the literal 8 -/
example :
    (compile (fun _ => 0) true [] [] (.bin .add (.seq (.define (.ident "x" .nil) (.scope (lit 1))) (lit 5)) (lit 3))).map (·.1) =
      .ok (lit 8) := by
  decide +kernel

/-- `y = 5; f(x) = x + y; y = 7; f(1)` is 6: `f` sees the `y` of its definition site … -/
example :
    evalExpr (fun _ => 0)
      (.seq (.define (.ident "y" .nil) (.scope (lit 5)))
        (.seq (.define (.call (.ident "f" .nil) (.ident "x" .nil)) (.scope (.bin .add (.ident "x" .nil) (.ident "y" .nil))))
          (.seq (.define (.ident "y" .nil) (.scope (lit 7)))
            (.call (.ident "f" .nil) (lit 1))))) = .ok (.v (.amt ⟨6, 0, false, ""⟩)) := by
  decide +kernel

/-- … and the hypotheses of `C15.lexical_scope` are met by that program: compile the
    call `f(1)` where `y = 5` and `f` are defined, with `B = ["y"]` -/
example :
    let G : Frame := [("f", .lambda (.ident "x" .nil) (.scope (.bin .add (.ident "x" .plug) (.ident "y" (.scope (lit 5)))))),
                      ("y", .scope (lit 5))]
    srcOK ["y"] (.call (.ident "f" .nil) (lit 1)) = true ∧
    (∀ p ∈ G, noFree ["y"] p.2 = true ∧ (p.2.isNil || p.2.isPlug) = false) ∧
    G.lookup "y" ≠ none ∧
    (∀ p ∈ [("y", Expr.scope (lit 7))], (["y"].contains p.1 = true ∧ noFree ["y"] p.2 = true)) := by
  decide +kernel

/-- `(x -> x * 2 + k)(5)` with `k` resolved to 1 meets the guard of `C15.param_scope_partial`; both names give 11 -/
example :
    let body : Expr := .bin .add (.bin .mul (.ident "x" .plug) (lit 2)) (.ident "k" (.scope (lit 1)))
    body.isOpBody = true ∧ lookedUp "y" body = false ∧ defsOff ["x", "y"] body = true ∧
    calcF (fun _ => 0) 9 [[]] (.call (.lambda (.ident "x" .nil) (.scope body)) (.val (.amt ⟨5, 0, false, ""⟩))) =
      .ok (.v (.amt ⟨11, 0, false, ""⟩)) ∧
    calcF (fun _ => 0) 9 [[]] (.call (.lambda (.ident "y" .nil) (.scope (renameParam "x" "y" body))) (.val (.amt ⟨5, 0, false, ""⟩))) =
      .ok (.v (.amt ⟨11, 0, false, ""⟩)) := by
  decide +kernel

/-- recursion works through the look-up at the point of use: `f(n) = n < 1 ? 0 : n + f(n - 1); f(3)` is 6 -/
example :
    evalExpr (fun _ => 0)
      (.seq (.define (.call (.ident "f" .nil) (.ident "n" .nil))
              (.scope (.query (.bin .lt (.ident "n" .nil) (lit 1)) (lit 0)
                        (.bin .add (.ident "n" .nil) (.call (.ident "f" .nil) (.bin .sub (.ident "n" .nil) (lit 1)))))))
        (.call (.ident "f" .nil) (lit 3))) = .ok (.v (.amt ⟨6, 0, false, ""⟩)) := by
  decide +kernel

end Ledger
