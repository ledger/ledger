/-
C09 — balance assertions and assignments use the true running balance in file order.

Model: Model/Assert.lean (`checkPost` = the `= AMOUNT` block of textual.cc
parse_post as the working tree has it; `run` = a whole journal). Specification:
`Assert.specRunning c log earlier acct v` = the sum in commodity `c` of every
earlier posting to that very account in file order (`log`: the postings of the
transactions accepted so far, `earlier`: the preceding postings of the same
transaction), ordinary postings only for an ordinary asserting posting, ordinary
and virtual ones for a virtual one.  All theorems hold for logs, transactions and
journals of any length.

Standing hypotheses of the step theorems
* `FineLog / FinePosts / fine`: every amount's precision counter is within its
  commodity's display precision, so that `is_zero` is the exact test (true of all
  parsed amounts; `C09.log_fine` shows the model's own run preserves it);
* `NoElidedEarlier`: no earlier posting of the same transaction to this account
  is still waiting for its amount (ledger errors out there; the property does not
  say what such a posting would count as).

The pinned source violates the full statements in two ways, each read from the
source as a flag of `Gen.Assert` and each refuted below on a concrete witness:
1. `virtualCountsSameXactReal = false` (textual.cc 1714): an assertion or
   assignment on a VIRTUAL posting ignores earlier ORDINARY postings of the same
   transaction to the same account;
2. `ownAmountBeforeRestriction = false` (textual.cc 1752): the posting's own
   amount is subtracted after the restriction to AMOUNT's commodity, so an
   assertion whose own amount is of another commodity is always rejected.
The `_partial` theorems carry exactly these two guards (`Assert.guardVirt`,
`Assert.guardComm`, both decidable) and hold for the source as it is; the
unguarded theorems are proved for a source in which the flags are repaired.
-/
import LedgerModel.Lemmas.AssertWitness
import LedgerModel.Model.AssertPinned
import LedgerModel.Gen.AssertFns
import LedgerModel.Model.AssertFnsPinned

namespace Ledger
open Assert

/-! ## Tie to the source text -/

/-- The `= AMOUNT` block of parse_post and the permissive wiring found in the working
    tree are the ones the model was written against (the two interpreted statements
    are abstracted into `Gen.Assert.virtualCountsSameXactReal` / `ownAmountBeforeRestriction`). -/
theorem C09.source_pinned :
    (Gen.Assert.block, Gen.Assert.permissiveWiring) = (Pinned.Assert.block, Pinned.Assert.permissiveWiring) := rfl

/-- account_t::amount / add_post, post_t::add_to_value, add_or_set_value, commodity_amount,
    balance is_zero / to_amount / operator=, xact_base_t::finalize / add_post, journal_t::add_xact,
    instance_t::xact_directive are the ones the model was written against. -/
theorem C09.assert_fns_pinned : Gen.assertFns = Pinned.assertFns := rfl

/-! ## The refinement: code path = specification -/

/-- `diff`, after the account total (`real_total` / `total`) and the earlier postings of
    the transaction have been subtracted, is AMOUNT minus the specification's running
    balance — in every commodity, for every log and every transaction prefix. -/
theorem C09.code_path_eq_spec_partial (log : List Entry) (earlier : List Posting) (p : Posting)
    (amt : Amount) (d : Balance)
    (hg : guardVirt Gen.Assert.virtualCountsSameXactReal earlier p = true)
    (h : codeDiff Gen.Assert.virtualCountsSameXactReal log earlier p.account (virt p) amt = .ok d) (c : Comm) :
    d.den c = amt.den c - specRunning c log earlier p.account (virt p) :=
  codeDiff_den _ log earlier p amt d h hg c

/-- The same without any guard once the source counts ordinary postings for a virtual assertion. -/
theorem C09.code_path_eq_spec (hf : Gen.Assert.virtualCountsSameXactReal = true)
    (log : List Entry) (earlier : List Posting) (p : Posting) (amt : Amount) (d : Balance)
    (h : codeDiff Gen.Assert.virtualCountsSameXactReal log earlier p.account (virt p) amt = .ok d) (c : Comm) :
    d.den c = amt.den c - specRunning c log earlier p.account (virt p) :=
  C09.code_path_eq_spec_partial log earlier p amt d (by simp [guardVirt, hf]) h c

/-! ## Assertions -/

/-- FULL STATEMENT: a posting `ACCT  a = amt` (amt commoditized) is accepted exactly when the
    specification's running balance plus the posting itself equals AMOUNT in AMOUNT's commodity. -/
def C09.AssertIffSpec : Prop :=
  ∀ (cx : Ctx) (log : List Entry) (earlier : List Posting) (p : Posting) (a amt : Amount),
    cx.permissive = false → p.amount = some a → p.assert = some amt → amt.hasComm = true →
    NoElidedEarlier earlier p.account →
    FineLog cx.env log → FinePosts cx.env earlier → fine cx.env a → fine cx.env amt →
    (checkPost cx log earlier p = .ok p ↔
      specRunning amt.comm log earlier p.account (virt p) + qtyIn amt.comm a = amt.q)

/-- The full statement with the two guards, for the source as it is. -/
theorem C09.assert_iff_spec_partial
    (cx : Ctx) (log : List Entry) (earlier : List Posting) (p : Posting) (a amt : Amount)
    (hperm : cx.permissive = false) (hpa : p.amount = some a) (hpas : p.assert = some amt)
    (hc : amt.hasComm = true) (hn : NoElidedEarlier earlier p.account)
    (hl : FineLog cx.env log) (hp : FinePosts cx.env earlier) (ha : fine cx.env a) (hamt : fine cx.env amt)
    (hg1 : guardVirt Gen.Assert.virtualCountsSameXactReal earlier p = true)
    (hg2 : guardComm Gen.Assert.ownAmountBeforeRestriction a amt = true) :
    checkPost cx log earlier p = .ok p ↔
      specRunning amt.comm log earlier p.account (virt p) + qtyIn amt.comm a = amt.q := by
  have := assert_core _ _ cx log earlier p a amt hperm hpa hpas hn hl hp ha hamt hg1 (fun _ => hg2)
  simpa [checkPost_eq, hc, qtyIn_eq_den] using this

/-- For an ORDINARY posting whose own amount is in AMOUNT's commodity the statement holds
    as it stands, whatever the flags. -/
theorem C09.assert_iff_spec_ordinary
    (cx : Ctx) (log : List Entry) (earlier : List Posting) (p : Posting) (a amt : Amount)
    (hperm : cx.permissive = false) (hpa : p.amount = some a) (hpas : p.assert = some amt)
    (hc : amt.hasComm = true) (hn : NoElidedEarlier earlier p.account)
    (hl : FineLog cx.env log) (hp : FinePosts cx.env earlier) (ha : fine cx.env a) (hamt : fine cx.env amt)
    (hreal : virt p = false) (hsame : a.comm = amt.comm) :
    checkPost cx log earlier p = .ok p ↔
      specRunning amt.comm log earlier p.account false + qtyIn amt.comm a = amt.q := by
  have := C09.assert_iff_spec_partial cx log earlier p a amt hperm hpa hpas hc hn hl hp ha hamt
    (by simp [guardVirt, hreal]) (by simp [guardComm, hsame])
  rw [hreal] at this; exact this

/-- The full statement holds for a source in which both interpreted statements are repaired. -/
theorem C09.assert_iff_spec (h1 : Gen.Assert.virtualCountsSameXactReal = true)
    (h2 : Gen.Assert.ownAmountBeforeRestriction = true) : C09.AssertIffSpec := by
  intro cx log earlier p a amt hperm hpa hpas hc hn hl hp ha hamt
  exact C09.assert_iff_spec_partial cx log earlier p a amt hperm hpa hpas hc hn hl hp ha hamt
    (by simp [guardVirt, h1]) (by simp [guardComm, h2])

/-- Witness 1 (DESIGN §9-7): A holds $10, `A  $5` then `(A)  $1 = $16` in one transaction.
    The assertion is true (10 + 5 + 1) and the pinned code path rejects it. -/
theorem C09.assert_iff_spec_refuted_virtual (h1 : Gen.Assert.virtualCountsSameXactReal = false) :
    ¬ C09.AssertIffSpec := by
  intro H
  have key := H W.cx W.log W.earlier W.pVirt (W.usd 1) (W.usd 16) rfl rfl rfl (by decide) W.noElided
    W.fineLog W.finePosts (W.fine_usd _) (W.fine_usd _)
  have hs : specRunning (W.usd 16).comm W.log W.earlier W.pVirt.account (virt W.pVirt)
      + qtyIn (W.usd 16).comm (W.usd 1) = (W.usd 16).q := by decide +kernel
  have hok := key.mpr hs
  have hbad : ∀ f2, checkPostF false f2 W.cx W.log W.earlier W.pVirt = .error .assertOff := by decide +kernel
  rw [checkPost_eq] at hok
  rw [h1, hbad] at hok
  cases hok

/-- Witness 2: A holds $10; `A  5 EUR = $10` is true (the $ balance of A is $10 after the
    posting) and the pinned code path rejects it ("off by -5 EUR"). -/
theorem C09.assert_iff_spec_refuted_commodity (h2 : Gen.Assert.ownAmountBeforeRestriction = false) :
    ¬ C09.AssertIffSpec := by
  intro H
  have key := H W.cx W.log [] W.pComm (W.eur 5) (W.usd 10) rfl rfl rfl (by decide) (W.noElidedNil _)
    W.fineLog W.finePostsNil (W.fine_eur _) (W.fine_usd _)
  have hs : specRunning (W.usd 10).comm W.log [] W.pComm.account (virt W.pComm)
      + qtyIn (W.usd 10).comm (W.eur 5) = (W.usd 10).q := by decide +kernel
  have hok := key.mpr hs
  have hbad : ∀ f1, checkPostF f1 false W.cx W.log [] W.pComm = .error .assertOff := by decide +kernel
  rw [checkPost_eq] at hok
  rw [h2, hbad] at hok
  cases hok

/-! ## Assignments -/

/-- FULL STATEMENT: a posting with only `= amt` receives exactly the amount, in AMOUNT's
    commodity, that makes the assertion true. -/
def C09.AssignMakesTrue : Prop :=
  ∀ (cx : Ctx) (log : List Entry) (earlier : List Posting) (p : Posting) (amt : Amount),
    p.amount = none → p.assert = some amt → amt.hasComm = true → NoElidedEarlier earlier p.account →
    FineLog cx.env log → FinePosts cx.env earlier → fine cx.env amt →
    ∃ x, checkPost cx log earlier p = .ok { p with amount := some x } ∧ x.comm = amt.comm ∧
      specRunning amt.comm log earlier p.account (virt p) + x.q = amt.q

theorem C09.assign_makes_true_partial
    (cx : Ctx) (log : List Entry) (earlier : List Posting) (p : Posting) (amt : Amount)
    (hpa : p.amount = none) (hpas : p.assert = some amt) (hc : amt.hasComm = true)
    (hn : NoElidedEarlier earlier p.account)
    (hl : FineLog cx.env log) (hp : FinePosts cx.env earlier) (hamt : fine cx.env amt)
    (hg1 : guardVirt Gen.Assert.virtualCountsSameXactReal earlier p = true) :
    ∃ x, checkPost cx log earlier p = .ok { p with amount := some x } ∧ x.comm = amt.comm ∧
      specRunning amt.comm log earlier p.account (virt p) + x.q = amt.q := by
  obtain ⟨x, h1, h2, h3, _⟩ := assign_core Gen.Assert.virtualCountsSameXactReal
    Gen.Assert.ownAmountBeforeRestriction cx log earlier p amt hpa hpas hc hn hl hp hamt hg1
  exact ⟨x, h1, h2, h3⟩

/-- The amount is determined: any amount of AMOUNT's commodity that makes the equality true is
    the assigned one. -/
theorem C09.assign_unique (c : Comm) (r t : Rat) (x y : Amount) (hx : x.comm = c) (hy : y.comm = c)
    (h1 : r + x.q = t) (h2 : r + y.q = t) : x.q = y.q ∧ x.comm = y.comm := by
  exact ⟨Rat.add_left_cancel r (h1.trans h2.symm), by rw [hx, hy]⟩

theorem C09.assign_makes_true (h1 : Gen.Assert.virtualCountsSameXactReal = true) : C09.AssignMakesTrue := by
  intro cx log earlier p amt hpa hpas hc hn hl hp hamt
  exact C09.assign_makes_true_partial cx log earlier p amt hpa hpas hc hn hl hp hamt (by simp [guardVirt, h1])

/-- Witness: A holds $10, `A  $5` then `(A)  = $16`: the posting must receive $1, the pinned
    code path gives it $6. -/
theorem C09.assign_makes_true_refuted_virtual (h1 : Gen.Assert.virtualCountsSameXactReal = false) :
    ¬ C09.AssignMakesTrue := by
  intro H
  obtain ⟨x, hx, _, hs⟩ := H W.cx W.log W.earlier W.pVirtAssign (W.usd 16) rfl rfl (by decide) W.noElided
    W.fineLog W.finePosts (W.fine_usd _)
  have hcode : ∀ f2, checkPostF false f2 W.cx W.log W.earlier W.pVirtAssign
      = .ok { W.pVirtAssign with amount := some (W.usd 6) } := by decide +kernel
  rw [checkPost_eq] at hx
  rw [h1, hcode] at hx
  have hx6 : x = W.usd 6 := by
    injection hx with hx
    have := congrArg Posting.amount hx
    simpa using this.symm
  subst hx6
  have : ¬ (specRunning (W.usd 16).comm W.log W.earlier W.pVirtAssign.account (virt W.pVirtAssign)
      + (W.usd 6).q = (W.usd 16).q) := by decide +kernel
  exact this hs

/-! ## Bare `0` -/

/-- Asserting a bare `0` requires every commodity of the account to be zero (the posting itself
    counted). -/
theorem C09.bare_zero_all_commodities_partial
    (cx : Ctx) (log : List Entry) (earlier : List Posting) (p : Posting) (a amt : Amount)
    (hperm : cx.permissive = false) (hpa : p.amount = some a) (hpas : p.assert = some amt)
    (hc : amt.hasComm = false) (hq : amt.q = 0) (hn : NoElidedEarlier earlier p.account)
    (hl : FineLog cx.env log) (hp : FinePosts cx.env earlier) (ha : fine cx.env a)
    (hg1 : guardVirt Gen.Assert.virtualCountsSameXactReal earlier p = true) :
    checkPost cx log earlier p = .ok p ↔
      ∀ c, specRunning c log earlier p.account (virt p) + qtyIn c a = 0 := by
  have hamt : fine cx.env amt := Or.inl hc
  have hg2 : amt.hasComm = true → guardComm Gen.Assert.ownAmountBeforeRestriction a amt = true :=
    fun h => absurd h (by simp [hc])
  have := assert_core _ _ cx log earlier p a amt hperm hpa hpas hn hl hp ha hamt hg1 hg2
  have hden : ∀ c, amt.den c = 0 := by intro c; simp [Amount.den, hq]
  simpa [checkPost_eq, hc, qtyIn_eq_den, hden] using this

/-- For an ordinary posting (no guard needed), and for every posting once the source is repaired. -/
theorem C09.bare_zero_all_commodities_ordinary
    (cx : Ctx) (log : List Entry) (earlier : List Posting) (p : Posting) (a amt : Amount)
    (hperm : cx.permissive = false) (hpa : p.amount = some a) (hpas : p.assert = some amt)
    (hc : amt.hasComm = false) (hq : amt.q = 0) (hn : NoElidedEarlier earlier p.account)
    (hl : FineLog cx.env log) (hp : FinePosts cx.env earlier) (ha : fine cx.env a) (hreal : virt p = false) :
    checkPost cx log earlier p = .ok p ↔ ∀ c, specRunning c log earlier p.account false + qtyIn c a = 0 := by
  have := C09.bare_zero_all_commodities_partial cx log earlier p a amt hperm hpa hpas hc hq hn hl hp ha
    (by simp [guardVirt, hreal])
  rw [hreal] at this; exact this

theorem C09.bare_zero_all_commodities (h1 : Gen.Assert.virtualCountsSameXactReal = true)
    (cx : Ctx) (log : List Entry) (earlier : List Posting) (p : Posting) (a amt : Amount)
    (hperm : cx.permissive = false) (hpa : p.amount = some a) (hpas : p.assert = some amt)
    (hc : amt.hasComm = false) (hq : amt.q = 0) (hn : NoElidedEarlier earlier p.account)
    (hl : FineLog cx.env log) (hp : FinePosts cx.env earlier) (ha : fine cx.env a) :
    checkPost cx log earlier p = .ok p ↔ ∀ c, specRunning c log earlier p.account (virt p) + qtyIn c a = 0 :=
  C09.bare_zero_all_commodities_partial cx log earlier p a amt hperm hpa hpas hc hq hn hl hp ha
    (by simp [guardVirt, h1])

/-- A posting with only `= 0`: whatever amount it receives zeroes every commodity of the account
    (when two or more commodities are non-zero no single amount can, and the block fails with
    "Cannot convert a balance with multiple commodities to an amount"). -/
theorem C09.bare_zero_assign_partial
    (cx : Ctx) (log : List Entry) (earlier : List Posting) (p : Posting) (amt x : Amount)
    (hpa : p.amount = none) (hpas : p.assert = some amt) (hc : amt.hasComm = false) (hq : amt.q = 0)
    (hl : FineLog cx.env log) (hp : FinePosts cx.env earlier)
    (hg1 : guardVirt Gen.Assert.virtualCountsSameXactReal earlier p = true)
    (h : checkPost cx log earlier p = .ok { p with amount := some x }) :
    ∀ c, specRunning c log earlier p.account (virt p) + qtyIn c x = 0 :=
  assign_bare_core _ _ cx log earlier p amt x hpa hpas hc hq hl hp (Or.inl hc) hg1 h

/-! ## What never enters: dates, sub-accounts, other accounts -/

/-- No date enters: replacing the dates (and auxiliary dates) of the transactions by anything
    at all, without touching the file order, changes neither the errors nor the posting log. -/
theorem C09.date_irrelevant (cx : Ctx) (xs : List Xact) (d : Xact → Int) (a : Xact → Option Int) :
    run cx (xs.map (fun x => { x with date := d x, aux := a x })) = run cx xs := by
  unfold run
  rw [List.foldl_map]
  -- `step` reads a transaction only through `runXact`, which reads its `posts` and `endLine`
  rfl

/-- Postings to sub-accounts of the asserted account (in the log or earlier in the same
    transaction) do not enter: the outcome is the same with and without them. -/
theorem C09.subaccounts_excluded (cx : Ctx) (l1 l2 : List Entry) (e : Entry) (e1 e2 : List Posting)
    (q p : Posting) (sub1 sub2 : String)
    (he : e.account = p.account ++ ":" ++ sub1) (hq : q.account = p.account ++ ":" ++ sub2) :
    checkPost cx (l1 ++ e :: l2) (e1 ++ q :: e2) p = checkPost cx (l1 ++ l2) (e1 ++ e2) p :=
  checkPost_insert_other cx l1 l2 e e1 e2 q p (by rw [he]; exact subaccount_ne _ _) (by rw [hq]; exact subaccount_ne _ _)

/-- Nor does any posting to any other account name (parents included). -/
theorem C09.other_accounts_excluded (cx : Ctx) (l1 l2 : List Entry) (e : Entry) (e1 e2 : List Posting)
    (q p : Posting) (he : e.account ≠ p.account) (hq : q.account ≠ p.account) :
    checkPost cx (l1 ++ e :: l2) (e1 ++ q :: e2) p = checkPost cx (l1 ++ l2) (e1 ++ e2) p :=
  checkPost_insert_other cx l1 l2 e e1 e2 q p he hq

/-! ## The permissive option -/

/-- With the permissive option an assertion is never compared: the posting is accepted whatever AMOUNT is. -/
theorem C09.permissive_skips (cx : Ctx) (hperm : cx.permissive = true) (log : List Entry)
    (earlier : List Posting) (p : Posting) (a amt : Amount) (hpa : p.amount = some a)
    (hpas : p.assert = some amt) (hn : NoElidedEarlier earlier p.account) :
    checkPost cx log earlier p = .ok p :=
  checkPostF_permissive_ok _ _ cx hperm log earlier p a amt hpa hpas hn

/-- … so no journal of any length ever reports "Balance assertion off by" under the permissive option … -/
theorem C09.permissive_never_off (cx : Ctx) (hperm : cx.permissive = true) (xs : List Xact) :
    ∀ e ∈ (run cx xs).errors, e.2 ≠ .assertOff :=
  foldl_step_errors cx (fun e => e.2 ≠ .assertOff) (fun log x e h => runXact_error_permissive cx hperm log x e h)
    xs ⟨[], []⟩ (fun e he => by cases he)

/-- … while assignments are computed exactly as without it. -/
theorem C09.permissive_leaves_assignments (cx : Ctx) (log : List Entry) (earlier : List Posting)
    (p : Posting) (hpa : p.amount = none) (b : Bool) :
    checkPost { cx with permissive := b } log earlier p = checkPost cx log earlier p :=
  checkPostF_permissive_assign _ _ cx log earlier p hpa b

/-! ## The posting log is the file order -/

/-- Reading more of the file only appends to the log: what an assertion sees of the earlier
    transactions is never reordered or altered later. -/
theorem C09.log_in_file_order (cx : Ctx) (xs ys : List Xact) : (run cx xs).log <+: (run cx (xs ++ ys)).log := by
  unfold run
  rw [List.foldl_append]
  exact foldl_step_log_prefix cx ys _

/-- An accepted transaction appends exactly its postings, in posting order … -/
theorem C09.accepted_appends (cx : Ctx) (xs : List Xact) (x : Xact) (es : List Entry)
    (h : runXact cx (run cx xs).log x = .ok es) : (run cx (xs ++ [x])).log = (run cx xs).log ++ es := by
  unfold run at h ⊢
  rw [List.foldl_append]
  simp only [List.foldl_cons, List.foldl_nil, step, h]

/-- … and a rejected one (failed assertion, does not balance) leaves no trace in any account. -/
theorem C09.rejected_leaves_no_trace (cx : Ctx) (xs : List Xact) (x : Xact) (e : Nat × AErr)
    (h : runXact cx (run cx xs).log x = .error e) :
    (run cx (xs ++ [x])).log = (run cx xs).log ∧ (run cx (xs ++ [x])).errors = (run cx xs).errors ++ [e] := by
  unfold run at h ⊢
  rw [List.foldl_append]
  simp only [List.foldl_cons, List.foldl_nil, step, h, and_self]

/-- The standing exactness hypothesis is an invariant of the run: in a journal (of any length)
    whose written amounts are within their display precision and which carries no costs, every
    posting that ever reaches an account — written, assigned or filled in for an elided amount —
    is exact, so `FineLog` holds for the log every later assertion sees. -/
theorem C09.log_fine (cx : Ctx) (xs : List Xact) (h : ∀ x ∈ xs, XFine cx.env x) : FineLog cx.env (run cx xs).log :=
  foldl_step_fine cx xs h ⟨[], []⟩ (fun e he => by cases he)

/-! ## Non-vacuity: concrete histories satisfying the hypotheses -/

-- A holds $10 (A:B $7); `A  $5` then `A  $1 = $16`: true, accepted; `= $17`: false, rejected.
example : checkPost W.cx W.log W.earlier W.pReal = .ok W.pReal := by decide +kernel
example : checkPost W.cx W.log W.earlier W.pRealFalse = .error .assertOff := by decide +kernel
-- the hypotheses of `C09.assert_iff_spec_ordinary` are satisfiable and its right-hand side is true here
example : specRunning "$" W.log W.earlier "A" false + qtyIn "$" (W.usd 1) = (W.usd 16).q := by decide +kernel
example : NoElidedEarlier W.earlier W.pReal.account ∧ FineLog W.cx.env W.log ∧ FinePosts W.cx.env W.earlier :=
  ⟨W.noElided, W.fineLog, W.finePosts⟩
-- assignment: `A  = $16` receives $1
example : checkPost W.cx W.log W.earlier W.pRealAssign = .ok { W.pRealAssign with amount := some (W.usd 1) } := by
  decide +kernel
-- bare zero: `A  $-15 = 0` is true
example : checkPost W.cx W.log W.earlier W.pZero = .ok W.pZero := by decide +kernel
-- guards: true of the benign postings, false of the witnesses exactly when the flags are unrepaired
example : guardVirt false W.earlier W.pReal = true ∧ guardVirt false W.earlier W.pVirt = false := by decide
example : guardComm false (W.usd 1) (W.usd 16) = true ∧ guardComm false (W.eur 5) (W.usd 10) = false := by
  decide +kernel
-- the permissive option
example : checkPost { W.cx with permissive := true } W.log W.earlier W.pRealFalse = .ok W.pRealFalse := by
  decide +kernel

end Ledger
