/-
C05 — balance, register and account-tree totals agree.

Every theorem is about `Model/Reports.lean` and holds for ALL finalised posting
lists `ps`, ALL valuations `f : RPost → Value` (the amount; the cost for `-B`;
anything else `--amount` could compute) and ALL posting predicates
`keep : RPost → Bool` (`--real`, `--cleared`, `--uncleared`, `--pending`,
account/payee queries, any `--limit`), with no bound on the number of postings,
accounts, commodities or the depth of the tree.  Identities are stated on the
denotation `Value.den : Value → Comm → Rat` (per commodity, exact), so the
bookkeeping of balances (zero entries, insertion order) is irrelevant.
`rsum` is the sum of a list of rationals; `under a q` says that account `a` is
`q` or an ancestor of `q`.

The hypotheses `… = .ok …` say that the report was produced; `C05.reports_defined`
shows that this is always the case for numeric valuations (in particular for
the amount and the cost), so no theorem is vacuous for any journal.

Tie to the source: `C05.chain_order` (the handler order constructed by chain.cc,
evaluated per scenario by tools/extract_reports.py, is the order the model
implements: limit filter → [collapse] → calc_posts → display), `C05.report_fns_pinned`
(the bodies of the mirrored C++ routines are the ones the model was written
against), the option tables of Gen/Chain.lean that the model interprets, and the
row-by-row differential check tools/props/c05.py.
-/
import LedgerModel.Lemmas.ReportsDefined
import LedgerModel.Gen.ReportFns
import LedgerModel.Model.ReportFnsPinned

namespace Ledger
open Reports

/-- In each of the 16 scenarios (register/balance × limit × depth × basis) the handlers chain.cc
    activates run in the order the model implements; in particular the `--limit` filter always
    precedes calc_posts, so a filtered posting never enters a running total or an account total. -/
theorem C05.chain_order :
    ∀ s ∈ allScenarios, Gen.Chain.execOrder.lookup s = some (assumedOrder s.1 s.2.1 s.2.2.1 s.2.2.2) := by
  decide +kernel

/-- The C++ routines mirrored by the model are textually the ones it was written against. -/
theorem C05.report_fns_pinned : Gen.reportFns = Pinned.reportFns := rfl

/-- `amount_expr`, `total_expr`, `display_amount`, `display_total` default to the amount and the
    running/account total; `-B` replaces the amount by the cost and nothing else. -/
theorem C05.default_exprs :
    Gen.Chain.amountExpr = ("amount_expr", "amount") ∧ Gen.Chain.totalExpr = ("total_expr", "total") ∧
    Gen.Chain.displayAmountExpr = ("display_amount", "amount_expr") ∧
    Gen.Chain.displayTotalExpr = ("display_total", "total_expr") ∧ Gen.Chain.basisExpr = "rounded(cost)" := by
  decide +kernel

/-- The register lists exactly the postings that pass the filter, in journal order, each with its value. -/
theorem C05.reg_rows_are_kept_postings (f : RPost → Value) (keep : RPost → Bool) (ps : List RPost)
    (rows : List RegRow) (hr : regRows f keep ps = .ok rows) :
    rows.map (fun r => (r.post, r.amount)) = (ps.filter keep).map (fun p => (p, f p)) :=
  regGo_posts f _ _ rows hr

/-- Every parent's total equals its own postings plus its children's totals. -/
theorem C05.total_eq_own_plus_children (f : RPost → Value) (keep : RPost → Bool) (ps : List RPost) (a : Path)
    (t own kids : Value) (ht : acctTotal f keep ps a = .ok t) (ho : acctAmount f keep ps a = .ok own)
    (hk : sumMapM (acctTotal f keep ps) (children ps a) .void = .ok kids) (c : Comm) :
    t.den c = own.den c + kids.den c := by
  have h1 := sumMapM_den (acctTotal f keep ps) (fun ch => gsum f keep c ps (under ch)) c (children ps a) .void kids hk
    (fun ch _ v hv => acctTotal_den f keep c ps ch v hv)
  rw [acctTotal_den f keep c ps a t ht, acctAmount_den f keep c ps a own ho, h1, gsum_children]
  show _ = _ + (0 + _)
  rw [Rat.zero_add]

/-- The recursion account_t::total performs (children's totals first, then the own amount, down the
    tree) computes exactly "own postings plus all descendants' postings". -/
theorem C05.total_rec_eq_total (f : RPost → Value) (keep : RPost → Bool) (ps : List RPost) (a : Path)
    (r t : Value) (hr : acctTotalRec f keep ps (maxLen ps) a = .ok r) (ht : acctTotal f keep ps a = .ok t) (c : Comm) :
    r.den c = t.den c := by
  rw [acctTotalRec_den f keep c ps (maxLen ps) a r (Nat.le_add_left _ _) hr, acctTotal_den f keep c ps a t ht]

/-- The balance of an account equals the exact sum of the amounts of the register's rows that
    post to the account or one of its sub-accounts. -/
theorem C05.bal_eq_sum_reg (f : RPost → Value) (keep : RPost → Bool) (ps : List RPost) (a : Path)
    (t : Value) (rows : List RegRow) (ht : acctTotal f keep ps a = .ok t) (hr : regRows f keep ps = .ok rows) (c : Comm) :
    t.den c = rsum ((rows.filter (fun r => under a r.post.path)).map (fun r => r.amount.den c)) := by
  rw [acctTotal_den f keep c ps a t ht, regRows_gsum f keep c ps (under a) rows hr]

/-- … and the amount shown for the account itself is the sum of the rows that post to exactly it. -/
theorem C05.amount_eq_sum_reg (f : RPost → Value) (keep : RPost → Bool) (ps : List RPost) (a : Path)
    (t : Value) (rows : List RegRow) (ht : acctAmount f keep ps a = .ok t) (hr : regRows f keep ps = .ok rows) (c : Comm) :
    t.den c = rsum ((rows.filter (fun r => decide (r.post.path = a))).map (fun r => r.amount.den c)) := by
  rw [acctAmount_den f keep c ps a t ht]
  exact (regRows_gsum f keep c ps (fun q => decide (q = a)) rows hr).symm

/-- Whatever `--flat` / `--depth` select for display, every row that IS displayed shows the sum of
    the register's rows to the account (amount) and to its subtree (total). -/
theorem C05.bal_rows_eq_sum_reg (o : BalOpts) (f : RPost → Value) (keep : RPost → Bool) (ps : List RPost)
    (brows : List BalRow) (rows : List RegRow) (hb : balRows o f keep ps = .ok brows)
    (hr : regRows f keep ps = .ok rows) (b : BalRow) (hmem : b ∈ brows) (c : Comm) :
    b.amount.den c = rsum ((rows.filter (fun r => decide (r.post.path = b.acct))).map (fun r => r.amount.den c)) ∧
    b.total.den c = rsum ((rows.filter (fun r => under b.acct r.post.path)).map (fun r => r.amount.den c)) := by
  obtain ⟨_, h1, h2⟩ := balRowsOf_mem f keep ps _ brows hb b hmem
  constructor
  · exact C05.amount_eq_sum_reg f keep ps b.acct b.amount rows h1 hr c
  · rw [acctTotalRec_den f keep c ps (maxLen ps) b.acct b.total (Nat.le_add_left _ _) h2,
      regRows_gsum f keep c ps (under b.acct) rows hr]

/-- The running total on row k is the sum of the amounts of rows 0..k. -/
theorem C05.running_total_prefix (f : RPost → Value) (keep : RPost → Bool) (ps : List RPost)
    (rows : List RegRow) (hr : regRows f keep ps = .ok rows) (k : Nat) (hk : k < rows.length) (c : Comm) :
    rows[k].total.den c = rsum ((rows.take (k + 1)).map (fun r => r.amount.den c)) := by
  rw [sumV_den _ _ (regGo_total f _ .void rows hr k hk) c, List.map_take, ← regGo_amounts f _ _ rows hr,
    ← List.map_take, List.map_map]
  rfl

/-- The last running total of the register equals the balance report's grand total. -/
theorem C05.last_total_eq_grand_total (f : RPost → Value) (keep : RPost → Bool) (ps : List RPost)
    (rows : List RegRow) (g : Value) (hr : regRows f keep ps = .ok rows) (hg : grandTotal f keep ps = .ok g) (c : Comm) :
    (lastTotal rows).den c = g.den c := by
  have h2 : lastTotal rows = (rows.getLast?.map (·.total)).getD .void := by
    unfold lastTotal; cases rows.getLast? <;> rfl
  rw [h2, sumV_kept_den f keep c ps _ (regGo_last f _ .void rows hr), grandTotal_den f keep c ps g hg]

/-- `--flat` only regroups: the rows of `bal --flat` are the accounts that received postings, each with
    its own amount, and these amounts add up to the grand total. -/
theorem C05.flat_preserves_total (f : RPost → Value) (keep : RPost → Bool) (ps : List RPost)
    (brows : List BalRow) (g : Value) (hb : balRows flatOpts f keep ps = .ok brows)
    (hg : grandTotal f keep ps = .ok g) (c : Comm) :
    rsum (brows.map (fun b => b.amount.den c)) = g.den c := by
  have h := (balRowsOf_sum f keep ps (fun b => b.amount.den c) (fun a => gsum f keep c ps (fun q => decide (q = a)))
    (fun a am _ ham _ => acctAmount_den f keep c ps a am ham) _ brows hb).1
  rw [h, grandTotal_den f keep c ps g hg]
  unfold shownAccounts
  rw [rsum_shown, ← gsum_by_account]
  apply rsum_map_congr
  intro a _
  rw [shown_flat]
  cases hv : visited keep ps a
  · simp only [Bool.false_eq_true, if_false]
    exact (gsum_of_any_false f keep c ps (fun q => decide (q = a)) hv).symm
  · simp

/-- `--depth N` only regroups: cutting the displayed tree at depth N (own amounts above the cut,
    totals at the cut; nothing is displayed below it) still adds up to the grand total. -/
theorem C05.depth_preserves_total (N : Nat) (hN : 1 ≤ N) (f : RPost → Value) (keep : RPost → Bool) (ps : List RPost)
    (brows : List BalRow) (g : Value) (hb : balRows (depthOpts N) f keep ps = .ok brows)
    (hg : grandTotal f keep ps = .ok g) (c : Comm) :
    (∀ b ∈ brows, b.acct.length ≤ N) ∧
    rsum (brows.map (fun b => if b.acct.length < N then b.amount.den c else b.total.den c)) = g.den c := by
  constructor
  · intro b hmem
    obtain ⟨hin, _, _⟩ := balRowsOf_mem f keep ps _ brows hb b hmem
    unfold shownAccounts at hin
    have hs := (List.mem_filter.mp hin).2
    cases Nat.lt_or_ge N b.acct.length with
    | inl hlt => rw [shown_deep N keep ps _ b.acct hlt] at hs; cases hs
    | inr hle => exact hle
  · have h := (balRowsOf_sum f keep ps (fun b => if b.acct.length < N then b.amount.den c else b.total.den c)
      (cutTerm f keep c ps N)
      (fun a am tot ham htot => by
        unfold cutTerm
        simp only [acctAmount_den f keep c ps a am ham, acctTotalRec_den f keep c ps (maxLen ps) a tot (Nat.le_add_left _ _) htot])
      _ brows hb).1
    rw [h, grandTotal_den f keep c ps g hg]
    unfold shownAccounts
    rw [rsum_shown, ← gsum_cut f keep c ps N hN]
    apply rsum_map_congr
    intro a _
    exact cut_shown_term f keep c ps N (maxLen ps) a

/-- `--flat` and `--depth` only regroup rows; the grand total itself does not depend on them at all
    (`grandTotal` has no such argument). -/
theorem C05.depth_flat_preserve_total (N : Nat) (hN : 1 ≤ N) (f : RPost → Value) (keep : RPost → Bool) (ps : List RPost)
    (frows drows : List BalRow) (g : Value) (hf : balRows flatOpts f keep ps = .ok frows)
    (hd : balRows (depthOpts N) f keep ps = .ok drows) (hg : grandTotal f keep ps = .ok g) (c : Comm) :
    rsum (frows.map (fun b => b.amount.den c)) = g.den c ∧
    rsum (drows.map (fun b => if b.acct.length < N then b.amount.den c else b.total.den c)) = g.den c :=
  ⟨C05.flat_preserves_total f keep ps frows g hf hg c, (C05.depth_preserves_total N hN f keep ps drows g hd hg c).2⟩

/-- `reg --depth N` (collapse_posts) only regroups too: the rows a transaction is collapsed into, one per
    depth-N account, carry exactly the sum of the transaction's postings, so running totals at
    transaction boundaries and the final total are those of the uncollapsed register. -/
theorem C05.collapse_preserves_sum (f : RPost → Value) (n : Nat) (g : List RPost) (rows : List (Path × Value))
    (h : collapseXact f n g = .ok rows) (c : Comm) :
    rsum (rows.map (fun r => r.2.den c)) = rsum (g.map (fun p => (f p).den c)) := by
  unfold collapseXact at h
  rw [(collapseGo_sum f n c g _ rows h).1]
  have := gsum_partition f (fun _ => true) c g (fun q => some (truncPath n q)) (dedup (g.map (fun p => truncPath n p.path)))
    (nodup_dedup _) (by
      intro p hp k hk
      cases hk
      rw [mem_dedup]
      exact List.mem_map.mpr ⟨p, hp, rfl⟩)
  have h2 : rsum ((dedup (g.map (fun p => truncPath n p.path))).map
        (fun k => gsum f (fun _ => true) c g (fun q => decide (truncPath n q = k)))) =
      rsum ((dedup (g.map (fun p => truncPath n p.path))).map
        (fun k => gsum f (fun _ => true) c g (fun q => decide (some (truncPath n q) = some k)))) := by
    apply rsum_map_congr
    intro k _
    apply gsum_congr
    intro p _
    simp
  rw [h2, this]
  unfold gsum wt
  apply rsum_map_congr
  intro p _
  simp

/-- Stripping lot annotations moves every quantity from its lot commodity `x` to the stripped
    commodity `s x` and does nothing else: at a stripped commodity `c` one sees the sum of all lots
    that strip to `c`. -/
theorem C05.strip_den (s : Comm → Comm) (hs : s "" = "") (v : Value) (c : Comm) :
    (stripV s v).den c = denOnV (fun x => decide (s x = c)) v := by
  rw [den_eq_denOnV, denOnV_strip _ s hs]

/-- Stripping then summing = summing then stripping (what the report shows as a total of stripped
    amounts is the stripped total), commodity by commodity. -/
theorem C05.strip_annotations_hom (s : Comm → Comm) (hs : s "" = "") (vs : List Value) (t t' : Value)
    (ht : sumV vs = .ok t) (ht' : sumV (vs.map (stripV s)) = .ok t') (c : Comm) :
    (stripV s t).den c = t'.den c := by
  rw [C05.strip_den s hs, sumV_denOn _ vs t ht, sumV_den _ t' ht' c, List.map_map]
  apply rsum_map_congr
  intro v _
  exact (C05.strip_den s hs v c).symm

/-- Showing lots refines a total but never changes its per-commodity sum: for any notion of base
    commodity that stripping respects, the amount held in base commodity `B` is the same before and
    after stripping (so `--lots`, `--lot-prices`, `--lot-dates` and no option at all agree on it). -/
theorem C05.strip_preserves_base_sum (s base : Comm → Comm) (hs : s "" = "") (hb : ∀ x, base (s x) = base x)
    (v : Value) (B : Comm) :
    denOnV (fun x => decide (base x = B)) (stripV s v) = denOnV (fun x => decide (base x = B)) v := by
  rw [denOnV_strip _ s hs]
  simp only [hb]

/-- … in particular for the total of any list of values. -/
theorem C05.lots_refine_total (s base : Comm → Comm) (hs : s "" = "") (hb : ∀ x, base (s x) = base x)
    (vs : List Value) (t t' : Value) (ht : sumV vs = .ok t) (ht' : sumV (vs.map (stripV s)) = .ok t') (B : Comm) :
    denOnV (fun x => decide (base x = B)) t' = denOnV (fun x => decide (base x = B)) t := by
  rw [sumV_denOn _ _ t' ht', sumV_denOn _ vs t ht, List.map_map]
  apply rsum_map_congr
  intro v _
  exact C05.strip_preserves_base_sum s base hs hb v B

/-- The null commodity is never annotated: the model's strip function satisfies `s "" = ""`. -/
theorem C05.strip_null (k : Keep) : stripComm k "" = "" := by
  simp [stripComm]

/-- Non-vacuity for every journal: with a numeric valuation (the amount and the cost are) every
    report of the model is defined, so the `= .ok` hypotheses above can always be met. -/
theorem C05.reports_defined (f : RPost → Value) (hf : ∀ p, isNum (f p) = true) (keep : RPost → Bool)
    (ps : List RPost) (o : BalOpts) (a : Path) :
    (∃ rows, regRows f keep ps = .ok rows) ∧ (∃ t, acctTotal f keep ps a = .ok t) ∧
    (∃ t, acctAmount f keep ps a = .ok t) ∧ (∃ g, grandTotal f keep ps = .ok g) ∧
    (∃ brows, balRows o f keep ps = .ok brows) ∧
    (∃ kids, sumMapM (acctTotal f keep ps) (children ps a) .void = .ok kids) := by
  refine ⟨regGo_defined f hf _ .void rfl, ?_, ?_, ?_, balRowsOf_defined f hf keep ps _, ?_⟩
  · obtain ⟨r, h, _⟩ := sumV_map_isNum f hf (ps.filter (fun p => keep p && under a p.path)); exact ⟨r, h⟩
  · obtain ⟨r, h, _⟩ := sumV_map_isNum f hf (ps.filter (fun p => keep p && decide (p.path = a))); exact ⟨r, h⟩
  · obtain ⟨r, h, _⟩ := acctTotalRec_isNum f hf keep ps (maxLen ps) []; exact ⟨r, h⟩
  · obtain ⟨r, h, _⟩ := sumMapM_isNum (acctTotal f keep ps) (children ps a) .void rfl
      (fun k _ => sumV_map_isNum f hf (ps.filter (fun p => keep p && under k p.path)))
    exact ⟨r, h⟩

/-- The two valuations of the C05 option set are numeric. -/
theorem C05.valuations_numeric (p : RPost) : isNum (valAmount p) = true ∧ isNum (valCost p) = true :=
  ⟨valAmount_isNum p, valCost_isNum p⟩

/-! Non-vacuity on concrete values. -/

example : sumV [.amt ⟨5, 0, false, "AAA{5/1 $}[2020/01/05](lotA)"⟩, .amt ⟨-2, 0, false, "AAA{6/1 $}[2020/01/06]()"⟩,
                .amt ⟨7/2, 2, false, "$"⟩] =
    .ok (.bal [⟨5, 0, false, "AAA{5/1 $}[2020/01/05](lotA)"⟩, ⟨-2, 0, false, "AAA{6/1 $}[2020/01/06]()"⟩, ⟨7/2, 2, false, "$"⟩]) := by
  decide +kernel

example : stripV (fun c => if c = "$" then "$" else "AAA")
      (.bal [⟨5, 0, false, "AAA{5/1 $}[2020/01/05](lotA)"⟩, ⟨-2, 0, false, "AAA{6/1 $}[2020/01/06]()"⟩, ⟨7/2, 2, false, "$"⟩]) =
    .bal [⟨3, 0, false, "AAA"⟩, ⟨7/2, 2, false, "$"⟩] := by
  decide +kernel

example : assumedOrder false true true true =
    ["filter_posts:limit_", "collapse_posts", "calc_posts", "changed_value_posts", "filter_posts:display_", "display_filter_posts"] := rfl

end Ledger
