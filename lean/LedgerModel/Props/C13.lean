/-
C13 — period reports partition the timeline.

Model: `Model/Period.lean` mirrors date_duration_t::add / find_nearest and
date_interval_t::resolve_end / stabilize / find_period / operator++ (times.cc,
times.h) and the interval_posts walk (filters.cc) step by step; `Ledger.Cal` is
boost's proleptic Gregorian calendar with its end-of-month snap.  `Inv`
(Lemmas/PeriodInterval.lean) is the state of an interval once `stabilize` has
run; `Fresh` is the interval as the period parser leaves it.

Every theorem below is for all dates, all lengths, all week starts 0..6, all
posting lists — the only guard is `0 < length`.  For length 0 the guard is
necessary: `C13.zero_length_add`, `C13.zero_length_diverges` (the stabilize
loop's measure does not decrease; ledger hangs on `-p "every 0 days"`).

Tie to the source: `C13.code_pinned` (text of the mirrored routines),
`C13.keyword_table` / `C13.add_matches_source` (tables re-extracted on every run),
and the differential check tools/props/c13.py.
-/
import LedgerModel.Lemmas.PeriodInterval
import LedgerModel.Model.Proto
import LedgerModel.Gen.PeriodCode
import LedgerModel.Model.PeriodCodePinned

namespace Ledger
open Period Cal

/-- The routines found in the working tree are the ones the model mirrors. -/
theorem C13.code_pinned : Gen.periodCode = Pinned.periodCode := rfl

/-- The period keywords and `every` cases of the parser are the ones the property names:
    yearly, quarterly, bimonthly = 2 months, monthly, biweekly = 2 weeks, weekly, daily. -/
theorem C13.keyword_table :
    Gen.periodKeywords = [("yearly", "YEARS", 1), ("quarterly", "QUARTERS", 1), ("bimonthly", "MONTHS", 2),
      ("monthly", "MONTHS", 1), ("biweekly", "WEEKS", 2), ("weekly", "WEEKS", 1), ("daily", "DAYS", 1)] ∧
    Gen.everyPlural = [("years", "YEARS"), ("quarters", "QUARTERS"), ("months", "MONTHS"), ("weeks", "WEEKS"), ("days", "DAYS")] ∧
    Gen.everySingular = [("year", "YEARS"), ("quarter", "QUARTERS"), ("month", "MONTHS"), ("week", "WEEKS"), ("day", "DAYS")] :=
  ⟨rfl, rfl, rfl⟩

/-- The period parser refuses `every 0 <quantum>` (the repair of the zero-length hang, DESIGN 9-3):
    a regression of that check in times.cc breaks this obligation. -/
theorem C13.zero_rejected : Gen.everyRejectsZero = true := rfl

/-- Every keyword of the regenerated table resolves to a duration of positive length. -/
theorem C13.keywords_positive :
    ∀ e ∈ Gen.periodKeywords, ∃ d, keywordDuration? e.1 = some d ∧ d.quantum.name = e.2.1 ∧ d.length = e.2.2 ∧ 0 < d.length := by
  decide +kernel

/-- The model's `add` is `date_duration_t::add` as the working tree has it (boost days /
    weeks / months / 3·months / years of `length`). -/
theorem C13.add_matches_source (d : Duration) (n : Int) : addByTable Gen.durationAdd d n = some (d.add n) := by
  obtain ⟨q, len⟩ := d
  cases q <;> simp [addByTable, Gen.durationAdd, Quantum.name, Duration.add]

/-- Adding a duration of positive length moves strictly forward, for every quantum —
    including boost's month arithmetic (Jan 31 + 1 month = Feb 29, + 1 month = Mar 31). -/
theorem C13.add_strict_mono (d : Duration) (n : Int) (h : 0 < d.length) : n < d.add n :=
  Period.add_strict_mono d n h

/-- The guard is necessary: a zero length adds nothing. -/
theorem C13.zero_length_add (d : Duration) (n : Int) (h : d.length = 0) : d.add n = n :=
  Period.add_zero_length d n h

/-- … and then the loop of `stabilize` (times.cc `while (*start < *date)`) cannot end: with any
    amount of fuel the model answers `diverges`.  (Finding C13:zero-length-period.) -/
theorem C13.zero_length_diverges (iv0 : Interval) (hf : iv0.finish = none) (hz : iv0.duration.length = 0)
    (d s : Int) (hlt : s < d) (fuel : Nat) :
    stabLoop d fuel { iv0 with start := some s, eod := none, next := none } = .error .diverges :=
  stabLoop_zero_diverges iv0 hf hz d s hlt fuel none (Or.inl rfl)

/-- With a positive length `stabilize` terminates on every interval fresh from the parser,
    for every date, and establishes the invariant `Inv` when the date lies inside the bounds. -/
theorem C13.stabilize_terminates (sow : Int) (h0 : 0 ≤ sow) (h6 : sow ≤ 6) (align : Bool) (p : Period) (dur : Duration)
    (hpos : 0 < dur.length) (d : Int) :
    ∃ iv1, stabilize sow (some d) align (p.interval dur) = .ok iv1 ∧
      ((∀ b, p.rangeBegin = some b → b ≤ d) → (∀ f, p.rangeEnd = some f → d < f) → Inv iv1) := by
  obtain ⟨iv1, _, hst, hinv, _⟩ := stabilize_spec sow h0 h6 align (p.interval dur) (fresh_interval p dur) hpos d
  exact ⟨iv1, hst, hinv⟩

/-- Successive intervals are adjacent: the next interval starts where the current one ends,
    and ends one duration later unless cut at `finish`. -/
theorem C13.intervals_consecutive {iv iv' : Interval} (h : Inv iv) (hi : incr iv = .ok iv') {s' : Int}
    (hs : iv'.start = some s') :
    iv.eod = some s' ∧ iv'.eod = some (clipTo (iv.duration.add s') iv.finish) ∧ Inv iv' := by
  obtain ⟨s, nx, _, _, _, heod, hc⟩ := incr_cases h hi
  rcases hc with ⟨hltf, rfl⟩ | ⟨_, rfl⟩
  · simp only at hs; cases hs
    refine ⟨?_, rfl, inv_incr_step h hltf⟩
    rw [heod, clipTo_of_lt hltf]
  · simp at hs

/-- Every date from the first start up to `finish` lies in exactly one interval of the
    sequence produced by `++`. -/
theorem C13.intervals_cover_unique {iv : Interval} (h : Inv iv) {s d : Int} (hs : iv.start = some s) (hsd : s ≤ d)
    (hdf : ∀ f, iv.finish = some f → d < f) :
    ∃ k ivk sk ek, iter k iv = .ok ivk ∧ ivk.start = some sk ∧ ivk.eod = some ek ∧ sk ≤ d ∧ d < ek ∧
      ∀ k' ivk' sk' ek', iter k' iv = .ok ivk' → ivk'.start = some sk' → ivk'.eod = some ek' → sk' ≤ d → d < ek' → k' = k := by
  obtain ⟨k, ivk, sk, ek, hk, hsk, hek, h1, h2⟩ := cover_exists d (gap d s) h hs hsd hdf (Nat.le_refl _)
  refine ⟨k, ivk, sk, ek, hk, hsk, hek, h1, h2, ?_⟩
  intro k' ivk' sk' ek' hk' hsk' hek' h1' h2'
  rcases Nat.lt_trichotomy k' k with hlt | heq | hgt
  · -- k' < k: interval k starts at or after the end of interval k'
    exact absurd (Int.lt_of_lt_of_le h2' (Int.le_trans (iter_after h hlt hk' hek' hk hsk) h1)) (Int.lt_irrefl _)
  · exact heq
  · exact absurd (Int.lt_of_lt_of_le h2 (Int.le_trans (iter_after h hgt hk hek hk' hsk') h1')) (Int.lt_irrefl _)

/-- Without `--align-intervals` (or without a `from` date) the first interval is a step of
    an aligned sequence — months, quarters, years from the first day of a month, quarter,
    year; weeks from the configured first weekday — cut at the `from` bound; with
    `--align-intervals` and a `from` date the sequence is anchored at the date the interval
    is stabilized on (the `from` date in a report).  Every later start is a whole number of
    durations after the unclipped first start, hence aligned in the same way. -/
theorem C13.aligned_starts (sow : Int) (h0 : 0 ≤ sow) (h6 : sow ≤ 6) (align : Bool) (p : Period) (dur : Duration)
    (hpos : 0 < dur.length) (d : Int)
    (hbd : ∀ b, p.rangeBegin = some b → b ≤ d) (hdf : ∀ f, p.rangeEnd = some f → d < f) :
    ∃ iv1 u, stabilize sow (some d) align (p.interval dur) = .ok iv1 ∧ u ≤ d ∧ d < dur.add u ∧
      iv1.start = some (clippedStart u p.rangeBegin) ∧
      ((align && p.sinceSpecified) = true → u = d) ∧
      ((align && p.sinceSpecified) = false → AlignedDate sow dur.quantum u) ∧
      ∀ k ivk s, iter (k + 1) iv1 = .ok ivk → ivk.start = some s →
        s = stepsFrom dur (k + 1) u ∧ ((align && p.sinceSpecified) = false → AlignedDate sow dur.quantum s) := by
  obtain ⟨iv1, u, hst, hinv, hs1, hf, _, hdur, hnx, hu1, hu2, hA, hB⟩ :=
    stabilize_spec sow h0 h6 align (p.interval dur) (fresh_interval p dur) hpos d
  refine ⟨iv1, u, hst, hu1, hu2, hs1, hA, hB, ?_⟩
  intro k ivk s hk hs
  have hnx' : iv1.next = some (iv1.duration.add u) ∨ iv1.next = some (clipTo (iv1.duration.add u) iv1.finish) := by
    rw [hdur, hf]; exact hnx
  have := iter_starts k (hinv hbd hdf) hnx' hk hs
  rw [hdur] at this
  exact ⟨this, fun hc => this ▸ stepsFrom_aligned sow dur (k + 1) u (hB hc)⟩

/-- Intervals are cut only at the stated bounds: the first interval starts at the step start
    `u` or at the `from` bound and ends one duration after `u` or at the `to` bound; every
    later interval is exactly one duration long or ends at the `to` bound. -/
theorem C13.clip_only_at_bounds (sow : Int) (h0 : 0 ≤ sow) (h6 : sow ≤ 6) (align : Bool) (p : Period) (dur : Duration)
    (hpos : 0 < dur.length) (d : Int)
    (hbd : ∀ b, p.rangeBegin = some b → b ≤ d) (hdf : ∀ f, p.rangeEnd = some f → d < f) :
    ∃ iv1 u s1 e1, stabilize sow (some d) align (p.interval dur) = .ok iv1 ∧ Inv iv1 ∧
      iv1.start = some s1 ∧ iv1.eod = some e1 ∧ iv1.finish = p.rangeEnd ∧ iv1.duration = dur ∧
      (s1 = u ∨ (p.rangeBegin = some s1 ∧ u < s1)) ∧
      (e1 = dur.add u ∨ (p.rangeEnd = some e1 ∧ e1 < dur.add u)) ∧
      ∀ k ivk ivk' s' e', iter k iv1 = .ok ivk → incr ivk = .ok ivk' → ivk'.start = some s' → ivk'.eod = some e' →
        ivk.eod = some s' ∧ (e' = dur.add s' ∨ (p.rangeEnd = some e' ∧ e' < dur.add s')) := by
  obtain ⟨iv1, u, hst, hinv, hs, hf, he, hdur, _⟩ :=
    stabilize_spec sow h0 h6 align (p.interval dur) (fresh_interval p dur) hpos d
  have hinv := hinv hbd hdf
  refine ⟨iv1, u, _, _, hst, hinv, hs, he, hf, hdur, clippedStart_cases u p.rangeBegin, clipTo_cases _ p.rangeEnd, ?_⟩
  intro k ivk ivk' s' e' hk hi hs' he'
  have hinvk := inv_iter k hinv hk
  obtain ⟨c1, c2, _⟩ := C13.intervals_consecutive hinvk hi hs'
  have hfk := iter_fields k hinv hk
  rw [c2, hfk.1, hfk.2, hf, hdur] at he'
  cases he'
  exact ⟨c1, clipTo_cases _ p.rangeEnd⟩

/-- The interval `find_period` assigns to a date contains that date.  (Guard: the date is
    not `finish` itself; `find_period` lets `date == finish` through its first test, see
    `C13.find_period_at_finish`.  Reports never pass such a date: the limit predicate of
    `normalize_period` is `date < end`.) -/
theorem C13.find_period_correct {sow d : Int} {align allow : Bool} {iv iv' : Interval}
    (h : findPeriod sow d align allow iv = .ok (true, iv')) (hne : ∀ f, iv'.finish = some f → d ≠ f) :
    ∃ s e, iv'.start = some s ∧ iv'.eod = some e ∧ s ≤ d ∧ d < e := by
  unfold findPeriod at h
  cases hst : stabilize sow (some d) align iv with
  | error err => rw [hst] at h; cases h
  | ok iv1 =>
    rw [hst] at h
    simp only at h
    cases hnp : afterFinish iv1.finish d with
    | true => rw [hnp] at h; simp at h
    | false =>
    rw [hnp] at h
    simp only [Bool.false_eq_true, if_false] at h
    have hpf : ∀ f, iv1.finish = some f → d ≤ f := by
      intro f hf
      rw [hf] at hnp
      simp only [afterFinish, decide_eq_false_iff_not] at hnp
      exact Int.not_lt.1 hnp
    cases hs : iv1.start with
    | none => rw [hs] at h; cases h
    | some s =>
      rw [hs] at h
      simp only at h
      by_cases hds : d < s
      · simp [hds] at h
      · simp only [hds, if_false] at h
        cases he : iv1.eod with
        | none => rw [he] at h; simp at h
        | some e =>
          rw [he] at h
          simp only at h
          by_cases hde : d < e
          · simp only [hde, if_true, Except.ok.injEq, Prod.mk.injEq, true_and] at h
            subst h
            exact ⟨s, e, hs, he, Int.not_lt.1 hds, hde⟩
          · simp only [hde, if_false] at h
            obtain ⟨sc, eo, hiv, h1, h2⟩ := scanLoop_true d allow iv1 _ _ _ _ h
            rw [resolveEnd_scan] at hiv
            subst hiv
            refine ⟨sc, _, rfl, rfl, h1, ?_⟩
            exact clipTo_lt h2 fun f hf => Int.lt_iff_le_and_ne.2 ⟨hpf f hf, hne f hf⟩

/-- Whatever a period report shows, its rows taken together hold exactly the in-bounds
    postings, so for any quantity (the amount in one commodity posted to one account, say)
    the interval subtotals add up to the unperiodised total. -/
theorem C13.subtotals_sum {p : Period} {dur : Duration} {sow : Int} {align empty : Bool} {dates : List Int} {gs : List Group}
    (h : reportGroups p dur sow align empty dates = .ok gs) (f : Nat × Int → Rat) :
    total (fun g => total f g.members) gs = total f (inBoundsPosts p dates) := by
  have hflat := flush_flat h
  rw [← total_flatMap f Group.members gs, hflat]
  exact total_perm f (sortByDate_perm _)

/-- A period report with a positive length and a non-empty range is produced without error;
    each in-bounds posting appears in exactly one row (the rows' members are a permutation
    of the in-bounds postings) and that row's interval contains the posting's date. -/
theorem C13.postings_in_their_interval (sow : Int) (h0 : 0 ≤ sow) (h6 : sow ≤ 6) (align empty : Bool) (p : Period)
    (dur : Duration) (hpos : 0 < dur.length) (hbf : ∀ b f, p.rangeBegin = some b → p.rangeEnd = some f → b < f)
    (dates : List Int) :
    ∃ gs, reportGroups p dur sow align empty dates = .ok gs ∧
      (∀ g ∈ gs, ∀ m ∈ g.members, g.start ≤ m.2 ∧ m.2 < g.eod) ∧
      (gs.flatMap Group.members).Perm (inBoundsPosts p dates) := by
  have hmem : ∀ x ∈ inBoundsPosts p dates, inBounds p x.2 = true := by
    intro x hx; simp only [inBoundsPosts, List.mem_filter] at hx; exact hx.2
  obtain ⟨gs, hgs, hok, hflat⟩ := flush_spec sow h0 h6 align empty (p.interval dur) (fresh_interval p dur) hpos
    (inBoundsPosts p dates) hbf
    (by
      intro x hx b hb
      have := hmem x hx
      simp only [inBounds, Bool.and_eq_true] at this
      have h1 := this.1
      change p.rangeBegin = some b at hb
      rw [hb] at h1
      simpa using h1)
    (by
      intro x hx f hf
      have := hmem x hx
      simp only [inBounds, Bool.and_eq_true] at this
      have h2 := this.2
      change p.rangeEnd = some f at hf
      rw [hf] at h2
      simpa using h2)
  refine ⟨gs, hgs, hok, ?_⟩
  rw [hflat]; exact sortByDate_perm _

/-- `witnessInterval` (`monthly from 2020/01/01 to 2020/03/15` stabilized on its `from` date,
    [2020-01-01, 2020-02-01) with `finish` 2020-03-15) is the interval `stabilize` produces, and it
    satisfies the invariant. -/
theorem C13.witness_stabilized :
    stabilize 0 (some 18262) false
      (({ duration := some ⟨.months, 1⟩, rangeBegin := some 18262, rangeEnd := some 18336, sinceSpecified := true } : Period).interval
        ⟨.months, 1⟩) = .ok witnessInterval ∧ Inv witnessInterval := by
  refine ⟨by decide +kernel, rfl, by decide, ?_, ?_⟩
  · intro e he; cases he; decide
  · intro s hs; cases hs; exact ⟨18293, rfl, by decide, by decide⟩

/-- Without its guard `find_period_correct` fails: asked for the date equal to `finish`
    (2020-03-15), `find_period` answers true and leaves [2020-03-01, 2020-03-15), which does
    not contain it (times.cc: the first test is `date > *finish`, the scan then cuts the
    interval at `finish`). -/
theorem C13.find_period_at_finish :
    findPeriod 0 18336 false true witnessInterval =
      .ok (true, { witnessInterval with start := some 18322, eod := some 18336, next := some 18336 }) ∧
    ¬ ((18336 : Int) < 18336) := by
  refine ⟨by decide +kernel, by decide⟩

/-- A whole report on the same period: postings dated 2020-01-01, 2020-02-08, 2020-03-14
    fall in three consecutive rows; the postings dated on the `to` bound and before the
    `from` bound are outside the report. -/
example :
    reportGroups { duration := some ⟨.months, 1⟩, rangeBegin := some 18262, rangeEnd := some 18336, sinceSpecified := true }
        ⟨.months, 1⟩ 0 false true [18262, 18300, 18335, 18336, 18200] =
      .ok [⟨18262, 18293, [(0, 18262)]⟩, ⟨18293, 18322, [(1, 18300)]⟩, ⟨18322, 18336, [(2, 18335)]⟩] := by
  decide +kernel

/-- `every 2 weeks from 2020/01/10` with Monday as first weekday: the first row is cut at the
    `from` bound, [2020-01-10, 2020-01-13), later rows start on Mondays; an empty interval is
    reported under `--empty`. -/
example :
    reportGroups { duration := some ⟨.weeks, 2⟩, rangeBegin := some 18271, rangeEnd := none, sinceSpecified := true }
        ⟨.weeks, 2⟩ 1 false true [18276, 18290] =
      .ok [⟨18271, 18274, []⟩, ⟨18274, 18288, [(0, 18276)]⟩, ⟨18288, 18302, [(1, 18290)]⟩] := by
  decide +kernel

/-- month-end arithmetic: Jan 31 + 1 month = Feb 29 (2020), + 1 month = Mar 31 -/
example : (⟨.months, 1⟩ : Duration).add (ofYMD 2020 1 31) = ofYMD 2020 2 29 ∧
    (⟨.months, 1⟩ : Duration).add (ofYMD 2020 2 29) = ofYMD 2020 3 31 := by decide +kernel

/-- `every 0 months` stabilized on 2020-03-03: the model's loop runs out of every fuel. -/
example : stabilize 0 (some 18324) false
    (({ duration := some ⟨.months, 0⟩, rangeBegin := none, rangeEnd := none, sinceSpecified := false } : Period).interval ⟨.months, 0⟩)
    = .error .diverges := by decide +kernel

end Ledger
