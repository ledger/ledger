/-
C08 — aggregate reports do not depend on input order or file layout.

Model: Model/OrderFree.lean (`OF.load`: fold of the directive step; `OF.loadFile`: the
same over a virtual file tree with include directives; `OF.ownBalance`,
`OF.familyBalance`: `balance_t +=` over an account's postings; `OF.sortByDate`:
the stable date sort of the register; `OF.Pool`: learned commodity styles).

The fragment is the decidable predicate `OF.orderFree` (only plain transactions —
no assertion/assignment, automated transaction, apply/alias/bucket/year
directive — and `OF.styleConsistent` amounts).  All theorems quantify over ALL
journals of the fragment and ALL permutations (`List.Perm`); nothing is bounded.

Two hypotheses are forced by the code and are shown necessary on concrete
witnesses that the check replays on the real binary (they are documented excluded
points of the property's "order-free fragment", not findings):

* `styleConsistent` — amount parsing consults the DECIMAL_COMMA flag learned so
  far (amount.cc 1107-1172): `C08.style_guard_needed`;
* `exactlyBalanced` (only for the ACCEPTANCE statement) — `finalize` tests the
  balance at the display precision learned so far (xact.cc 377, amount.cc
  832-865): `C08.accept_order_dependent`; the full statement
  `C08.LoadPermAcceptedFull` is kept visible and refuted, the guarded one is
  `C08.load_perm_accepted_partial`.  Equality of balances needs no such guard
  (`C08.load_perm_balances`: whenever both orders are accepted).

Rows of the register are compared as denotations (sums per date, account and
commodity): a cancelled commodity kept as a zero entry by `balance_t +=` makes the
PRESENCE of a zero-amount generated row depend on the posting order (known finding
C08:zero-row:balance-keeps-zero-entry, root cause C03:zero-entry-balance), which a
sum does not see.
-/
import LedgerModel.Lemmas.OrderFree
import LedgerModel.Gen.OrderFree
import LedgerModel.Model.OrderFreePinned

namespace Ledger
open OF

/-- The C++ this model mirrors (include_directive, add_xact, add_post, amount_t::parse,
    finalize, sort_posts, sorted_amounts, assign_glob, …) is the text it was written against. -/
theorem C08.source_pinned : Gen.orderFreeFns = Pinned.orderFreeFns := rfl

/-- include_directive visits the matched files in sorted order (textual.cc 789-795). -/
theorem C08.include_order_is_sorted : Gen.includeSorted = true := rfl

/-- the commodity precision only ever grows to the precision of an observed amount (amount.cc 1193-1194). -/
theorem C08.precision_migrates_to_max : Gen.precMigrateIsMax = true := rfl

/-- observed style flags are OR-ed into the commodity (amount.cc 1191, flags.h). -/
theorem C08.flags_are_ored : Gen.flagsOred = true := rfl

/-- Per-account per-commodity sums over a posting list do not depend on its order. -/
theorem C08.coeff_perm {es es' : List Entry} (h : es'.Perm es) (a : String) (c : Comm) :
    coeff es' a c = coeff es a c := sumDen_perm _ c h

/-- The balance ledger accumulates for an account (`balance_t +=` over its postings in
    load order, zero entries and insertion order included) denotes exactly that sum. -/
theorem C08.balance_is_sum (es : List Entry) (a : String) (c : Comm) :
    (ownBalance es a).den c = coeff es a c := ownBalance_den es a c

/-- In the order-free fragment the postings of the loaded journal are a permutation of
    each other for any two orders of the transactions that are both accepted. -/
theorem C08.load_perm_entries {ds ds' : List Dir} (hf : orderFree ds = true) (hp : ds'.Perm ds)
    {s s' : State} (h : load ds = .ok s) (h' : load ds' = .ok s') : s'.entries.Perm s.entries := by
  rw [(load_ok hf (fun d hd => hd) h).1, (load_ok hf (fun d hd => hp.mem_iff.mp hd) h').1]
  exact hp.flatMap_right _

/-- `balances (load (perm ds)) = balances (load ds)`: every account's own balance and its
    total including sub-accounts have the same exact quantity in every commodity. -/
theorem C08.load_perm_balances {ds ds' : List Dir} (hf : orderFree ds = true) (hp : ds'.Perm ds)
    {s s' : State} (h : load ds = .ok s) (h' : load ds' = .ok s') (a : String) (c : Comm) :
    (ownBalance s'.entries a).den c = (ownBalance s.entries a).den c ∧
    (familyBalance s'.entries a).den c = (familyBalance s.entries a).den c := by
  have hperm := C08.load_perm_entries hf hp h h'
  rw [ownBalance_den, ownBalance_den, familyBalance_den, familyBalance_den]
  exact ⟨sumDen_perm _ c hperm, sumDen_perm _ c hperm⟩

/-- The internal precision counter ledger keeps for a commodity in an account's balance
    (`amount_t::operator+=` takes the larger counter of the two operands, amount.cc 436-438;
    zero amounts are skipped by `balance_t +=`) is the maximum over the account's nonzero
    postings of that commodity — this is what an amount WITHOUT commodity is displayed with. -/
theorem C08.balance_prec_is_max (es : List Entry) (a : String) (c : Comm) :
    balPrec (ownBalance es a) c = maxPrec c (es.filter (fun e => e.account = a)) 0 ∧
    balPrec (familyBalance es a) c = maxPrec c (es.filter (fun e => accountUnder e.account a)) 0 :=
  ⟨foldl_addAmt_prec _ [] c, foldl_addAmt_prec _ [] c⟩

/-- … hence independent of the order of the transactions: a commodity-less total such as
    1.5 + 0.25 is displayed with two decimals whichever posting was seen first. -/
theorem C08.load_perm_prec {ds ds' : List Dir} (hf : orderFree ds = true) (hp : ds'.Perm ds)
    {s s' : State} (h : load ds = .ok s) (h' : load ds' = .ok s') (a : String) (c : Comm) :
    balPrec (ownBalance s'.entries a) c = balPrec (ownBalance s.entries a) c ∧
    balPrec (familyBalance s'.entries a) c = balPrec (familyBalance s.entries a) c := by
  have hperm := C08.load_perm_entries hf hp h h'
  rw [(C08.balance_prec_is_max _ a c).1, (C08.balance_prec_is_max _ a c).1,
    (C08.balance_prec_is_max _ a c).2, (C08.balance_prec_is_max _ a c).2]
  exact ⟨maxPrec_perm c (hperm.filter _) 0, maxPrec_perm c (hperm.filter _) 0⟩

/-- The full acceptance statement: a rearrangement of an accepted journal of the fragment is accepted. -/
def C08.LoadPermAcceptedFull : Prop :=
  ∀ ds ds' : List Dir, orderFree ds = true → ds'.Perm ds → (load ds).isOk = true → (load ds').isOk = true

/-- Acceptance is order independent once every transaction balances exactly or has one
    elided posting (`exactlyBalanced`, decidable): every rearrangement is accepted. -/
theorem C08.load_perm_accepted_partial {ds ds' : List Dir} (hf : orderFree ds = true)
    (hx : exactlyBalanced ds = true) (hp : ds'.Perm ds) : ∃ s', load ds' = .ok s' := by
  obtain ⟨hc, hd⟩ := orderFree_hyps hf
  refine (loadFrom_fragment hc ds' State.init rfl (NeverDCOff_nil _) fun d h => hd d (hp.mem_iff.mp h)).2 ?_
  intro d h x hdx
  have := List.all_eq_true.mp hx d (hp.mem_iff.mp h)
  subst hdx
  exact this

/-- Replacing a transaction by one with the same postings in another order changes no
    sum of posting amounts selected by date and account — in particular no own
    balance, no family total, no per-date per-account register sum and no running
    total at a date boundary — whatever else is in the journal. -/
theorem C08.posting_perm_within_xact {pre post : List Dir} {x x' : WXact}
    (hf : orderFree (pre ++ .xact x :: post) = true) (hd : x'.date = x.date) (hp : x'.posts.Perm x.posts)
    {s s' : State} (h : load (pre ++ .xact x :: post) = .ok s) (h' : load (pre ++ .xact x' :: post) = .ok s')
    (P : Int → String → Bool) (c : Comm) :
    sumDen (fun e => P e.date e.account) c s'.entries = sumDen (fun e => P e.date e.account) c s.entries := by
  obtain ⟨hc, hdirs⟩ := orderFree_hyps hf
  have hd' : ∀ d ∈ pre ++ .xact x' :: post,
      d.plain = true ∧ ∀ wm ∈ amtsOfDir d, wm ∈ allAmounts (pre ++ .xact x :: post) := by
    intro d hmem
    rcases List.mem_append.mp hmem with hm | hm
    · exact hdirs d (List.mem_append_left _ hm)
    rcases List.mem_cons.mp hm with rfl | hm
    · obtain ⟨hpl, hsub⟩ := hdirs (.xact x) (List.mem_append_right _ List.mem_cons_self)
      exact ⟨hp.all_eq.trans hpl, fun wm hwm => hsub wm ((hp.flatMap_right _).mem_iff.mp hwm)⟩
    · exact hdirs d (List.mem_append_right _ (List.mem_cons_of_mem _ hm))
  rw [(load_ok hf (fun d hd => hd) h).1, (load_ok_of hc hd' h').1]
  simp only [List.flatMap_append, List.flatMap_cons, sumDen_append, dirEntries]
  rw [xactEntries_posts_perm x x' hd hp P c]

/-- The same as balances. -/
theorem C08.posting_perm_balances {pre post : List Dir} {x x' : WXact}
    (hf : orderFree (pre ++ .xact x :: post) = true) (hd : x'.date = x.date) (hp : x'.posts.Perm x.posts)
    {s s' : State} (h : load (pre ++ .xact x :: post) = .ok s) (h' : load (pre ++ .xact x' :: post) = .ok s')
    (a : String) (c : Comm) :
    (ownBalance s'.entries a).den c = (ownBalance s.entries a).den c ∧
    (familyBalance s'.entries a).den c = (familyBalance s.entries a).den c := by
  rw [ownBalance_den, ownBalance_den, familyBalance_den, familyBalance_den]
  exact ⟨C08.posting_perm_within_xact hf hd hp h h' (fun _ acct => acct = a) c,
         C08.posting_perm_within_xact hf hd hp h h' (fun _ acct => accountUnder acct a) c⟩

/-- Loading a virtual file tree (nested include directives, globs expanded in sorted
    order, one shared journal) is loading its flattening. -/
theorem C08.include_flatten (t : Tree) (fuel : Nat) (f : File) (ds : List Dir)
    (h : flattenFile t fuel f = .ok ds) : loadFile t fuel State.init f = load ds :=
  loadFile_flatten t fuel State.init f ds h

/-- Hence any two ways of cutting the same transactions into files — whose flattenings
    are then rearrangements of each other — give the same postings up to order, and so
    the same balances. -/
theorem C08.cut_irrelevant (t t' : Tree) (n n' : Nat) (f f' : File) {ds ds' : List Dir}
    (hfl : flattenFile t n f = .ok ds) (hfl' : flattenFile t' n' f' = .ok ds')
    (hf : orderFree ds = true) (hp : ds'.Perm ds) {s s' : State}
    (h : loadFile t n State.init f = .ok s) (h' : loadFile t' n' State.init f' = .ok s')
    (a : String) (c : Comm) :
    s'.entries.Perm s.entries ∧
    (ownBalance s'.entries a).den c = (ownBalance s.entries a).den c ∧
    (familyBalance s'.entries a).den c = (familyBalance s.entries a).den c := by
  rw [C08.include_flatten t n f ds hfl] at h
  rw [C08.include_flatten t' n' f' ds' hfl'] at h'
  exact ⟨C08.load_perm_entries hf hp h h', C08.load_perm_balances hf hp h h' a c⟩

/-- The style a commodity has after loading is the join (max precision, OR of flags)
    of the styles exhibited by its style-learning amounts, read canonically. -/
theorem C08.style_is_join {ds : List Dir} (hf : orderFree ds = true) {s : State} (h : load ds = .ok s)
    (c : Comm) : s.pool.get c = joinObs Style.zero (ds.flatMap obsD) c := by
  rw [(load_ok hf (fun d hd => hd) h).2, Pool.get_learnAll]; rfl

/-- … where the precision is the maximum and each flag the disjunction over the observed amounts. -/
theorem C08.style_max_or {ds : List Dir} (hf : orderFree ds = true) {s : State} (h : load ds = .ok s)
    (c : Comm) :
    let obs := (ds.flatMap obsD).filter (fun o => o.1 = c)
    (s.pool.get c).prec = (obs.map (fun o => o.2.prec)).foldl max 0 ∧
    (s.pool.get c).suffixed = obs.any (fun o => o.2.suffixed) ∧
    (s.pool.get c).separated = obs.any (fun o => o.2.separated) ∧
    (s.pool.get c).thousands = obs.any (fun o => o.2.thousands) ∧
    (s.pool.get c).decimalComma = obs.any (fun o => o.2.decimalComma) := by
  rw [C08.style_is_join hf h c]
  exact ⟨joinObs_field (·.prec) max (fun _ _ => rfl) Style.zero _ c,
    joinObs_flag (·.suffixed) (fun _ _ => rfl) Style.zero _ c,
    joinObs_flag (·.separated) (fun _ _ => rfl) Style.zero _ c,
    joinObs_flag (·.thousands) (fun _ _ => rfl) Style.zero _ c,
    joinObs_flag (·.decimalComma) (fun _ _ => rfl) Style.zero _ c⟩

/-- Display precision and style flags do not depend on the order in which the amounts were seen. -/
theorem C08.style_order_free {ds ds' : List Dir} (hf : orderFree ds = true) (hp : ds'.Perm ds)
    {s s' : State} (h : load ds = .ok s) (h' : load ds' = .ok s') (c : Comm) :
    s'.pool.get c = s.pool.get c := by
  rw [(load_ok hf (fun d hd => hd) h).2, (load_ok hf (fun d hd => hp.mem_iff.mp hd) h').2,
      Pool.get_learnAll, Pool.get_learnAll]
  exact joinObs_perm (hp.flatMap_right _) c

/-- After the STABLE date sort of two rearrangements of the same postings:
    (1) the rows of each date form the same multiset;
    (2) the running total when a date group ends is the same exact quantity per commodity;
    (3) inside one date the rows keep their input order (so byte equality is only
        claimed between date groups). -/
theorem C08.sorted_register_groups {es es' : List Entry} (h : es'.Perm es) (d : Int) :
    ((sortByDate es').filter (fun e => e.date = d)).Perm ((sortByDate es).filter (fun e => e.date = d)) ∧
    (∀ c, sumDen (fun _ => true) c ((sortByDate es').takeWhile (fun e => e.date ≤ d)) =
          sumDen (fun _ => true) c ((sortByDate es).takeWhile (fun e => e.date ≤ d))) ∧
    (sortByDate es).filter (fun e => e.date = d) = es.filter (fun e => e.date = d) := by
  refine ⟨?_, ?_, sortByDate_group es d⟩
  · rw [sortByDate_group, sortByDate_group]; exact h.filter _
  · intro c
    rw [takeWhile_eq_filter_of_sorted d _ (sortByDate_sorted es'),
        takeWhile_eq_filter_of_sorted d _ (sortByDate_sorted es)]
    exact sumDen_perm _ c ((((sortByDate_perm es').trans h).trans (sortByDate_perm es).symm).filter _)

/-- The register of a rearranged journal of the fragment: same per-date multisets of
    rows and same running totals at date boundaries. -/
theorem C08.sorted_register_load {ds ds' : List Dir} (hf : orderFree ds = true) (hp : ds'.Perm ds)
    {s s' : State} (h : load ds = .ok s) (h' : load ds' = .ok s') (d : Int) :
    ((sortByDate s'.entries).filter (fun e => e.date = d)).Perm
      ((sortByDate s.entries).filter (fun e => e.date = d)) ∧
    (∀ c, sumDen (fun _ => true) c ((sortByDate s'.entries).takeWhile (fun e => e.date ≤ d)) =
          sumDen (fun _ => true) c ((sortByDate s.entries).takeWhile (fun e => e.date ≤ d))) :=
  let r := C08.sorted_register_groups (C08.load_perm_entries hf hp h h') d
  ⟨r.1, r.2.1⟩

namespace C08W

def w (comm text : String) (neg : Bool := false) : WAmt :=
  { comm := comm, neg := neg, text := text, suffixed := true, separated := true }

def post (acct : String) (a : Option WAmt) (cost : Option WCost := none) : WPost :=
  { account := acct, kind := .real, amount := a, cost := cost, assert := none }

/-- `A  1,5 EUR` / `B` -/
def xComma : Dir := .xact { date := 18262, posts := [post "A" (some (w "EUR" "1,5")), post "B" none] }
/-- `C  1.000 EUR` / `D` -/
def xPeriod : Dir := .xact { date := 18263, posts := [post "C" (some (w "EUR" "1.000")), post "D" none] }
/-- `A  10 AAA @ 0.3333 EUR` / `B  -3.33 EUR` -/
def xSlack : Dir := .xact { date := 18262, posts :=
  [post "A" (some (w "AAA" "10")) (some { amt := w "EUR" "0.3333", perUnit := true }),
   post "B" (some (w "EUR" "3.33" true))] }
/-- `C  1.000 EUR` / `D  -1.000 EUR` -/
def xThree : Dir := .xact { date := 18263, posts :=
  [post "C" (some (w "EUR" "1.000")), post "D" (some (w "EUR" "1.000" true))] }

def balQ (r : Except LoadErr State) (a : String) (c : Comm) : Option Rat :=
  match r with
  | .ok s => some (((ownBalance s.entries a).find? c).map (·.q) |>.getD 0)
  | .error _ => none

end C08W

open C08W in
/-- Without `styleConsistent`: `1,5 EUR` then `1.000 EUR` books 1000 EUR on C, the reverse order 1 EUR. -/
theorem C08.style_guard_needed :
    balQ (load [xComma, xPeriod]) "C" "EUR" = some 1000 ∧
    balQ (load [xPeriod, xComma]) "C" "EUR" = some 1 ∧
    [xComma, xPeriod].all Dir.plain = true ∧ orderFree [xComma, xPeriod] = false := by
  decide +kernel

open C08W in
/-- Acceptance depends on the order when a transaction balances only at the display
    precision: `10 AAA @ 0.3333 EUR / -3.33 EUR` is accepted before EUR has been seen
    with three decimals and rejected after. -/
theorem C08.accept_order_dependent :
    orderFree [xSlack, xThree] = true ∧ exactlyBalanced [xSlack, xThree] = false ∧
    (load [xSlack, xThree]).isOk = true ∧ load [xThree, xSlack] = .error .unbalanced := by
  decide +kernel

open C08W in
/-- so the unguarded acceptance statement is false. -/
theorem C08.load_perm_accepted_full_false : ¬ C08.LoadPermAcceptedFull := by
  intro hfull
  have h := C08.accept_order_dependent
  have := hfull [xSlack, xThree] [xThree, xSlack] h.1 (List.Perm.swap _ _ _) h.2.2.1
  rw [h.2.2.2] at this
  cases this

namespace C08W

/-- `A:x  1,234.50 $` … a small journal of the fragment: three commodities, a cost, an
    elided posting that receives two commodities, a virtual posting. -/
def j1 : List Dir :=
  [ .xact { date := 18263, posts := [post "Assets:Cash" (some (w "EUR" "1,234.50")), post "Income" none] },
    .xact { date := 18262, posts :=
      [post "Assets:Broker" (some (w "AAA" "10")) (some { amt := w "EUR" "2.5", perUnit := true }),
       post "Assets:Cash" (some (w "EUR" "25.00" true))] },
    .xact { date := 18262, posts :=
      [post "Expenses" (some (w "EUR" "7.125")), post "Expenses" (some (w "BTC" "0.5")),
       { account := "Budget", kind := .virtual, amount := some (w "EUR" "9"), cost := none, assert := none },
       post "Assets:Cash" none] } ]

end C08W

open C08W in
example : orderFree j1 = true ∧ exactlyBalanced j1 = true ∧ (load j1).isOk = true ∧
    balQ (load j1) "Assets:Cash" "EUR" = some ((1234.5 : Rat) - 25 - 7.125) ∧
    balQ (load j1) "Assets:Cash" "BTC" = some (-(1/2 : Rat)) ∧
    balQ (load j1.reverse) "Assets:Cash" "EUR" = some ((1234.5 : Rat) - 25 - 7.125) ∧
    ((load j1).toOption.map (fun s => s.pool.get "EUR")) =
      some { prec := 3, suffixed := true, separated := true, thousands := true, decimalComma := false } := by
  decide +kernel

open C08W in
/-- a file tree with a glob include and a nested include flattens and loads. -/
example :
    let t : Tree :=
      [ { dir := [], name := "main.ledger", items := [.incl ["inc"] "*.dat", .dir (j1.getD 0 xComma)] },
        { dir := ["inc"], name := "b.dat", items := [.dir (j1.getD 2 xComma)] },
        { dir := ["inc"], name := "a.dat", items := [.incl ["sub"] "n.dat"] },
        { dir := ["inc", "sub"], name := "n.dat", items := [.dir (j1.getD 1 xComma)] } ]
    (flattenFile t 4 (t.getD 0 ⟨[], "", []⟩)).toOption = some [j1.getD 1 xComma, j1.getD 2 xComma, j1.getD 0 xComma] ∧
    (loadFile t 4 State.init (t.getD 0 ⟨[], "", []⟩)).isOk = true := by
  decide +kernel

end Ledger
