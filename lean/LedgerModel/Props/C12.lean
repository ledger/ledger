/-
C12 — errors are located, counted and never yield a partial report.

Statements are about the loader model of Model/Errors.lean (`load`, `loadFile`,
`loadRoots`, `run`), for every checking style, every file body (any number of
items, includes nested to any depth) and every report text.  "Invalid item" is
`Located.invalid cfg` (its kind is an error under the checking style);
`invalidItems cfg f` lists them in reading order with their file and include
chain.  The accounting shapes (`Gen.errorsPerCatch`, `Gen.errorFlagSetInCatch`,
`Gen.stopAfterFaultyFile`) and the exit-status expression
(`Gen.exitStatusShape`) are re-extracted from the working tree on every run, so
these theorems are re-proved against what the source says now.
-/
import LedgerModel.Lemmas.Errors
import LedgerModel.Gen.ErrorFns
import LedgerModel.Model.ErrorFnsPinned

namespace Ledger
open Errors

/-- The routines of textual.cc / global.cc / journal.cc / session.cc / error.cc / main.cc that
    the model mirrors are, in the working tree, the text the model was written against (the
    two interpreted places — main.cc's `error_count` handler and session.cc's per-file loop —
    are read into `Gen.exitStatusShape` / `Gen.stopAfterFaultyFile` instead). -/
theorem C12.error_fns_pinned : Gen.errorFns = Pinned.errorFns := rfl

/-- Obligation on the working tree: the catch block of `instance_t::parse` counts
    one error per caught exception and sets `error_flag`. -/
theorem C12.accounting_shape : Gen.errorsPerCatch = 1 ∧ Gen.errorFlagSetInCatch = true :=
  ⟨per_catch, flag_set⟩

/-- The error count of a file (includes expanded) is the number of its invalid
    items, and ledger writes exactly that many records. -/
theorem C12.errors_eq_invalid_items (cfg : Cfg) (f : File) (report : String) :
    (loadFile cfg f).errors = (invalidItems cfg f).length ∧
    (run cfg [f] report).stderr.length = (invalidItems cfg f).length := by
  refine ⟨loadFile_errors cfg f, ?_⟩
  rw [run_stderr, readPrefix_single]
  simp

/-- The k-th record names the k-th invalid item's file, its include chain, and a
    line inside that item's line range. -/
theorem C12.each_error_located (cfg : Cfg) (f : File) (report : String) (k : Nat)
    (hk : k < (invalidItems cfg f).length) :
    ∃ m, (run cfg [f] report).stderr[k]? = some m ∧
      m.loc.file = ((invalidItems cfg f)[k]).file ∧
      m.chain = ((invalidItems cfg f)[k]).chain ∧
      ((invalidItems cfg f)[k]).item.first ≤ m.loc.line ∧
      m.loc.line ≤ ((invalidItems cfg f)[k]).item.last := by
  refine ⟨((invalidItems cfg f)[k]).msg, ?_, rfl, rfl, ?_⟩
  · rw [run_stderr, readPrefix_single, List.flatMap_singleton, List.getElem?_map, List.getElem?_eq_getElem hk]
    rfl
  · exact reportLine_mem _

/-- The exact line: the last line for a balance error, the header line for
    header-level faults, the offending posting's line otherwise. -/
theorem C12.reported_line (cfg : Cfg) (f : File) (report : String) (k : Nat)
    (hk : k < (invalidItems cfg f).length) :
    ((run cfg [f] report).stderr[k]?).map (·.loc.line) =
      some ((invalidItems cfg f)[k]).item.reportLine := by
  rw [run_stderr, readPrefix_single, List.flatMap_singleton, List.getElem?_map, List.getElem?_eq_getElem hk]
  rfl

/-- Any invalid item in any of the files ⇒ nothing on standard output. -/
theorem C12.no_report_on_error (cfg : Cfg) (roots : List File) (report : String)
    (h : ∃ f ∈ roots, invalidItems cfg f ≠ []) :
    (run cfg roots report).stdout = "" := by
  rw [run_stdout, if_pos ((reportedCount_pos cfg roots).2 h)]

/-- No invalid item ⇒ no record, status 0, and the report is written. -/
theorem C12.valid_input_clean (cfg : Cfg) (roots : List File) (report : String)
    (h : ∀ f ∈ roots, invalidItems cfg f = []) :
    (run cfg roots report).stderr = [] ∧ (run cfg roots report).status = 0 ∧
    (run cfg roots report).stdout = report := by
  have h0 : ¬ 0 < reportedCount cfg roots := by
    rw [reportedCount_pos]; rintro ⟨f, hf, hne⟩; exact hne (h f hf)
  refine ⟨?_, ?_, ?_⟩
  · rw [run_stderr]
    have : reportedCount cfg roots = 0 := Nat.eq_zero_of_not_pos h0
    rw [reportedCount, List.length_eq_zero_iff] at this
    rw [this]; rfl
  · rw [run_status, if_neg h0]
  · rw [run_stdout, if_neg h0]

/-- FULL STATEMENT of the exit-status clause: some item is invalid iff the status
    the shell sees is non-zero. -/
def C12.StatusNonzeroIffError : Prop :=
  ∀ (cfg : Cfg) (roots : List File) (report : String),
    (∃ f ∈ roots, invalidItems cfg f ≠ []) ↔ (run cfg roots report).status ≠ 0

/-- The full statement holds for every status expression that cannot wrap
    (`min count k` with `1 ≤ k ≤ 255`, or `count > 0 ? 1 : 0`). -/
theorem C12.status_nonzero_iff_error (h : shapeSafe Gen.exitStatusShape = true) :
    C12.StatusNonzeroIffError := by
  intro cfg roots report
  exact run_status_ne_zero_iff cfg roots report fun hp => statusOf_safe _ h _ hp

/-- With the raw count as status (`static_cast<int>(errors.count)`, main.cc 207) the
    full statement is FALSE: 256 unbalanced transactions give status 0. -/
theorem C12.status_wraps_counterexample (h : Gen.exitStatusShape = .raw) :
    ¬ C12.StatusNonzeroIffError := by
  intro hall
  have hinv : (invalidItems ⟨.normal, false⟩ ⟨"j.dat", faultyBody 256⟩).length = 256 :=
    faultyBody_invalid _ _ 256
  have hne : invalidItems ⟨.normal, false⟩ ⟨"j.dat", faultyBody 256⟩ ≠ [] := by
    intro h0; rw [h0] at hinv; cases hinv
  have hs := (hall ⟨.normal, false⟩ [⟨"j.dat", faultyBody 256⟩] "").1 ⟨_, List.mem_singleton.2 rfl, hne⟩
  apply hs
  have hc : reportedCount ⟨.normal, false⟩ [⟨"j.dat", faultyBody 256⟩] = 256 := by
    rw [reportedCount, readPrefix_single]; simpa using hinv
  rw [run_status, hc, exitStatus, exitStatusExpr_eq, h]
  decide +kernel

/-- What holds for the expression in the tree today (raw count or a safe shape):
    the status is non-zero iff some item is invalid, as long as fewer than 256
    records are written. -/
theorem C12.status_nonzero_iff_error_partial (cfg : Cfg) (roots : List File) (report : String)
    (hguard : reportedCount cfg roots < 256) :
    (∃ f ∈ roots, invalidItems cfg f ≠ []) ↔ (run cfg roots report).status ≠ 0 := by
  have hshape : Gen.exitStatusShape = .raw ∨ shapeSafe Gen.exitStatusShape = true := by decide +kernel
  exact run_status_ne_zero_iff cfg roots report fun hp => statusOf_small _ hshape _ hp hguard

/-- FULL STATEMENT for several `-f` files: every invalid item of every file is
    counted (and so gets its record). -/
def C12.AllRootsReported : Prop :=
  ∀ (cfg : Cfg) (roots : List File),
    (loadRoots cfg roots Out.empty).errors = (roots.flatMap (invalidItems cfg)).length

/-- It holds if the reader goes on to the next file after a faulty one. -/
theorem C12.all_roots_reported (h : Gen.stopAfterFaultyFile = false) : C12.AllRootsReported := by
  intro cfg roots
  rw [loadRoots_errors, reportedCount]
  have : ∀ rs : List File, readPrefix cfg rs = rs := by
    intro rs; induction rs with
    | nil => rfl
    | cons f fs ih => simp [readPrefix, h, ih]
  rw [this]

/-- With session.cc's loop as it is (the `error_count` of the first faulty file
    leaves it) the full statement is FALSE: two files with one unbalanced
    transaction each produce one record. -/
theorem C12.later_roots_unreported_counterexample (h : Gen.stopAfterFaultyFile = true) :
    ¬ C12.AllRootsReported := by
  intro hall
  have := hall ⟨.normal, false⟩ [⟨"a.dat", faultyBody 1⟩, ⟨"b.dat", faultyBody 1⟩]
  rw [loadRoots_errors] at this
  simp only [reportedCount, readPrefix, h] at this
  revert this
  decide +kernel

/-- Several files, guarded: when every file after the first faulty one is clean,
    every invalid item of every file is counted and gets its record, in order. -/
theorem C12.all_roots_reported_partial (cfg : Cfg) (roots : List File)
    (hguard : laterRootsClean cfg roots = true) (report : String) :
    (loadRoots cfg roots Out.empty).errors = (roots.flatMap (invalidItems cfg)).length ∧
    (run cfg roots report).stderr = (roots.flatMap (invalidItems cfg)).map Located.msg := by
  rw [loadRoots_errors, run_stderr, reportedCount, invalid_flatMap_readPrefix cfg roots hguard]
  exact ⟨rfl, rfl⟩

/-- `--strict` turns the unknown-name kinds into warnings: no record, status 0,
    one located warning per such item. -/
theorem C12.strict_warns_only (f : File) (report : String) (cp : Bool)
    (h : ∀ l ∈ f.items, l.item.kind = .valid ∨ l.item.kind = .unknownAccount ∨
        l.item.kind = .unknownCommodity ∨ l.item.kind = .unknownPayee ∨
        l.item.kind = .unknownTag) :
    (run ⟨.strict, cp⟩ [f] report).stderr = [] ∧ (run ⟨.strict, cp⟩ [f] report).status = 0 ∧
    (run ⟨.strict, cp⟩ [f] report).stdout = report := by
  apply C12.valid_input_clean
  intro g hg
  rw [List.mem_singleton] at hg; subst hg
  rw [invalidItems, List.filter_eq_nil_iff]
  intro l hl
  rcases h l hl with hk | hk | hk | hk | hk <;> simp [Located.invalid, hk, Kind.sev] <;> split <;> simp

/-- a.dat: valid (1-3), unbalanced (5-7), include b.dat (9), bad amount at 12 of 11-14,
    unknown account at 17 of 16-18;  b.dat: bad date (1-3), valid (5-7). -/
def C12.sample : File :=
  ⟨"a.dat",
    .item ⟨.valid, 1, 3, 1, by omega, by omega⟩ <|
    .item ⟨.unbalanced, 5, 7, 5, by omega, by omega⟩ <|
    .incl 9 "b.dat"
      (.item ⟨.badDate, 1, 3, 1, by omega, by omega⟩ <|
       .item ⟨.valid, 5, 7, 5, by omega, by omega⟩ .done) <|
    .item ⟨.badAmount, 11, 14, 12, by omega, by omega⟩ <|
    .item ⟨.unknownAccount, 16, 18, 17, by omega, by omega⟩ .done⟩

example : (run ⟨.normal, false⟩ [C12.sample] "R") =
    ⟨exitStatus 3, "", [⟨[], ⟨"a.dat", 7⟩⟩, ⟨[⟨"a.dat", 9⟩], ⟨"b.dat", 1⟩⟩, ⟨[], ⟨"a.dat", 12⟩⟩], []⟩ := by
  decide +kernel
example : (run ⟨.pedantic, false⟩ [C12.sample] "R").stderr.length = 4 := by decide +kernel
example : (run ⟨.strict, false⟩ [C12.sample] "R").warnings = [⟨"a.dat", 17⟩] := by decide +kernel
example : (run ⟨.strict, false⟩ [⟨"a.dat", .incl 4 "b.dat" (.item ⟨.unknownAccount, 1, 3, 2, by omega, by omega⟩ .done) .done⟩] "R").warnings
    = [⟨"a.dat", 4⟩] := by decide +kernel
example : (invalidItems ⟨.pedantic, false⟩ C12.sample).length = 4 := by decide +kernel
example : (run ⟨.normal, false⟩ [⟨"c.dat", .item ⟨.valid, 1, 3, 1, by omega, by omega⟩ .done⟩] "R") =
    ⟨0, "R", [], []⟩ := by decide +kernel
example : laterRootsClean ⟨.normal, false⟩ [⟨"c.dat", .done⟩, C12.sample, ⟨"d.dat", .done⟩] = true := by decide +kernel
example : exitStatus 255 ≠ 0 := by decide +kernel
example : (Msg.render ⟨[⟨"a.dat", 9⟩], ⟨"b.dat", 1⟩⟩) =
    ["In file included from \"a.dat\", line 9:", "While parsing file \"b.dat\", line 1:"] := by decide +kernel

/-- Obligations on the working tree (both defects are repaired in /repo: 83693a7 clamps the
    status, 0532b45 reads every `-f` file): the exit-status expression is one for which
    "errors > 0 ↔ status ≠ 0" holds, and a faulty file no longer stops the reading of the
    later ones.  A regression of either repair breaks these proofs. -/
theorem C12.status_flag : shapeSafe Gen.exitStatusShape = true := by decide +kernel

theorem C12.roots_flag : Gen.stopAfterFaultyFile = false := by decide +kernel

/-- Hence, on the working tree, the full statements hold. -/
theorem C12.status_nonzero_iff_error_now : C12.StatusNonzeroIffError :=
  C12.status_nonzero_iff_error C12.status_flag

theorem C12.all_roots_reported_now : C12.AllRootsReported :=
  C12.all_roots_reported C12.roots_flag

end Ledger
