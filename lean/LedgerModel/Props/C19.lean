/-
C19 — output is a function of the input alone.

The model is a pure function, so its determinism is vacuous; the content proved
here is ORDER-INDEPENDENCE: no enumeration order of a hash map / address-ordered
map reaches an output.  Every such container of src/ is listed in
`Gen.orderContainers` (re-extracted on every run, pinned below); each consumer
is a function of the enumeration `l` of a finite map, and the theorem is
`l ~ l' → out l = out l'` (`~` = `List.Perm`, keys pairwise distinct).

Six consumers of the pinned tree (54ea96f) leaked the order.  For each, the full
statement is kept as a `def … : Prop`, its negation is proved on a concrete
witness, and what remains order-free is proved as `…_partial`:
  collapse_posts::totals_map  (filters.h 431)      reg --collapse --depth N rows in address order     REPAIRED c8b647e
  put_balance                 (balance.cc 375-379) xml <amount> elements in hash order                 REPAIRED 36e5f68
  posts_commodities_iterator  (iterators.cc 141)   prices / pricedb groups in address order            REPAIRED fc0aedd
  top_amount                  (report.cc 517-521)  first entry of the hash map                         REPAIRED c1ef985
  value_t::is_less_than       (value.cc 965-975)   balance < amount: first deciding component / throw  REPAIRED 89c0598
  balance_t::strip_annotations (balance.cc 263-271) merged lots keep the FIRST lot's keep_precision    known finding
The five repaired ones are read from the source into `Gen` flags: the leak
theorems are stated under the OLD value of the flag, the `…_fixed` theorems are
obligations that the working tree has the repaired form, and
`xml_balance_order_free`, `top_amount_order_free`, `collapse_order_free`,
`prices_order_free`, `lt_balance_order_free` are the unconditional order-freedom results that follow.

Uninitialised reads and wall-clock dependence cannot be exhibited by a model;
they are only EXERCISED by the runtime part of tools/props/c19.py.
-/
import LedgerModel.Lemmas.OrderSources
import LedgerModel.Gen.OrderSourceFns
import LedgerModel.Model.OrderSourcesPinned
import LedgerModel.Model.OrderSourceFnsPinned

namespace Ledger
open OS

/-- The unordered / pointer-keyed containers of the working tree are exactly the
    classified ones (a new one breaks this and has to be modelled or reported). -/
theorem C19.containers_pinned : Gen.orderContainers = Pinned.orderContainers := rfl

/-- The functions that enumerate `balance_t::amounts` are exactly the classified ones. -/
theorem C19.walks_pinned : Gen.amountsWalks = Pinned.amountsWalks := rfl

/-- The bodies of the consumers mirrored by Model/OrderSources.lean (sorted_amounts,
    map_sorted_amounts, print, put_balance, compare_by_commodity, collapse_posts,
    subtotal_posts, post_splitter::flush, top_amount, posts_commodities_iterator::reset,
    finalize's two-commodity branch) and the key types of their maps are the pinned ones. -/
theorem C19.fns_pinned : Gen.orderSourceFns = Pinned.orderSourceFns := rfl

/-- The comparators of the pointer-keyed ordered containers are the classified ones … -/
theorem C19.comparators_pinned : Gen.comparators = Pinned.comparators := rfl

/-- … and none of them falls back to comparing the pointers: a `std::map<T*, …, C>` whose `C` ends in
    `lhs < rhs` lists equal-named entries in heap-address order. -/
theorem C19.comparators_name_only : ∀ e ∈ Gen.comparators, e.2.1 = "name-only" := by decide +kernel

/-- Generic form: a consumer that sorts the enumeration of a finite map by ANY
    total order on its keys forgets the enumeration (covers compare_by_commodity
    on annotated commodities as far as it is a total order, and every
    `std::map` with a comparator). -/
theorem C19.sortBy_key_perm {α κ : Type} (key : α → κ) (le : κ → κ → Bool)
    (htrans : ∀ a b c, le a b = true → le b c = true → le a c = true)
    (htotal : ∀ a b, (le a b || le b a) = true)
    (hanti : ∀ a b, le a b = true → le b a = true → a = b)
    (l l' : List α) (hp : l.Perm l') (hd : l.Pairwise (fun x y => key x ≠ key y)) :
    sortBy key le l = sortBy key le l' :=
  sortBy_eq_of_perm key ⟨htrans, htotal, hanti⟩ hp hd

/-- balance_t::sorted_amounts: the sorted view of a balance does not depend on
    the hash order σ. -/
theorem C19.sortedAmounts_perm (b b' : Balance) (hp : b.Perm b')
    (hd : b.Pairwise (fun x y => x.comm ≠ y.comm)) : sortedAmounts b = sortedAmounts b' :=
  sortBy_eq_of_perm Amount.comm commLe_order hp hd

/-- … and it is sorted and a rearrangement of the balance (it is the sorted view). -/
theorem C19.sortedAmounts_sorted (b : Balance) :
    (sortedAmounts b).Pairwise (fun x y => x.comm ≤ y.comm) ∧ (sortedAmounts b).Perm b := by
  refine ⟨?_, OS.sortBy_perm _ _ b⟩
  exact (sortBy_sorted Amount.comm commLe_order b).imp of_decide_eq_true

/-- balance_t::print (every report column that shows a balance): independent of σ. -/
theorem C19.printBalance_perm (env : PrecEnv) (b b' : Balance) (hp : b.Perm b')
    (hd : b.Pairwise (fun x y => x.comm ≠ y.comm)) : printBalance env b = printBalance env b' := by
  unfold printBalance; rw [C19.sortedAmounts_perm b b' hp hd]

/-- The denotation of a balance (what every sum, total and equality test uses)
    is independent of σ. -/
theorem C19.balance_den_perm (b b' : Balance) (hp : b.Perm b') (c : Comm) : b.den c = b'.den c :=
  Balance.den_perm hp c

/-- `is_zero` / `is_realzero` style walks (all / any) are independent of σ. -/
theorem C19.isRealZero_perm (b b' : Balance) (hp : b.Perm b') : b.isRealZero = b'.isRealZero :=
  hp.all_eq

/-- is_greater_than's BALANCE row (value.cc; since 89c0598 it walks sorted_amounts too) never throws and is
    independent of the order it is walked in, sorted or not. -/
theorem C19.gt_balance_order_free (b b' : Balance) (v : Value)
    (hv : (∃ n, v = .int n) ∨ (∃ a, v = .amt a)) (hp : b.Perm b') : gtAll b v = gtAll b' v := by
  rw [gtAll_eq_all v hv b, gtAll_eq_all v hv b', hp.all_eq, hp.isEmpty_eq]

/-- xact_base_t::finalize, two-commodity branch: whichever of the two entries the
    hash map yields first, every posting gets the same cost — provided the top
    posting's commodity is one of the two (it is whenever that posting's amount
    is not zero: `C19.finalize_top_mem`). -/
theorem C19.finalize_order_free (env : PrecEnv) (top : Comm) (x y : Amount) (posts : List Amount)
    (hxy : x.comm ≠ y.comm) (htop : top = x.comm ∨ top = y.comm) :
    finalizeCosts env top [x, y] posts = finalizeCosts env top [y, x] posts := by
  -- both enumerations pick the same (priced, pricing) pair
  have hp : (if x.comm ≠ top then (y, x) else (x, y)) = (if y.comm ≠ top then (x, y) else (y, x)) := by
    rcases htop with rfl | rfl
    · rw [if_neg (Decidable.not_not.mpr rfl), if_pos (Ne.symm hxy)]
    · rw [if_pos hxy, if_neg (Decidable.not_not.mpr rfl)]
  show some (finalize2 env top x y posts) = some (finalize2 env top y x posts)
  unfold finalize2
  by_cases hz : x.isZero env = true ∨ y.isZero env = true
  · rw [if_pos hz, if_pos (Or.symm hz)]
  · rw [if_neg hz, if_neg (fun h => hz (Or.symm h))]
    dsimp only
    rw [hp]

/-- The guard of `finalize_order_free` holds for the balance finalize builds when
    the top posting's amount is not zero. -/
theorem C19.finalize_top_mem (p : Amount) (ps : List Amount) (hp : p.q ≠ 0) :
    ∃ a ∈ xactBalance (p :: ps), a.comm = p.comm := by
  refine List.mem_map.mp (Balance.mem_comms_foldl_addAmt ps (b := Balance.addAmt [] p) ?_)
  rw [Balance.addAmt, if_neg hp]
  exact List.mem_singleton.mpr rfl

/-- Full statement without the guard. -/
def C19.FinalizeOrderFree : Prop :=
  ∀ (env : PrecEnv) (top : Comm) (x y : Amount) (posts : List Amount), x.comm ≠ y.comm →
    finalizeCosts env top [x, y] posts = finalizeCosts env top [y, x] posts

/-- The excluded point: a zero-amount top posting of a THIRD commodity
    (`A  0 AAA` / `B  5.00 EUR` / `C  -3.00 USD`): which posting receives the
    computed cost depends on the enumeration of the two-entry hash map. -/
theorem C19.finalize_zero_top_order_leaks : ¬ C19.FinalizeOrderFree := by
  intro h
  have := h (fun _ => 2) "AAA" ⟨5, 2, false, "EUR"⟩ ⟨-3, 2, false, "USD"⟩
    [⟨0, 0, false, "AAA"⟩, ⟨5, 2, false, "EUR"⟩, ⟨-3, 2, false, "USD"⟩] (by decide +kernel)
  revert this
  decide +kernel

/-- Maps keyed by a name (subtotal_posts::values_map, by_payee_posts, the account
    tree's children): rows leave in name order whatever order they were found in. -/
theorem C19.subtotal_order_free {β : Type} (l l' : List (String × β)) (hp : l.Perm l')
    (hd : l.Pairwise (fun x y => x.1 ≠ y.1)) : emitByName l = emitByName l' :=
  sortBy_eq_of_perm Prod.fst commLe_order hp hd

/-! ### collapse_posts with --depth: rows in address order -/

def C19.CollapseOrderFree : Prop :=
  ∀ (addr addr' : String → Nat) (t : List (String × Balance)),
    t.Pairwise (fun x y => addr x.1 ≠ addr y.1) → t.Pairwise (fun x y => addr' x.1 ≠ addr' y.1) →
    collapseRows addr t = collapseRows addr' t

/-- With the totals keyed by `account_t*`, two address assignments give two row orders. -/
theorem C19.collapse_order_leaks (h : Gen.collapseTotalsOrder = "address") : ¬ C19.CollapseOrderFree := by
  intro hfree
  have := hfree (fun s => if s = "Assets" then 1 else 2) (fun s => if s = "Assets" then 2 else 1)
    [("Assets", [⟨3, 2, false, "$"⟩]), ("Equity", [⟨-3, 2, false, "$"⟩])]
    (by decide +kernel) (by decide +kernel)
  rw [collapseRows, collapseRows, if_pos h, if_pos h] at this
  exact sortByAddr_pair_ne _ _ (fun s => if s = "Assets" then 1 else 2)
    (fun s => if s = "Assets" then 2 else 1) (by decide +kernel) (by decide +kernel) this

/-- What IS order-free: the multiset of rows (accounts with their sums). -/
theorem C19.collapse_rows_perm_partial (addr addr' : String → Nat) (t : List (String × Balance)) :
    (collapseRows addr t).Perm (collapseRows addr' t) :=
  (perm_ite_ite (OS.sortBy_perm _ _ t) (OS.sortBy_perm _ _ t)).trans
    (perm_ite_ite (OS.sortBy_perm _ _ t) (OS.sortBy_perm _ _ t)).symm

/-- Once the map is ordered by name or by first insertion, the rows are order-free. -/
theorem C19.collapse_order_free_of_fixed (h : Gen.collapseTotalsOrder ≠ "address") : C19.CollapseOrderFree := by
  intro addr addr' t _ _
  simp only [collapseRows, h, if_false]

/-! ### put_balance: xml `<amount>` elements in hash order -/

def C19.XmlBalanceOrderFree : Prop :=
  ∀ (b b' : Balance), b.Perm b' → b.Pairwise (fun x y => x.comm ≠ y.comm) → putBalance b = putBalance b'

theorem C19.xml_balance_order_leaks (h : Gen.putBalanceSorted = false) : ¬ C19.XmlBalanceOrderFree := by
  intro hfree
  have := hfree [⟨5 / 2, 2, false, "EUR"⟩, ⟨3, 0, false, "USD"⟩] [⟨3, 0, false, "USD"⟩, ⟨5 / 2, 2, false, "EUR"⟩]
    (List.Perm.swap _ _ _) (by decide +kernel)
  simp only [putBalance, h] at this
  revert this
  decide +kernel

/-- What IS order-free: the multiset of `<amount>` elements. -/
theorem C19.xml_balance_perm_partial (b b' : Balance) (hp : b.Perm b') :
    (putBalance b).Perm (putBalance b') := by
  unfold putBalance
  apply List.Perm.map
  split
  · exact (OS.sortBy_perm _ _ b).trans (hp.trans (OS.sortBy_perm _ _ b').symm)
  · exact hp

theorem C19.xml_balance_order_free_of_sorted (h : Gen.putBalanceSorted = true) : C19.XmlBalanceOrderFree := by
  intro b b' hp hd
  simp only [putBalance, h, if_true]
  rw [C19.sortedAmounts_perm b b' hp hd]

/-! ### balance < amount: first deciding component

value.cc is_less_than, BALANCE row.  The pinned tree walked the hash map as it came and
stopped at the first deciding component (or threw on the first incomparable one);
89c0598 walks `sorted_amounts`.  `Value.lt` walks `Value.ltWalkOrder x`, which is the
sorted walk exactly when `Gen.ltBalanceSorted` (read from the source by tools/extract.py). -/

def C19.LtBalanceOrderFree : Prop :=
  ∀ (b b' : Balance) (v : Value), ((∃ n, v = .int n) ∨ (∃ a, v = .amt a)) → b.Perm b' →
    b.Pairwise (fun x y => x.comm ≠ y.comm) → Value.lt (.bal b) v = Value.lt (.bal b') v

/-- Regression obligation: the working tree walks the sorted amounts. -/
theorem C19.lt_balance_sorted_flag : Gen.ltBalanceSorted = true := by decide +kernel

/-- With the UNSORTED walk `(2.50 EUR + 3 USD) < 2.50 EUR` is `false` when the hash map
    yields EUR first and throws "different commodities" when it yields USD first. -/
theorem C19.lt_balance_order_leaks (h : Gen.ltBalanceSorted = false) : ¬ C19.LtBalanceOrderFree := by
  intro hfree
  have := hfree [⟨5 / 2, 2, false, "EUR"⟩, ⟨3, 0, false, "USD"⟩] [⟨3, 0, false, "USD"⟩, ⟨5 / 2, 2, false, "EUR"⟩]
    (.amt ⟨5 / 2, 2, false, "EUR"⟩) (Or.inr ⟨_, rfl⟩) (List.Perm.swap _ _ _) (by decide +kernel)
  simp only [Value.lt, Value.ltWalkOrder, h] at this
  revert this
  decide +kernel

/-- With the sorted walk the comparison does not depend on the enumeration of the balance
    (answer AND which "different commodities" error is raised). -/
theorem C19.lt_balance_order_free_of_sorted (h : Gen.ltBalanceSorted = true) : C19.LtBalanceOrderFree := by
  intro b b' v hv hp hd
  have hs : Value.ltWalkOrder b = Value.ltWalkOrder b' := by
    simp only [Value.ltWalkOrder, h, if_true]
    exact sortByComm_eq_of_perm hp hd
  rcases hv with ⟨n, rfl⟩ | ⟨a, rfl⟩
  · simp only [Value.lt, hs]
  · simp only [Value.lt, hs]

/-- `balance < amount` / `balance < integer` is order-free on the working tree. -/
theorem C19.lt_balance_order_free : C19.LtBalanceOrderFree :=
  C19.lt_balance_order_free_of_sorted C19.lt_balance_sorted_flag

/-! ### strip_annotations: the merged lot keeps the first lot's keep_precision flag -/

def C19.StripAnnotationsOrderFree : Prop :=
  ∀ (strip : Comm → Comm) (b b' : Balance), b.Perm b' → b.Pairwise (fun x y => x.comm ≠ y.comm) →
    stripAnnotations strip b = stripAnnotations strip b'

/-- A total holding `10.00 abc {2 BTC}` (rounded at display) and `2/3 abc` with keep_precision
    set: stripped, the sum 32/3 abc carries the flag of whichever lot the hash map yields first,
    so it prints as `10.67 abc` or as `10.66666667 abc`. -/
theorem C19.strip_annotations_order_leaks : ¬ C19.StripAnnotationsOrderFree := by
  intro hfree
  have := hfree (fun _ => "abc") [⟨10, 2, false, "abc {2 BTC}"⟩, ⟨2 / 3, 8, true, "abc"⟩]
    [⟨2 / 3, 8, true, "abc"⟩, ⟨10, 2, false, "abc {2 BTC}"⟩] (List.Perm.swap _ _ _) (by decide +kernel)
  revert this
  decide +kernel

/-- What IS order-free: the exact quantity of every commodity of the stripped balance. -/
theorem C19.strip_annotations_den_perm_partial (strip : Comm → Comm) (b b' : Balance) (hp : b.Perm b')
    (c : Comm) : (stripAnnotations strip b).den c = (stripAnnotations strip b').den c := by
  have h : ∀ l : Balance, (stripAnnotations strip l).den c
      = Balance.den (l.map (fun a => { a with comm := strip a.comm })) c := by
    intro l
    have := Balance.add_den [] (l.map (fun a => { a with comm := strip a.comm })) c
    simp only [Balance.add, Balance.den_nil] at this
    unfold stripAnnotations
    rw [this]; grind
  rw [h b, h b']
  exact C19.balance_den_perm _ _ (hp.map _) c

/-! ### prices / pricedb: commodity groups in address order -/

def C19.PricesOrderFree : Prop :=
  ∀ (addr addr' : Comm → Nat) (g : List (Comm × List Rat)),
    g.Pairwise (fun x y => addr x.1 ≠ addr y.1) → g.Pairwise (fun x y => addr' x.1 ≠ addr' y.1) →
    pricesGroups addr g = pricesGroups addr' g

theorem C19.prices_order_leaks (h : Gen.pricesSetOrder = "address") : ¬ C19.PricesOrderFree := by
  intro hfree
  have := hfree (fun s => if s = "AAA" then 1 else 2) (fun s => if s = "AAA" then 2 else 1)
    [("AAA", [1]), ("EUR", [2])] (by decide +kernel) (by decide +kernel)
  rw [pricesGroups, pricesGroups, if_pos h, if_pos h] at this
  exact sortByAddr_pair_ne _ _ (fun s => if s = "AAA" then 1 else 2)
    (fun s => if s = "AAA" then 2 else 1) (by decide +kernel) (by decide +kernel) this

theorem C19.prices_groups_perm_partial {β : Type} (addr addr' : Comm → Nat) (g : List (Comm × β)) :
    (pricesGroups addr g).Perm (pricesGroups addr' g) :=
  (perm_ite_ite (OS.sortBy_perm _ _ g) (OS.sortBy_perm _ _ g)).trans
    (perm_ite_ite (OS.sortBy_perm _ _ g) (OS.sortBy_perm _ _ g)).symm

/-- Once the commodities are kept by name or by first appearance, the groups are order-free. -/
theorem C19.prices_order_free_of_fixed (h : Gen.pricesSetOrder ≠ "address") : C19.PricesOrderFree := by
  intro addr addr' g _ _
  simp only [pricesGroups, h, if_false]

/-! ### top_amount: first entry of the hash map -/

def C19.TopAmountOrderFree : Prop :=
  ∀ (b b' : Balance), b.Perm b' → b.Pairwise (fun x y => x.comm ≠ y.comm) → topAmount b = topAmount b'

theorem C19.top_amount_order_leaks (h : Gen.topAmountSorted = false) : ¬ C19.TopAmountOrderFree := by
  intro hfree
  have := hfree [⟨5 / 2, 2, false, "EUR"⟩, ⟨3, 0, false, "USD"⟩] [⟨3, 0, false, "USD"⟩, ⟨5 / 2, 2, false, "EUR"⟩]
    (List.Perm.swap _ _ _) (by decide +kernel)
  simp only [topAmount, h] at this
  revert this
  decide +kernel

/-- What IS order-free: the result is one of the components. -/
theorem C19.top_amount_mem_partial (b : Balance) (a : Amount) (h : topAmount b = some a) : a ∈ b := by
  unfold topAmount at h
  split at h
  · exact (OS.sortBy_perm _ _ b).mem_iff.mp (List.mem_of_head? h)
  · exact List.mem_of_head? h

theorem C19.top_amount_order_free_of_sorted (h : Gen.topAmountSorted = true) : C19.TopAmountOrderFree := by
  intro b b' hp hd
  simp only [topAmount, h, if_true]
  rw [C19.sortedAmounts_perm b b' hp hd]

/-! ### the four repaired consumers: obligations on the working tree

Each flag is read from the source on every run; a regression of one of the four
repairs (put_balance 36e5f68, top_amount c1ef985, collapse totals_map c8b647e,
posts_commodities_iterator fc0aedd) turns the flag back and breaks the proof.
The `…_order_leaks` theorems above stay as theorems about the old form. -/

theorem C19.put_balance_fixed : Gen.putBalanceSorted = true := by decide +kernel
theorem C19.top_amount_fixed : Gen.topAmountSorted = true := by decide +kernel
theorem C19.collapse_totals_fixed : Gen.collapseTotalsOrder ≠ "address" := by decide +kernel
theorem C19.prices_set_fixed : Gen.pricesSetOrder ≠ "address" := by decide +kernel

/-- `ledger xml`: the `<amount>` elements of a balance do not depend on the hash order. -/
theorem C19.xml_balance_order_free : C19.XmlBalanceOrderFree :=
  C19.xml_balance_order_free_of_sorted C19.put_balance_fixed

/-- `top_amount` does not depend on the hash order. -/
theorem C19.top_amount_order_free : C19.TopAmountOrderFree :=
  C19.top_amount_order_free_of_sorted C19.top_amount_fixed

/-- `reg --collapse --depth N`: the rows do not depend on the accounts' addresses. -/
theorem C19.collapse_order_free : C19.CollapseOrderFree :=
  C19.collapse_order_free_of_fixed C19.collapse_totals_fixed

/-- `prices` / `pricedb`: the groups do not depend on the commodities' addresses. -/
theorem C19.prices_order_free : C19.PricesOrderFree :=
  C19.prices_order_free_of_fixed C19.prices_set_fixed

/-! ### compare_by_commodity on lots: the "only one side has it" branches mirror each other

`sortedAmounts_perm` needs the comparator to be a total order on the lots of one
balance.  For two lots that differ only in the PRESENCE of a detail the two
mirrored branches of the source must answer with opposite signs; otherwise
stable_sort leaves such a pair in hash order.  The return values are read from
commodity.cc on every run (`Gen.lotPresenceReturns`). -/

theorem C19.lot_presence_returns_antisymm :
    ∀ e ∈ Gen.lotPresenceReturns, e.2.1 = - e.2.2 ∧ e.2.1 < 0 := by decide +kernel

/-- Two lots equal in symbol, price and date, one with a (tag) and one without: each
    direction of the comparison is the negation of the other and the untagged lot sorts first. -/
theorem C19.compare_lots_tag_presence_antisymm (sym : String) (price : Option Rat) (date : Option Int)
    (t : String) (hann : price.isSome ∨ date.isSome) :
    compareLots ⟨sym, price, date, some t⟩ ⟨sym, price, date, none⟩
      = - compareLots ⟨sym, price, date, none⟩ ⟨sym, price, date, some t⟩
    ∧ compareLots ⟨sym, price, date, none⟩ ⟨sym, price, date, some t⟩ < 0 := by
  have h1 : Lot.annotated ⟨sym, price, date, some t⟩ = true := by simp [Lot.annotated]
  have h2 : Lot.annotated ⟨sym, price, date, none⟩ = true := by simpa [Lot.annotated] using hann
  rw [compareLots_of_annotated h1 h2 rfl, compareLots_of_annotated h2 h1 rfl,
    cmpDetail_self (fun _ => Rat.lt_irrefl) "price" price, cmpDetail_self Int.lt_irrefl "date" date]
  show (presenceRet "tag").2 = -(presenceRet "tag").1 ∧ (presenceRet "tag").1 < 0
  decide +kernel

/-- … the same for the presence of a lot date … -/
theorem C19.compare_lots_date_presence_antisymm (sym : String) (price : Option Rat) (d : Int) (tag : Option String)
    (hann : price.isSome ∨ tag.isSome) :
    compareLots ⟨sym, price, some d, tag⟩ ⟨sym, price, none, tag⟩
      = - compareLots ⟨sym, price, none, tag⟩ ⟨sym, price, some d, tag⟩
    ∧ compareLots ⟨sym, price, none, tag⟩ ⟨sym, price, some d, tag⟩ < 0 := by
  have h1 : Lot.annotated ⟨sym, price, some d, tag⟩ = true := by simp [Lot.annotated]
  have h2 : Lot.annotated ⟨sym, price, none, tag⟩ = true := by simpa [Lot.annotated] using hann
  rw [compareLots_of_annotated h1 h2 rfl, compareLots_of_annotated h2 h1 rfl,
    cmpDetail_self (fun _ => Rat.lt_irrefl) "price" price]
  show (presenceRet "date").2 = -(presenceRet "date").1 ∧ (presenceRet "date").1 < 0
  decide +kernel

/-- … and of a lot price. -/
theorem C19.compare_lots_price_presence_antisymm (sym : String) (p : Rat) (date : Option Int) (tag : Option String)
    (hann : date.isSome ∨ tag.isSome) :
    compareLots ⟨sym, some p, date, tag⟩ ⟨sym, none, date, tag⟩
      = - compareLots ⟨sym, none, date, tag⟩ ⟨sym, some p, date, tag⟩
    ∧ compareLots ⟨sym, none, date, tag⟩ ⟨sym, some p, date, tag⟩ < 0 := by
  have h1 : Lot.annotated ⟨sym, some p, date, tag⟩ = true := by simp [Lot.annotated]
  have h2 : Lot.annotated ⟨sym, none, date, tag⟩ = true := by simpa [Lot.annotated] using hann
  rw [compareLots_of_annotated h1 h2 rfl, compareLots_of_annotated h2 h1 rfl]
  show (presenceRet "price").2 = -(presenceRet "price").1 ∧ (presenceRet "price").1 < 0
  decide +kernel

/- `sortBy` is `List.mergeSort`, defined by well-founded recursion, which the kernel does not
   unfold: the examples that sort name the sorted list and check it through
   `sortByName_eq_sorted`; the rest is evaluated. -/
/-- a three-commodity balance in two hash orders prints the same three lines -/
example : printBalance (fun _ => 2) [⟨3, 0, false, "USD"⟩, ⟨5 / 2, 2, false, "EUR"⟩, ⟨1, 0, false, "AAA"⟩]
    = [("AAA", 1), ("EUR", 5 / 2), ("USD", 3)] := by
  unfold printBalance sortedAmounts
  rw [sortByName_eq_sorted (s := [⟨1, 0, false, "AAA"⟩, ⟨5 / 2, 2, false, "EUR"⟩, ⟨3, 0, false, "USD"⟩]) Amount.comm
    (by decide +kernel) (by decide +kernel) (by decide +kernel)]
  decide +kernel
example : printBalance (fun _ => 2) [⟨1, 0, false, "AAA"⟩, ⟨3, 0, false, "USD"⟩, ⟨5 / 2, 2, false, "EUR"⟩]
    = [("AAA", 1), ("EUR", 5 / 2), ("USD", 3)] := by
  unfold printBalance sortedAmounts
  rw [sortByName_eq_sorted (s := [⟨1, 0, false, "AAA"⟩, ⟨5 / 2, 2, false, "EUR"⟩, ⟨3, 0, false, "USD"⟩]) Amount.comm
    (by decide +kernel) (by decide +kernel) (by decide +kernel)]
  decide +kernel
/-- finalize: `A 10 AAA / B $-10 / C 5 AAA` gives A and C the costs $6⅔ and $3⅓ in either order -/
example : finalizeCosts (fun _ => 2) "AAA" [⟨15, 0, false, "AAA"⟩, ⟨-10, 2, false, "$"⟩]
    [⟨10, 0, false, "AAA"⟩, ⟨-10, 2, false, "$"⟩, ⟨5, 0, false, "AAA"⟩]
    = some [some ("$", 20 / 3), none, some ("$", 10 / 3)] := by decide +kernel
example : finalizeCosts (fun _ => 2) "AAA" [⟨-10, 2, false, "$"⟩, ⟨15, 0, false, "AAA"⟩]
    [⟨10, 0, false, "AAA"⟩, ⟨-10, 2, false, "$"⟩, ⟨5, 0, false, "AAA"⟩]
    = some [some ("$", 20 / 3), none, some ("$", 10 / 3)] := by decide +kernel
/-- `(2.50 EUR + 3 USD) < 2.50 EUR` in both enumerations: the sorted walk meets EUR first and answers `false` -/
example : Value.lt (.bal [⟨5 / 2, 2, false, "EUR"⟩, ⟨3, 0, false, "USD"⟩]) (.amt ⟨5 / 2, 2, false, "EUR"⟩) = .ok false
    ∧ Value.lt (.bal [⟨3, 0, false, "USD"⟩, ⟨5 / 2, 2, false, "EUR"⟩]) (.amt ⟨5 / 2, 2, false, "EUR"⟩) = .ok false := by
  decide +kernel
/-- subtotal rows of three accounts found in two orders -/
example : emitByName [("Income", 1), ("Assets:Cash", 2), ("Assets", 3)] = [("Assets", 3), ("Assets:Cash", 2), ("Income", 1)]
    ∧ emitByName [("Assets", 3), ("Income", 1), ("Assets:Cash", 2)] = [("Assets", 3), ("Assets:Cash", 2), ("Income", 1)] := by
  constructor <;>
    exact sortByName_eq_sorted Prod.fst (by decide +kernel) (by decide +kernel) (by decide +kernel)
/-- the pair of the seeded regression: `1 AAA {$5} [2020/01/01] (t)` against the untagged lot -/
example : compareLots ⟨"AAA", some 5, some 18262, some "t"⟩ ⟨"AAA", some 5, some 18262, none⟩ = 1
    ∧ compareLots ⟨"AAA", some 5, some 18262, none⟩ ⟨"AAA", some 5, some 18262, some "t"⟩ = -1 := by decide +kernel
/-- bal > amt on a two-commodity balance: defined, and the same in both orders -/
example : gtAll [⟨2, 0, false, "AAA"⟩, ⟨3, 0, false, "EUR"⟩] (.amt ⟨1, 0, false, "AAA"⟩) = .ok true := by decide +kernel
example : gtAll [⟨3, 0, false, "EUR"⟩, ⟨2, 0, false, "AAA"⟩] (.amt ⟨1, 0, false, "AAA"⟩) = .ok true := by decide +kernel

end Ledger
