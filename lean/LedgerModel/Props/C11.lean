/-
C11 — no input makes ledger crash, corrupt memory or hang.  PARTIAL.

What is proved here (for all inputs, no bounds):
  * index safety of every bounded-copy routine listed in `Gen.bufferSites`
    (re-extracted from /repo/src on every run): the bytes stored stay inside the
    array — `C11.all_sites_safe_partial` (the arithmetic, `decide` over the
    extracted capacities/limits) and `C11.sites_in_bounds_partial` (for every input);
  * exact/maximum byte counts of READ_INTO, the symbol loop, parse_quantity;
  * termination of alias expansion and of stepping by a positive period length.
What is proved to FAIL in the current code (full statement kept as
`C11.AllSitesSafe`; negations on witnesses):
  * copies with no bound (item.cc parse_tags `buf[256]`, format.cc `buf[65535]`,
    utils.cc split_arguments `buf[4096]`, global.cc `prompt[32]`) overflow on every
    payload of `overflowLen` bytes or more — `C11.unbounded_site_overflows`;
  * option.cc find_option's guard is off by one — `C11.find_option_pinned_overflows`;
  * a format ending in a backslash is read past its terminator — `C11.format_trailing_backslash_overread`;
  * a zero period length never terminates — `C11.step_zero_never_terminates`;
  * the parser's recursion depth and the depth of the tree it builds are unbounded in the
    input — `C11.parse_depth_unbounded`, `C11.tree_depth_unbounded`.
NOT expressible in this model and only exercised by the check (ASan/UBSan, timeouts):
heap lifetime, stack size, memory safety of all code outside the listed routines.
-/
import LedgerModel.Lemmas.Buffers
import LedgerModel.Gen.BufferSites
import LedgerModel.Gen.BufferFns
import LedgerModel.Model.BufferFnsPinned

namespace Ledger
open Buffers

/-- Sites whose current code has no (or a wrong) bound: excluded from the `_partial`
    theorems by name.  Each is reported by the check with a replay on the binary until it is
    repaired; after a repair the extracted row becomes bounded and the exclusion is moot. -/
def C11.openSites : List String :=
  ["item.cc:parse_tags:buf", "format.cc:parse_elements:buf", "utils.cc:split_arguments:buf",
   "global.cc:prompt_string:prompt", "option.cc:find_option:buf"]

/-- The READ_INTO macros, parse_quantity, parse_symbol, annotation_t::parse, parse_ident, the
    READ_INTO_ blocks of token_t::next, read_line, the date-length guards, find_account's head,
    expand_aliases, the stabilize loop and parse_value_term found in the working tree are the
    text `Model/Buffers.lean` was written against. -/
theorem C11.buffer_fns_pinned : Gen.bufferFns = Pinned.bufferFns := rfl

/-- FULL statement (false for the current code, see the negations below): every store of
    every listed routine stays inside its array, for every input. -/
def C11.AllSitesSafe : Prop := ∀ s ∈ Gen.bufferSites, ∀ inp : List Char, s.inBounds inp

/-- READ_INTO / READ_INTO_ never store more than `size` bytes, whatever the stream holds. -/
theorem C11.readInto_len_le (limit : Nat) (cond : Char → Bool) (inp : List Char) :
    (readInto limit cond 0 inp).1.length ≤ limit := Buffers.readInto_len_le limit cond inp

/-- …and exactly `min size n` bytes on n accepted characters without backslash or newline. -/
theorem C11.readInto_len_exact (limit : Nat) (cond : Char → Bool) (inp : List Char)
    (h : ∀ c ∈ inp, cond c = true ∧ c ≠ '\n' ∧ c ≠ '\\') :
    (readInto limit cond 0 inp).1.length = min limit inp.length := by
  rw [Buffers.readInto_plain limit cond 0 inp h]; simp

/-- The unquoted commodity-symbol loop never stores more than its limit. -/
theorem C11.parseSymbol_len_le (limit : Nat) (valid : Char → Bool) (inp : List Char) :
    (symbolLoop limit valid 0 inp).1.length ≤ limit := Buffers.symbolLoop_len limit valid 0 inp

/-- parse_quantity stores at most `max` bytes including the sign. -/
theorem C11.parseQuantity_len_le (limit : Nat) (h : 1 ≤ limit) (inp : List Char) :
    (parseQuantity limit inp).1.length ≤ limit := Buffers.parseQuantity_len_le limit h inp

/-- Any bounded site stores at most `limit + extra` bytes, for every input. -/
theorem C11.site_len_le (s : Site) (h : s.bounded = true) (inp : List Char) :
    (s.run inp).length ≤ s.maxWritten := Buffers.run_len_le s h inp

/-- The arithmetic over the EXTRACTED table: for every bounded site outside `openSites`,
    offset + largest payload + terminator fits the array.  Changing a READ_INTO size,
    shrinking an array or weakening a guard in the sources breaks this `decide`. -/
theorem C11.all_sites_safe_partial :
    ∀ s ∈ Gen.bufferSites, s.name ∉ C11.openSites →
      s.bounded = true ∧ s.offset + s.maxWritten + s.terminator ≤ s.capacity :=
  Buffers.fits_or_open Gen.bufferSites C11.openSites (by decide +kernel)

/-- Hence, for every input, every store of those routines is inside the array. -/
theorem C11.sites_in_bounds_partial :
    ∀ s ∈ Gen.bufferSites, s.name ∉ C11.openSites → ∀ inp : List Char, s.inBounds inp := by
  intro s hs hn inp
  have h := C11.all_sites_safe_partial s hs hn
  apply Buffers.inBounds_of_fits
  simp only [Site.fits, h.1, Bool.true_and, decide_eq_true_eq]
  exact h.2

/-- A copy with no bound overflows its array on EVERY payload of `overflowLen` bytes or more
    (the capacity does not matter: no fixed array is large enough). -/
theorem C11.unbounded_site_overflows (s : Site) (hk : s.kind = .unboundedCopy) (inp : List Char)
    (hl : s.overflowLen ≤ inp.length) : ¬ s.inBounds inp := by
  unfold Site.inBounds Site.run
  rw [hk]
  simp only [List.length_append, List.length_replicate]
  unfold Site.overflowLen at hl
  omega

/-- The rows of the pinned tree (54ea96f + hooks) for the open sites. -/
def C11.pinnedOpen : List Site := [
  { name := "item.cc:parse_tags:buf", kind := .unboundedCopy, capacity := 256, offset := 0, limit := 0, extra := 0, terminator := 1, src := "item.cc:164" },
  { name := "format.cc:parse_elements:buf", kind := .unboundedCopy, capacity := 65535, offset := 0, limit := 0, extra := 0, terminator := 0, src := "format.cc:138" },
  { name := "utils.cc:split_arguments:buf", kind := .unboundedCopy, capacity := 4096, offset := 0, limit := 0, extra := 0, terminator := 1, src := "utils.cc:514" },
  { name := "global.cc:prompt_string:prompt", kind := .unboundedCopy, capacity := 32, offset := 0, limit := 0, extra := 1, terminator := 1, src := "global.cc:174" },
  { name := "option.cc:find_option:buf", kind := .guardedCopy, capacity := 128, offset := 0, limit := 127, extra := 1, terminator := 1, src := "option.cc:56" }]

/-- On the pinned rows the full statement fails at each site, with these payload lengths:
    256 (tag/date note), 65536 (format literal), 4096 (REPL argument), 31 (REPL `push`es),
    127 (option name). -/
theorem C11.pinned_open_sites_overflow :
    ∀ s ∈ C11.pinnedOpen, ¬ s.inBounds (List.replicate (s.overflowLen) 'x') := by
  intro s hs
  simp only [C11.pinnedOpen, List.mem_cons, List.mem_nil_iff, or_false] at hs
  rcases hs with rfl | rfl | rfl | rfl | rfl
  · exact C11.unbounded_site_overflows _ rfl _ (by rw [List.length_replicate]; exact Nat.le_refl _)
  · exact C11.unbounded_site_overflows _ rfl _ (by rw [List.length_replicate]; exact Nat.le_refl _)
  · exact C11.unbounded_site_overflows _ rfl _ (by rw [List.length_replicate]; exact Nat.le_refl _)
  · exact C11.unbounded_site_overflows _ rfl _ (by rw [List.length_replicate]; exact Nat.le_refl _)
  · exact Buffers.guarded_overflows _ rfl _ (by rw [List.length_replicate]; decide +kernel)
      (by rw [List.length_replicate]; decide +kernel)

/-- option.cc find_option: the guard `name.length() > 127` lets a 127-byte name through, which
    stores 127 + '_' + NUL = 129 bytes into `char buf[128]`. -/
theorem C11.find_option_pinned_overflows :
    ¬ ({ name := "option.cc:find_option:buf", kind := .guardedCopy, capacity := 128, offset := 0,
         limit := 127, extra := 1, terminator := 1, src := "" } : Site).inBounds (List.replicate 127 'a') := by
  exact Buffers.guarded_overflows _ rfl _ (by rw [List.length_replicate]; decide +kernel)
    (by rw [List.length_replicate]; decide +kernel)

/-- format_t::parse_elements reads no further than the terminator when the format has no backslash… -/
theorem C11.format_scan_in_bounds (inp : List Char) (h : ∀ c ∈ inp, c ≠ '\\') :
    formatScanMaxRead (inp.length + 1) 0 inp ≤ inp.length := by
  have := Buffers.formatScan_le (inp.length + 1) 0 inp h
  rwa [Nat.zero_add] at this

/-- …and reads one byte PAST the terminator when the format ends in a lone backslash
    (format.cc 159-173: `p++` then `continue` into the loop's `p++`). -/
theorem C11.format_trailing_backslash_overread (pre : List Char) (h : ∀ c ∈ pre, c ≠ '\\') :
    formatScanMaxRead (pre.length + 1) 0 (pre ++ ['\\']) = (pre ++ ['\\']).length + 1 := by
  have := Buffers.formatScan_overread pre h 0
  rwa [Nat.zero_add] at this

/-- Alias expansion terminates: with fuel above the number of aliases the loop never runs out
    (each round stops, throws "Infinite recursion", or marks an alias not seen before). -/
theorem C11.alias_expansion_terminates (aliases : List (String × String)) (recursive : Bool) (name : String) :
    expandAliases aliases recursive (aliases.length + 1) [] name ≠ .outOfFuel := by
  exact Buffers.expandAliases_fuel aliases recursive _ [] name
    (Nat.lt_succ_of_le (Buffers.unseen_le aliases []))

/-- Stepping by a positive length reaches the date: the loop ends within `date - start + 1` rounds.
    (`Gen.periodZeroRejected` records whether the period parser of the working tree guarantees `0 < len`.) -/
theorem C11.step_terminates (len : Nat) (hl : 0 < len) (start date : Nat) :
    (stepTo len (date - start + 1) start date).isSome = true :=
  Buffers.stepTo_terminates len hl _ start date (Nat.lt_succ_self _)

/-- FULL statement of termination for every length — false: -/
def C11.StepAlwaysTerminates : Prop := ∀ len start date, ∃ fuel, (stepTo len fuel start date).isSome = true

/-- With length 0 (`-p "every 0 days"`) and a date after the start, no amount of fuel suffices:
    the loop of date_interval_t::stabilize never ends (times.cc 1255-1266). -/
theorem C11.step_zero_never_terminates : ¬ C11.StepAlwaysTerminates := by
  intro h
  obtain ⟨fuel, hf⟩ := h 0 0 1
  rw [Buffers.stepTo_zero_diverges fuel 0 1 Nat.zero_lt_one] at hf
  cases hf

/-- Recursion depth of the parser is at most the number of `(` consumed plus one… -/
theorem C11.parse_depth_le (fuel : Nat) (toks : List Tok) (a : Ast) (r : List Tok) (d : Nat)
    (h : parseExpr fuel toks = some (a, r, d)) : d ≤ lpCount toks + 1 := by
  exact Nat.le_trans (Nat.le_add_right d (lpCount r)) ((Buffers.parse_depth_bound fuel).2.1 toks a r d h)

/-- …and exactly n + 1 on n nested parentheses: -/
theorem C11.parse_depth_nested (n : Nat) :
    parseExpr (2 * n + 2) (nested n) = some (.num, [], n + 1) := by
  have := Buffers.parseExpr_nested n 0 [] nofun
  rwa [Nat.zero_add, List.append_nil] at this

/-- so no bound on the recursion depth exists (the C++ has none either: parser.cc 38-72,
    520-549); the witness family is `nested n`. -/
theorem C11.parse_depth_unbounded (B : Nat) :
    ∃ toks fuel a r d, parseExpr fuel toks = some (a, r, d) ∧ B < d :=
  ⟨nested B, 2 * B + 2, .num, [], B + 1, C11.parse_depth_nested B, Nat.lt_succ_self B⟩

/-- A flat chain `1 + 1 + … + 1` parses at constant depth but builds a tree of depth n + 1;
    op_t::compile / calc / print and the destructor recurse over that tree. -/
theorem C11.tree_depth_unbounded (B : Nat) :
    ∃ toks fuel a r d, parseExpr fuel toks = some (a, r, d) ∧ d = 1 ∧ B < a.depth := by
  refine ⟨chain B, 0 + B + 2, leftTree .num B, [], 1, Buffers.parseExpr_chain B 0, rfl, ?_⟩
  rw [Buffers.leftTree_depth]
  exact Nat.lt_add_of_pos_left Nat.one_pos

example : Gen.bufferSites.length ≥ 30 := by decide +kernel
example : (Gen.bufferSites.filter (fun s => !C11.openSites.contains s.name)).length ≥ 25 := by decide +kernel
example : (readInto 255 (Cond.notChar ']').test 0 (List.replicate 300 '0')).1.length = 255 := by
  rw [C11.readInto_len_exact]
  · simp only [List.length_replicate]; decide +kernel
  · intro c hc; rw [List.mem_replicate] at hc; rw [hc.2]; decide +kernel
example : (readInto 5 (Cond.notChar '/').test 0 ['a', 'b', '\\', 't', 'c', 'd', 'e', 'f', 'g']).1 = ['a', 'b', '\t', 'c', 'd'] := by decide +kernel
example : (readInto 5 Cond.alpha.test 0 ['a', 'b', '\\', 't', 'c']) = (['a', 'b'], ['\\', 't', 'c']) := by decide +kernel
example : (parseQuantity 5 ['-', '1', '2', '3', '4', '5', '6', '7']).1 = ['-', '1', '2', '3', '4'] := by decide +kernel
example : (parseQuantity 5 ['1', '2', '.', ',', ' ']) = (['1', '2', '.', ','], ['1', '2']) := by decide +kernel
example : (symbolLoop 3 Cond.symbolChar.test 0 ['A', 'B', 'C', 'D']).1 = ['A', 'B', 'C'] := by decide +kernel
example : expandAliases [("A", "B"), ("B", "A")] true 3 [] "A" = .infiniteRecursion "A" := by decide +kernel
example : stepTo 7 20 0 100 = some 98 := by decide +kernel
example : parseExpr 8 (nested 3) = some (.num, [], 4) := by decide +kernel

end Ledger
