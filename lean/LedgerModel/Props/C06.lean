/-
C06 — print and equity output re-reads to an equivalent journal.

Model: Model/Print.lean (print.cc print_xact / post_has_simple_amount /
format_account_name / print_note; textual.cc parse_xact / parse_post on the
printed text; filters.cc posts_as_equity).  `c : Codec` is the amount and date
text layer (C04 / C14), a parameter; `c.Lawful` are the hypotheses on it.
`xactOk` is the explicit, decidable well-formedness predicate on the free text
(payee, accounts, code, notes) and on the amounts (in the codec's domain, not
display-zero, costs with a finite expansion).  `L : Layout` are the widths
(`Gen.printAccountWidth` … are the values found in the source).

Where the code violates the full statement, the full statement is a `def …Full :
Prop`, refuted on a concrete witness (`…_counterexample`), and the `…_partial`
theorem carries the exact excluded guard.
-/
import LedgerModel.Lemmas.Print
import LedgerModel.Lemmas.Equity
import LedgerModel.Lemmas.PrintToy
import LedgerModel.Lemmas.PrintInst
import LedgerModel.Model.PrintPinned
import LedgerModel.Gen.Print

namespace Ledger

open Print

/-- the bodies of print_xact, post_has_simple_amount, format_account_name, print_note,
    posts_as_equity::report_subtotal, subtotal_posts::operator(), handle_value, parse_xact,
    parse_post (without its balance-assignment block), next_element, skip_ws and the AMOUNT case
    of value_t::print are the ones this model was written against. -/
theorem C06.print_fns_pinned : Gen.printFns = Pinned.printFns := rfl

/-- the default widths of print_xact (account 36, amount 12, columns 80). -/
theorem C06.layout_pinned :
    (Gen.printAccountWidth, Gen.printAmountWidth, Gen.printColumns) =
    (Pinned.printAccountWidth, Pinned.printAmountWidth, Pinned.printColumns) := rfl

/-- the widths found in the source with given rule switches. -/
def C06.layoutWith (mark elide pad : Bool) : Layout :=
  { accountWidth := Gen.printAccountWidth, amountWidth := Gen.printAmountWidth, columns := Gen.printColumns,
    markWhenDiffers := mark, elideChecksMustBalance := elide, padOnlyWithAmount := pad }

/-- what `ledger print` of the current source does without options: the widths and the form of
    the three statements recognised by tools/extract_print.py. -/
def C06.sourceLayout : Layout :=
  C06.layoutWith Gen.printMarkWhenStateDiffers Gen.printElideChecksMustBalance Gen.printPadsOnlyWithAmount

/-- Re-reading the printed lines of any well-formed finalised transaction succeeds and
    yields `norm x`. -/
theorem C06.parse_render (c : Codec) (hc : c.Lawful) (L : Layout) (x : PXact)
    (hx : xactOk c x = true) :
    parseXactText c (renderXact c L x) = .ok (norm c L x) :=
  Print.parse_render c hc L x hx

/-- the same for the widths found in the source, on `String` lines. -/
theorem C06.parse_render_string (c : Codec) (hc : c.Lawful) (x : PXact)
    (hx : xactOk c x = true) :
    parseXactTextS c (renderXactS c C06.sourceLayout x) = .ok (norm c C06.sourceLayout x) := by
  unfold parseXactTextS renderXactS
  rw [List.map_map]
  have : (String.toList ∘ String.ofList) = (id : Str → Str) := by
    funext l; simp [Function.comp, String.toList_ofList]
  rw [this, List.map_id]
  exact Print.parse_render c hc _ x hx

/-- `norm` forgets only layout (1): the header is unchanged. -/
theorem C06.norm_header (c : Codec) (L : Layout) (x : PXact) :
    (norm c L x).date = x.date ∧ (norm c L x).aux = x.aux ∧ (norm c L x).state = x.state ∧
    (norm c L x).code = x.code ∧ (norm c L x).payee = x.payee ∧
    (norm c L x).note.map (·.lines) = x.note.map (·.lines) := by
  refine ⟨rfl, rfl, rfl, rfl, rfl, ?_⟩
  show (normNote L (leader c x).length x.note).map (·.lines) = _
  cases x.note <;> rfl

/-- `norm` forgets only layout (2): posting by posting, account, kind and note lines are
    unchanged; a written amount and an assertion come back as their displayed quantity
    (`c.disp`, the identity on amounts with no more decimals than the display precision:
    "to display precision" for amounts ledger computed from a balance assignment). -/
theorem C06.norm_posting (c : AmtCodec) (L : Layout) (xs : ItemState) (w : Nat) (e : Bool) (p : PPost) :
    (normPost c L xs w e p).account = p.account ∧ (normPost c L xs w e p).kind = p.kind ∧
    (normPost c L xs w e p).note.map (·.lines) = p.note.map (·.lines) ∧
    (e = false → (normPost c L xs w e p).amount = p.amount.map c.disp) ∧
    (p.amount.isSome → (normPost c L xs w e p).assigned = p.assigned.map c.disp) := by
  refine ⟨rfl, rfl, ?_, ?_, ?_⟩
  · show (normNote L (4 + w) p.note).map (·.lines) = _
    cases p.note <;> rfl
  · intro he; subst he; rfl
  · intro hs
    show (match p.amount with | none => none | some _ => p.assigned.map c.disp) = _
    cases h : p.amount with
    | none => rw [h] at hs; cases hs
    | some a => rfl

/-- (3) the postings of `norm x` are those of `x`, in order. -/
theorem C06.norm_posts (c : Codec) (L : Layout) (x : PXact) :
    (norm c L x).posts = (x.posts.zip (elideFlags L x)).map
      (fun pe => normPost c.toAmtCodec L x.state (accountWidth L x) pe.2 pe.1) ∧
    (norm c L x).posts.length = x.posts.length := by
  refine ⟨rfl, ?_⟩
  simp [norm, List.length_zip, elideFlags_length]

/-- textual.cc 1612-1627 then print.cc 270-274: the per-unit price reconstructed as
    `(given_cost / amount).abs()` is exactly the written one, for every non-zero amount;
    a total cost `@@` is printed as given. -/
theorem C06.per_unit_cost_exact (a u : Qty) (ha : a.q ≠ 0) (hu : 0 ≤ u.q) :
    printedCost (mkGiven a u false) a false = u ∧ printedCost (mkGiven a u true) a true = u :=
  ⟨printedCost_mkGiven a u false ha hu, printedCost_mkGiven a u true ha hu⟩

/-- the stored cost survives print | re-read exactly when the amount was written with no more
    decimals than the display precision (`c.disp a = a`) and the cost came from the reader
    (`k.given = mkGiven a u k.inFull` for a non-negative written price `u`). -/
theorem C06.cost_preserved (c : AmtCodec) (L : Layout) (xs : ItemState) (w : Nat) (p : PPost) (a u : Qty) (k : PCost)
    (ha : p.amount = some a) (hk : p.cost = some k) (hex : c.disp a = a) (hnz : a.q ≠ 0) (hu : 0 ≤ u.q)
    (hgiven : k.given = mkGiven a u k.inFull) :
    (normPost c L xs w false p).cost = some k := by
  simp only [normPost, ha, hk, hex]
  rw [hgiven, printedCost_mkGiven a u k.inFull hnz hu, ← hgiven]

/-- FULL statement (false for the pinned code): printing the re-read transaction
    reproduces the text byte for byte. -/
def C06.RenderFixpointFull (L : Layout) : Prop :=
  ∀ (c : Codec), c.Lawful → ∀ (x : PXact), xactOk c x = true →
    renderXact c L (norm c L x) = renderXact c L x

/-- it holds whenever print did not write padding blanks after an elided second amount
    (print.cc 256-257 pads even when `amt` is empty; the guard fails only for a
    two-posting transaction whose second account name is within one column of the
    account width). -/
theorem C06.render_fixpoint_partial (c : Codec) (hc : c.Lawful) (L : Layout) (x : PXact)
    (hx : xactOk c x = true) (hpad : trailingPad L x = false) :
    renderXact c L (norm c L x) = renderXact c L x :=
  Print.render_fixpoint c hc L x hx hpad

/-- and so print ∘ read ∘ print = print on such transactions. -/
theorem C06.print_read_print (c : Codec) (hc : c.Lawful) (L : Layout) (x : PXact)
    (hx : xactOk c x = true) (hpad : trailingPad L x = false) :
    (parseXactText c (renderXact c L x)).map (renderXact c L) = .ok (renderXact c L x) := by
  rw [Print.parse_render c hc L x hx]
  simp [Except.map, Print.render_fixpoint c hc L x hx hpad]

/-- the full statement for the repaired padding rule (`! amt.empty() &&`). -/
theorem C06.render_fixpoint (L : Layout) (hL : L.padOnlyWithAmount = true) : C06.RenderFixpointFull L := by
  intro c hc x hx
  apply Print.render_fixpoint c hc L x hx
  unfold trailingPad
  split <;> simp [hL]

def C06.mkP (acct : String) (kind : PostKind) (state : Nat) (q : Int) : PPost :=
  { account := acct.toList, kind := kind, state := state, amount := some { q := (q : Rat), comm := "" },
    cost := none, assigned := none, note := none }

def C06.mkX (state : Nat) (posts : List PPost) : PXact :=
  { date := 3, aux := none, state := state, code := none, payee := "p".toList, note := none, posts := posts }

/-- witness: `A  1` / a 35-character account `-1` (print writes two blanks after the second name). -/
def C06.wPad : PXact :=
  C06.mkX 0 [C06.mkP "A" .real 0 1, C06.mkP "Assets:Thirty-five chars account name" .real 0 (-1)]

/-- the pinned padding rule violates the full statement (whatever form the other two statements have). -/
theorem C06.render_fixpoint_counterexample (mark elide : Bool) :
    ¬ C06.RenderFixpointFull (C06.layoutWith mark elide false) := by
  -- the hypothesis and all four layouts in one statement, so that the kernel decodes the witness's strings once;
  -- the two texts differ already in the length of a line
  have hw : xactOk toyCodec C06.wPad = true ∧ ∀ mark elide : Bool,
      (renderXact toyCodec (C06.layoutWith mark elide false)
        (norm toyCodec (C06.layoutWith mark elide false) C06.wPad)).map List.length ≠
      (renderXact toyCodec (C06.layoutWith mark elide false) C06.wPad).map List.length := by decide +kernel
  exact fun h => hw.2 mark elide (congrArg (List.map List.length) (h toyCodec toyCodec_lawful C06.wPad hw.1))

/-- … in particular the current source, as long as tools/extract_print.py finds the pinned form. -/
theorem C06.render_fixpoint_source_counterexample (h : Gen.printPadsOnlyWithAmount = false) :
    ¬ C06.RenderFixpointFull C06.sourceLayout := by
  unfold C06.sourceLayout
  rw [h]
  exact C06.render_fixpoint_counterexample _ _

/-- what parse_post guarantees of every transaction ledger holds (textual.cc 1482-1484): under a
    cleared or pending transaction no posting is uncleared. -/
def C06.statesInherited (x : PXact) : Prop := x.state ≠ 0 → ∀ p ∈ x.posts, p.state ≠ 0

/-- FULL statement (false for the pinned code): every posting keeps its state. -/
def C06.StateMarksFull (L : Layout) : Prop :=
  ∀ (c : Codec), c.Lawful → ∀ (x : PXact), xactOk c x = true → C06.statesInherited x →
    ∀ y, parseXactText c (renderXact c L x) = .ok y → y.posts.map (·.state) = x.posts.map (·.state)

/-- witness: `* p` with posting `! A  1` (the candidate defect of DESIGN §9-9):
    format_account_name writes the posting's mark only under an uncleared transaction. -/
def C06.wState : PXact :=
  C06.mkX 1 [C06.mkP "A" .real 2 1, C06.mkP "B" .real 1 (-2), C06.mkP "C" .real 1 1]

theorem C06.state_marks_counterexample (elide pad : Bool) :
    ¬ C06.StateMarksFull (C06.layoutWith false elide pad) := by
  intro h
  have hx : xactOk toyCodec C06.wState = true := by decide +kernel
  have := h toyCodec toyCodec_lawful C06.wState hx (by unfold C06.statesInherited; decide +kernel) _
    (Print.parse_render toyCodec toyCodec_lawful _ _ hx)
  revert this
  cases elide <;> cases pad <;> decide +kernel

theorem C06.state_marks_source_counterexample (h : Gen.printMarkWhenStateDiffers = false) :
    ¬ C06.StateMarksFull C06.sourceLayout := by
  unfold C06.sourceLayout
  rw [h]
  exact C06.state_marks_counterexample _ _

/-- the state a posting re-reads with. -/
theorem C06.normPost_state (c : AmtCodec) (L : Layout) (xs : ItemState) (w : Nat) (e : Bool) (p : PPost)
    (h : (L.markWhenDiffers = true ∧ (xs ≠ 0 → p.state ≠ 0)) ∨ xs = 0 ∨ p.state = xs) :
    (normPost c L xs w e p).state = p.state := by
  rw [normPost_state_eq]
  apply readState_eq_self
  by_cases hs : p.state = xs
  · exact Or.inr hs
  · -- a differing state is kept only if its mark is written and read back
    left
    rcases h with ⟨hL, hi⟩ | h | h
    · refine ⟨by simp [marked, hL, hs], fun h0 => ?_⟩
      by_cases hx : xs = 0
      · exact hs (h0.trans hx.symm)
      · exact hi hx h0
    · subst h
      refine ⟨?_, hs⟩
      unfold marked
      cases L.markWhenDiffers <;> simp [hs]
    · exact absurd h hs

theorem C06.states_of_norm (c : Codec) (L : Layout) (x : PXact)
    (h : ∀ p ∈ x.posts, (L.markWhenDiffers = true ∧ (x.state ≠ 0 → p.state ≠ 0)) ∨ x.state = 0 ∨ p.state = x.state) :
    (norm c L x).posts.map (·.state) = x.posts.map (·.state) :=
  map_norm_posts c L x (·.state) fun pe hpe => C06.normPost_state _ L _ _ _ _ (h pe.1 (List.of_mem_zip hpe).1)

/-- the state marks that survive under the pinned rule: all of them when the transaction is
    uncleared, and otherwise those equal to the transaction's (every other posting re-reads with
    the transaction's state). -/
theorem C06.state_marks_partial (c : Codec) (hc : c.Lawful) (L : Layout) (x : PXact)
    (hx : xactOk c x = true)
    (hguard : x.state = 0 ∨ ∀ p ∈ x.posts, p.state = x.state) :
    ∀ y, parseXactText c (renderXact c L x) = .ok y → y.posts.map (·.state) = x.posts.map (·.state) := by
  intro y hy
  rw [Print.parse_render c hc L x hx] at hy
  cases hy
  apply C06.states_of_norm
  intro p hp
  rcases hguard with h | h
  · exact Or.inr (Or.inl h)
  · exact Or.inr (Or.inr (h p hp))

/-- the full statement for the repaired rule (`post->state() != xact.state()`). -/
theorem C06.state_marks (L : Layout) (hL : L.markWhenDiffers = true) : C06.StateMarksFull L := by
  intro c hc x hx hinh y hy
  rw [Print.parse_render c hc L x hx] at hy
  cases hy
  apply C06.states_of_norm
  intro p hp
  exact Or.inl ⟨hL, fun h => hinh h p hp⟩

/-- what happens otherwise under the pinned rule: under a cleared or pending transaction every
    posting re-reads with the transaction's state. -/
theorem C06.state_marks_dropped (c : AmtCodec) (L : Layout) (hL : L.markWhenDiffers = false)
    (xs : ItemState) (w : Nat) (e : Bool) (p : PPost)
    (h : xs ≠ 0) : (normPost c L xs w e p).state = xs := by
  simp [normPost, marked, hL, h]

/-- xact.cc 158-199, 355-374, 388-418 for a two-posting transaction whose second posting has no
    amount and whose first carries no cost: the null posting receives the negated amount when
    both postings must balance; a null amount on (or against) a posting that need not balance
    stays null and the transaction is rejected ("There cannot be null amounts after balancing a
    transaction"). -/
def C06.inferSecond (p1 p2 : PPost) : Option Qty :=
  match p1.amount with
  | some a1 => if p1.kind ≠ .virtual ∧ p2.kind ≠ .virtual then some a1.neg else none
  | none => none

/-- an accepted two-posting transaction with simple amounts of one commodity: the postings
    that must balance sum to zero. -/
def C06.accepted2 (p1 p2 : PPost) (a1 a2 : Qty) : Prop :=
  (p1.kind ≠ .virtual ∧ p2.kind ≠ .virtual → a1.q + a2.q = 0) ∧
  (p1.kind ≠ .virtual ∧ p2.kind = .virtual → a1.q = 0) ∧
  (p1.kind = .virtual ∧ p2.kind ≠ .virtual → a2.q = 0)

/-- FULL statement (false for the pinned code): whenever print elides the second amount,
    re-reading infers exactly the original amount. -/
def C06.ElideSecondFull (L : Layout) : Prop :=
  ∀ (c : Codec), c.Lawful → ∀ (x : PXact) (p1 p2 : PPost) (a1 a2 : Qty),
    xactOk c x = true → x.posts = [p1, p2] → p1.amount = some a1 → p2.amount = some a2 →
    c.disp a1 = a1 → C06.accepted2 p1 p2 a1 a2 → elideSecond L x = true →
    ∃ q1 q2, (norm c L x).posts = [q1, q2] ∧ q2.amount = none ∧ C06.inferSecond q1 q2 = some a2

/-- witness: `(A)  10` / `(B)  5`: both simple, same commodity, neither must balance; print
    writes `(B)` without its amount and the text is not a valid journal. -/
def C06.wVirtual : PXact := C06.mkX 0 [C06.mkP "A" .virtual 0 10, C06.mkP "B" .virtual 0 5]

theorem C06.elide_second_amount_counterexample (mark pad : Bool) :
    ¬ C06.ElideSecondFull (C06.layoutWith mark false pad) := by
  intro h
  obtain ⟨q1, q2, hq, _, hinf⟩ := h toyCodec toyCodec_lawful C06.wVirtual
    (C06.mkP "A" .virtual 0 10) (C06.mkP "B" .virtual 0 5) { q := 10, comm := "" } { q := 5, comm := "" }
    (by decide +kernel) rfl rfl rfl (by decide +kernel)
    ⟨fun h => (h.1 rfl).elim, fun h => (h.1 rfl).elim, fun h => (h.2 rfl).elim⟩ (by cases mark <;> cases pad <;> decide +kernel)
  rw [norm_posts_two toyCodec _ (rfl : C06.wVirtual.posts = [_, _])] at hq
  simp only [List.cons.injEq, and_true] at hq
  obtain ⟨h1, h2⟩ := hq
  subst h1 h2
  simp [C06.inferSecond, normPost, C06.mkP] at hinf

theorem C06.elide_second_amount_source_counterexample (h : Gen.printElideChecksMustBalance = false) :
    ¬ C06.ElideSecondFull C06.sourceLayout := by
  unfold C06.sourceLayout
  rw [h]
  exact C06.elide_second_amount_counterexample _ _

/-- when both postings must balance (the guard print.cc 230-234 does not test), the elision is
    sound: the re-read transaction has the second amount missing and finalize infers exactly
    the original amount - same commodity, exact negation of the first. -/
theorem C06.elide_second_amount_sound_partial (c : Codec) (hc : c.Lawful) (L : Layout) (x : PXact)
    (p1 p2 : PPost) (a1 a2 : Qty)
    (hx : xactOk c x = true) (hps : x.posts = [p1, p2])
    (h1 : p1.amount = some a1) (h2 : p2.amount = some a2) (hex : c.disp a1 = a1)
    (hacc : C06.accepted2 p1 p2 a1 a2) (he : elideSecond L x = true)
    (hmb : p1.kind ≠ .virtual ∧ p2.kind ≠ .virtual) :
    ∃ q1 q2, (norm c L x).posts = [q1, q2] ∧ q2.amount = none ∧ C06.inferSecond q1 q2 = some a2 := by
  refine ⟨normPost c.toAmtCodec L x.state (accountWidth L x) false p1,
    normPost c.toAmtCodec L x.state (accountWidth L x) true p2, ?_, rfl, ?_⟩
  · rw [norm_posts_two c L hps, he]
  · have hcomm : a1.comm = a2.comm := by
      rw [elideSecond_two hps] at he
      simp only [h1, h2, Bool.and_eq_true, beq_iff_eq] at he
      exact he.1.2
    have hsum := hacc.1 hmb
    have hk1 : (normPost c.toAmtCodec L x.state (accountWidth L x) false p1).kind = p1.kind := rfl
    have hk2 : (normPost c.toAmtCodec L x.state (accountWidth L x) true p2).kind = p2.kind := rfl
    have ham : (normPost c.toAmtCodec L x.state (accountWidth L x) false p1).amount = some a1 := by
      show p1.amount.map c.disp = some a1
      rw [h1, Option.map_some, hex]
    unfold C06.inferSecond
    rw [ham, hk1, hk2]
    simp only
    rw [if_pos hmb]
    simp only [Qty.neg]
    have hq : -a1.q = a2.q := by
      rw [← Rat.zero_add a2.q, ← Rat.neg_add_cancel a1.q, Rat.add_assoc, hsum, Rat.add_zero]
    rw [hq, hcomm]

/-- the full statement for the repaired rule (both postings must balance). -/
theorem C06.elide_second_amount_sound (L : Layout) (hL : L.elideChecksMustBalance = true) :
    C06.ElideSecondFull L := by
  intro c hc x p1 p2 a1 a2 hx hps h1 h2 hex hacc he
  apply C06.elide_second_amount_sound_partial c hc L x p1 p2 a1 a2 hx hps h1 h2 hex hacc he
  rw [elideSecond_two hps] at he
  simp only [hL, Bool.not_true, Bool.false_or, Bool.and_eq_true, decide_eq_true_eq] at he
  exact he.2

/-! ### the three repaired statements of print.cc are in the source

`tools/extract_print.py` recognises, in the working tree, which of two forms three statements of
print.cc have.  They were repaired (f798b3e, bf17db1, affa0b1); these obligations break as soon as
any of them regresses to the defective form, and the full statements below are then no longer
available for `C06.sourceLayout`. -/

/-- format_account_name writes a posting's state mark whenever it differs from the transaction's. -/
theorem C06.source_marks_when_state_differs : Gen.printMarkWhenStateDiffers = true := by decide

/-- print_xact elides the second amount only when both postings must balance. -/
theorem C06.source_elision_checks_must_balance : Gen.printElideChecksMustBalance = true := by decide

/-- print_xact writes the padding blanks only in front of an amount. -/
theorem C06.source_pads_only_with_amount : Gen.printPadsOnlyWithAmount = true := by decide

/-- hence, for what `ledger print` of the current source does: every posting keeps its state, -/
theorem C06.state_marks_source : C06.StateMarksFull C06.sourceLayout :=
  C06.state_marks _ C06.source_marks_when_state_differs

/-- an elided second amount is always re-inferred exactly, -/
theorem C06.elide_second_amount_sound_source : C06.ElideSecondFull C06.sourceLayout :=
  C06.elide_second_amount_sound _ C06.source_elision_checks_must_balance

/-- and printing the re-read transaction reproduces the text byte for byte. -/
theorem C06.render_fixpoint_source : C06.RenderFixpointFull C06.sourceLayout :=
  C06.render_fixpoint _ C06.source_pads_only_with_amount

/-- posts_as_equity: the Opening Balances transaction carries, for every account other than
    `Equity:Opening Balances` and every commodity, exactly the sum of the journal's postings -
    a fold identity over the posting list, any length, any order.  `zero` is the zero test
    used to drop entries; it must not drop a non-zero entry of the accumulated map. -/
theorem C06.equity_reproduces_balances (zero : Qty → Bool) (ps : List EPost)
    (hz : ∀ e ∈ collect ps, ∀ kq ∈ e.bal, zero { q := kq.2, comm := kq.1 } = true → kq.2 = 0)
    (a : Str) (k : Comm) (ha : a ≠ equityAccount) :
    balOfP (equityXact zero ps).posts a k = balOf ps a k := by
  unfold equityXact
  simp only
  rw [balOfP_append, balOfP_acctPosts zero ps _ hz, balOfP_balancing zero _ a k ha, sumAcc_collect, Rat.add_zero]

/-- in particular with an exact zero test. -/
theorem C06.equity_reproduces_balances_exact (ps : List EPost) (a : Str) (k : Comm) (ha : a ≠ equityAccount) :
    balOfP (equityXact (fun q => decide (q.q = 0)) ps).posts a k = balOf ps a k :=
  C06.equity_reproduces_balances _ ps (by intro e _ kq _ h; simpa using h) a k ha

/-- `amount_t::is_zero` as equity uses it: zero at display precision. -/
def C06.dispZero (c : AmtCodec) : Qty → Bool := fun q => decide ((c.disp q).q = 0)

/-- FULL statement (false for the current code): the equity transaction, printed and read back,
    reproduces every account's exact per-commodity balance. -/
def C06.EquityThroughTextFull : Prop :=
  ∀ (c : Codec), c.Lawful → ∀ (L : Layout) (ps : List EPost),
    xactOk c (equityXact (C06.dispZero c.toAmtCodec) ps) = true →
    ∀ y, parseXactText c (renderXact c L (equityXact (C06.dispZero c.toAmtCodec) ps)) = .ok y →
    ∀ (a : Str) (k : Comm), a ≠ equityAccount → balOfP y.posts a k = balOf ps a k

/-- witness: an account holding 1/2 under the toy text layer, whose display keeps the numerator only (`toyDisp`:
    1/2 is shown and read back as 1) (in ledger: an elided amount computed from a cost with more decimals than the
    display precision). -/
def C06.wEquity : List EPost :=
  [{ account := "A".toList, virt := false, mustBal := false, amt := { q := (1 : Rat) / 2, comm := "" }, date := 3 },
   { account := "B".toList, virt := false, mustBal := false, amt := { q := -(1 : Rat) / 2, comm := "" }, date := 3 }]

theorem C06.equity_through_text_counterexample : ¬ C06.EquityThroughTextFull := by
  intro h
  have hx : xactOk toyCodec (equityXact (C06.dispZero toyCodec.toAmtCodec) C06.wEquity) = true := by decide +kernel
  have := h toyCodec toyCodec_lawful C06.sourceLayout C06.wEquity hx _
    (Print.parse_render toyCodec toyCodec_lawful _ _ hx) "A".toList "" (by decide)
  revert this
  decide +kernel

/-- through the text it holds when every accumulated balance is display-exact and the account
    asked about is not the one whose amount print elides (print elides the second amount of a
    two-posting Opening Balances transaction). -/
theorem C06.equity_through_text_partial (c : Codec) (hc : c.Lawful) (L : Layout) (ps : List EPost)
    (hx : xactOk c (equityXact (C06.dispZero c.toAmtCodec) ps) = true)
    (hexact : ∀ e ∈ collect ps, ∀ kq ∈ e.bal, c.disp { q := kq.2, comm := kq.1 } = { q := kq.2, comm := kq.1 })
    (hexactT : ∀ kq ∈ equityTotal (collect ps), c.disp { q := -kq.2, comm := kq.1 } = { q := -kq.2, comm := kq.1 })
    (a : Str) (k : Comm) (ha : a ≠ equityAccount)
    (hel : elidedAccount L (equityXact (C06.dispZero c.toAmtCodec) ps) ≠ some a) :
    ∀ y, parseXactText c (renderXact c L (equityXact (C06.dispZero c.toAmtCodec) ps)) = .ok y →
      balOfP y.posts a k = balOf ps a k := by
  intro y hy
  rw [Print.parse_render c hc L _ hx] at hy
  cases hy
  rw [balOfP_norm c L _ a k ?_ hel]
  · apply C06.equity_reproduces_balances _ ps _ a k ha
    intro e he kq hkq hz
    have := hexact e he kq hkq
    simp only [C06.dispZero, decide_eq_true_eq] at hz
    rw [this] at hz
    exact hz
  · intro p hp q hq
    simp only [equityXact, List.mem_append] at hp
    rcases hp with hp | hp
    · obtain ⟨e, he, kq, hkq, hpa⟩ := acctPosts_amounts _ ps _ p hp
      rw [hpa] at hq
      cases hq
      exact hexact e he kq hkq
    · simp only [balancingPosts, List.mem_map, List.mem_filter] at hp
      obtain ⟨kq, ⟨hkq, _⟩, rfl⟩ := hp
      simp only [mkPost, Option.some.injEq] at hq
      subst hq
      exact hexactT kq hkq

/-! ### with ledger's own amount and date text layers (C04, C14)

`ledgerCodec env cur` prints amounts with `AmountText.printAmount` (amount_t::print) and reads them
with `AmountText.parseAmount` (amount_t::parse) for the commodity pool `env`, prints dates with
`DateParse.formatDate "%Y/%m/%d"` and reads them with `DateParse.parseDate`.  Its lawfulness is
proved from C04's and C14's round-trip theorems (Lemmas/PrintInst.lean), so for this text layer the
amount and date hypotheses are discharged; what remains in `xactOk` is decidable: free text
well-formed, every amount in `ledgerDom` (symbol admitted by C04's `SymOK`, number within
parse_quantity's buffer, printed text free of `;` `@` `=`, no negative display-zero), costs with
a finite decimal expansion, dates in the years 1400..9999. -/

theorem C06.ledger_text_layers_lawful (env : Comm → AmountText.CommInfo) (cur : Int × Int) :
    (ledgerCodec env cur).Lawful := ledgerCodec_lawful env cur

theorem C06.parse_render_ledger (env : Comm → AmountText.CommInfo) (cur : Int × Int) (L : Layout) (x : PXact)
    (hx : xactOk (ledgerCodec env cur) x = true) :
    parseXactText (ledgerCodec env cur) (renderXact (ledgerCodec env cur) L x) =
      .ok (norm (ledgerCodec env cur) L x) :=
  Print.parse_render _ (ledgerCodec_lawful env cur) L x hx

theorem C06.render_fixpoint_ledger_partial (env : Comm → AmountText.CommInfo) (cur : Int × Int) (L : Layout) (x : PXact)
    (hx : xactOk (ledgerCodec env cur) x = true) (hpad : trailingPad L x = false) :
    renderXact (ledgerCodec env cur) L (norm (ledgerCodec env cur) L x) = renderXact (ledgerCodec env cur) L x :=
  Print.render_fixpoint _ (ledgerCodec_lawful env cur) L x hx hpad

/-- a pool with `$` (prefix, thousands marks, 2 decimals) and `EUR` (suffix, separated, 2 decimals). -/
def C06.demoEnv : Comm → AmountText.CommInfo := fun k =>
  if k = "$" then { style := { thousands := true }, prec := 2 }
  else if k = "EUR" then { style := { suffixed := true, separated := true }, prec := 2 }
  else {}

/-- `2020/01/15=2020/01/20 * (c 1) Café Zoë  ; hn` with a cost, a virtual posting and an elided amount. -/
def C06.demoLedger : PXact :=
  { date := 18276, aux := some 18281, state := 1, code := some "c 1".toList, payee := "Café Zoë".toList,
    note := some { lines := [" hn".toList], nextLine := false },
    posts :=
      [{ account := "Expenses:Food".toList, kind := .real, state := 1,
         amount := some { q := 10, comm := "EUR" },
         cost := some { given := { q := 12345 / 1000, comm := "$" }, inFull := false }, assigned := none,
         note := some { lines := [" pn".toList], nextLine := false } },
       { account := "Budget".toList, kind := .virtual, state := 1, amount := some { q := -12345678 / 100, comm := "$" },
         cost := none, assigned := none, note := none },
       { account := "Assets:Cash".toList, kind := .real, state := 1, amount := none, cost := none,
         assigned := none, note := none }] }

example : xactOk (ledgerCodec C06.demoEnv (2020, 1)) C06.demoLedger = true := by decide +kernel

/-- what `ledger print` writes for it (checked against the binary by hand: same four lines). -/
example : renderXact (ledgerCodec C06.demoEnv (2020, 1)) C06.sourceLayout C06.demoLedger =
    ["2020/01/15=2020/01/20 * (c 1) Café Zoë  ; hn".toList,
     "    Expenses:Food                          10.00 EUR @ $1.2345  ; pn".toList,
     "    (Budget)                            $-123,456.78".toList,
     "    Assets:Cash".toList] := by
  -- the kernel decodes a long string literal very slowly; comparing `String.ofList` of the output avoids it
  have hinj : ∀ {xs ys : List Str}, xs.map String.ofList = ys.map String.ofList → xs = ys := by
    intro xs ys h
    simpa [List.map_map, Function.comp_def, String.toList_ofList] using congrArg (List.map String.toList) h
  apply hinj
  simp only [List.map_cons, List.map_nil, String.ofList_toList]
  decide +kernel

/-! ### non-vacuity: a concrete transaction with a cost, a virtual posting, posting states,
    notes on the transaction and on a posting, an aux date and a code satisfies the
    hypotheses; the theorems apply to it and their conclusions are checked by evaluation. -/

def C06.demo : PXact :=
  { date := 5, aux := some 7, state := 0, code := some "c 1".toList, payee := "Café Zoë".toList,
    note := some { lines := [" first".toList, " :tag:".toList], nextLine := true },
    posts :=
      [{ account := "Expenses:Food".toList, kind := .real, state := 1,
         amount := some { q := 10, comm := "" },
         cost := some { given := { q := 30, comm := "" }, inFull := false }, assigned := none,
         note := some { lines := [" pn".toList], nextLine := false } },
       { account := "Budget".toList, kind := .virtual, state := 2, amount := some { q := 3, comm := "" },
         cost := none, assigned := some { q := 4, comm := "" }, note := none },
       { account := "Assets:Cash".toList, kind := .real, state := 0, amount := none, cost := none,
         assigned := none, note := none }] }

example : xactOk toyCodec C06.demo = true := by decide +kernel

example : parseXactText toyCodec (renderXact toyCodec C06.sourceLayout C06.demo) =
    .ok (norm toyCodec C06.sourceLayout C06.demo) :=
  C06.parse_render toyCodec toyCodec_lawful _ _ (by decide +kernel)

example : (renderXact toyCodec C06.sourceLayout C06.demo).length = 6 := by decide +kernel

example : trailingPad C06.sourceLayout C06.demo = false := by decide +kernel

example : renderXact toyCodec C06.sourceLayout (norm toyCodec C06.sourceLayout C06.demo) =
    renderXact toyCodec C06.sourceLayout C06.demo :=
  C06.render_fixpoint_partial toyCodec toyCodec_lawful _ _ (by decide +kernel) (by decide +kernel)

/-- the guards of the partial theorems fail exactly on the witnesses. -/
example : trailingPad (C06.layoutWith false false false) C06.wPad = true := by decide +kernel
example : ¬ (C06.wState.state = 0 ∨ ∀ p ∈ C06.wState.posts, p.state = C06.wState.state) := by decide +kernel
example : elideSecond (C06.layoutWith false false false) C06.wVirtual = true := by decide +kernel

/-- a balanced two-posting transaction: the elision applies and is sound. -/
def C06.demo2 : PXact := C06.mkX 1 [C06.mkP "A" .real 1 10, C06.mkP "B" .bvirtual 1 (-10)]

example : ∃ q1 q2, (norm toyCodec C06.sourceLayout C06.demo2).posts = [q1, q2] ∧ q2.amount = none ∧
    C06.inferSecond q1 q2 = some { q := -10, comm := "" } :=
  C06.elide_second_amount_sound_partial toyCodec toyCodec_lawful _ C06.demo2 _ _ { q := 10, comm := "" } _
    (by decide +kernel) rfl rfl rfl (by decide +kernel)
    (by refine ⟨fun _ => by decide +kernel, ?_, ?_⟩ <;> (intro h; simp [C06.mkP] at h))
    (by decide +kernel) (by simp [C06.mkP])

example : (1 : Rat) ≠ 0 ∧ (0 : Rat) ≤ 3 := by decide +kernel

/-- equity over a journal with three accounts, one of them (virtual) only. -/
def C06.demoPosts : List EPost :=
  [{ account := "B".toList, virt := false, mustBal := false, amt := { q := -5, comm := "" }, date := 3 },
   { account := "A".toList, virt := false, mustBal := false, amt := { q := 5, comm := "" }, date := 3 },
   { account := "A".toList, virt := false, mustBal := false, amt := { q := 2, comm := "" }, date := 4 },
   { account := "C".toList, virt := true, mustBal := false, amt := { q := 7, comm := "" }, date := 2 }]

example : balOfP (equityXact (fun q => decide (q.q = 0)) C06.demoPosts).posts "A".toList "" = 7 ∧
    (equityXact (fun q => decide (q.q = 0)) C06.demoPosts).posts.length = 4 ∧
    (equityXact (fun q => decide (q.q = 0)) C06.demoPosts).date = 4 := by decide +kernel

end Ledger
