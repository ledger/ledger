/-
C20 — time-clock entries yield the exact elapsed time.

The model is `Timelog.step : State → Event → State × Out` (Model/Timelog.lean),
folded over a file by `readAll` and closed at end of input by `runAll`; it
mirrors timelog.cc 44-197 line by line.  Everything below is for arbitrary
event lists / arbitrary timestamps (no bound), by invariants of `step`.

Tie to the source: `C20.source_pinned` (the bodies of timelog.cc's five
functions, the error messages, the matching chain, the clock-letter dispatch,
the fixed columns of textual.cc's clock directives, the --day-break / --now
plumbing, skip_ws / next_element, re-extracted from the working tree on every
run, are the text this model was written against), `C20.directives_pinned`
(the bodies of the two clock directives), `Gen.Timelog.acctOffsetBounded`
(interpreted), and the differential check tools/props/c20.py.

Modelled behaviour that is called out (DESIGN §5 C20): with exactly one session
open the code closes it whatever account the `o` line names
(`C20.single_open_closes_any`); the matching theorem is therefore stated for
check-outs that name an open account (`C20.match_refines_same_account`) or
none with one session open (`C20.match_accountless_single`).
-/
import LedgerModel.Model.Proto
import LedgerModel.Lemmas.Timelog
import LedgerModel.Gen.Timelog
import LedgerModel.Model.TimelogPinned

namespace Ledger
open Timelog

/-- What the extractor finds in the working tree is what the model mirrors. -/
theorem C20.source_pinned :
    (Gen.Timelog.dtOffset, Gen.Timelog.dtLen, Gen.Timelog.acctOffset, Gen.Timelog.dispatch,
      Gen.Timelog.errorMessages, Gen.Timelog.matchChain, Gen.Timelog.shapes, Gen.Timelog.plumbing) =
    (Pinned.Timelog.dtOffset, Pinned.Timelog.dtLen, Pinned.Timelog.acctOffset, Pinned.Timelog.dispatch,
      Pinned.Timelog.errorMessages, Pinned.Timelog.matchChain, Pinned.Timelog.shapes, Pinned.Timelog.plumbing) := rfl

/-- The two clock directives of textual.cc (column reads, construction of the event, the call
    into `time_log_t`) are the text this model was written against.  (After a repair of the
    column read this theorem must be refreshed, deliberately, with `tools/repin.py Timelog`;
    `Gen.Timelog.acctOffsetBounded` is the interpreted part.) -/
theorem C20.directives_pinned : Gen.Timelog.directives = Pinned.Timelog.directives := rfl

/-- A check-out that is accepted (no `--day-break`) removes exactly one open check-in `o`
    and yields exactly one posting: to `o`'s account, of exactly `e.ts − o.ts` seconds,
    dated on the day of the check-in. -/
theorem C20.checkout_one_posting (st st' : State) (e : Event) (ps : List Posting) (s : Option Session)
    (hk : e.kind = .cout) (h : step false st e = (st', .ok (ps, s))) :
    ∃ o l1 l2, st = l1 ++ o :: l2 ∧ st' = l1 ++ l2 ∧ o.ts ≤ e.ts ∧
      s = some ⟨o.acct, o.ts, e.ts⟩ ∧
      ps = [{ day := dayOf o.ts, acct := o.acct, secs := e.ts - o.ts, payee := payeeOf o e,
              code := codeOf o e, cleared := e.completed, tin := o.ts, tout := e.ts }] := by
  have hc := step_cases false st e
  rw [h] at hc
  cases hc with
  | checkin a hk' => rw [hk] at hk'; cases hk'
  | checkout o l1 l2 _ h1 hle => exact ⟨o, l1, l2, h1, rfl, hle, rfl, rfl⟩

/-- A check-in produces no posting; it only extends the open list. -/
theorem C20.checkin_no_posting (db : Bool) (st st' : State) (e : Event) (ps : List Posting) (s : Option Session)
    (hk : e.kind = .cin) (h : step db st e = (st', .ok (ps, s))) :
    ps = [] ∧ s = none ∧ ∃ a, e.acct = some a ∧ st' = st ++ [⟨a, e.ts, e.desc⟩] ∧ ∀ o ∈ st, o.acct ≠ a := by
  have hc := step_cases db st e
  rw [h] at hc
  cases hc with
  | checkin a _ ha hno => exact ⟨rfl, rfl, a, ha, rfl, hno⟩
  | checkout o l1 l2 hk' => rw [hk] at hk'; cases hk'

/-- **Session seconds are exact** (whole files, no `--day-break`): the postings ledger holds
    after reading any event list and closing at `now` are, in order, one per matched
    check-in/check-out pair: to that pair's account, dated on the check-in day, of exactly
    `out − in` seconds. -/
theorem C20.session_seconds_exact (evs : List Event) (now : Int) :
    (runAll false evs now).posts.map Posting.key = (runAll false evs now).sess.map Session.key := by
  obtain ⟨_, h⟩ := runAll_inv (db := false) (I := fun _ ps ss => ps.map Posting.key = ss.map Session.key)
    (E := fun _ => True)
    (fun _ hc _ _ h => by rw [List.map_append, List.map_append, h]; cases hc <;> rfl)
    rfl evs now (fun _ _ => trivial) (fun _ => trivial)
  exact h

/-- **The day-break split.**  For a session `[in, out]`, `in ≤ out`, the pieces made by the
    loop of timelog.cc 134-157: (1) sum to exactly `out − in`; (2) are all on the session's
    account, each of positive length `tout − tin`, dated on the day of its own beginning, and
    lying within that one calendar day (`[tin, tout − 1]` is on day `p.day`; a piece may end
    exactly on the midnight that ends its day); (3) are dated on the consecutive days
    `day(in), day(in)+1, …, day(out − 1)`, one piece per day touched; (4) an empty session
    (`out = in`) yields no piece at all. -/
theorem C20.daybreak_sum (o : Open) (e : Event) (h : o.ts ≤ e.ts) :
    sumSecs (mkPosts true o e) = e.ts - o.ts ∧
    (∀ p ∈ mkPosts true o e,
        p.acct = o.acct ∧ p.secs = p.tout - p.tin ∧ 0 < p.secs ∧ p.secs ≤ 86400 ∧
        p.day = dayOf p.tin ∧ dayOf (p.tout - 1) = p.day ∧ o.ts ≤ p.tin ∧ p.tout ≤ e.ts) ∧
    (o.ts < e.ts →
        (mkPosts true o e).map (·.day) = daysFrom (dayOf o.ts) ((dayOf (e.ts - 1) - dayOf o.ts).toNat + 1)) ∧
    (o.ts = e.ts → mkPosts true o e = []) := by
  refine ⟨mkPosts_sum true o e h, ?_, ?_, ?_⟩
  · intro p hp
    simp only [mkPosts, if_true] at hp
    obtain ⟨s, t, rfl, hs, hst, ht, hto⟩ := dayBreak_pieces (mkPost o e) o.ts e.ts p hp
    exact ⟨rfl, rfl, Int.sub_pos.mpr hst, Int.sub_left_le_of_le_add (Int.le_trans ht (daysEnd_le s)), rfl,
      dayOf_pred_of_le_daysEnd hst ht, hs, hto⟩
  · intro hlt
    simp only [mkPosts, if_true]
    exact dayBreak_days (mkPost o e) (fun _ _ => rfl) o.ts e.ts hlt
  · intro heq
    simp only [mkPosts, if_true]
    rw [dayBreak_unfold, if_neg (Int.not_lt.mpr (Int.le_of_eq heq.symm))]

/-- **The loop terminates**: its measure is `out − begin` (a natural number while the loop
    runs); every iteration that does not leave the loop replaces `begin` by the next
    midnight, which is strictly later, so the measure strictly decreases.  (This is the
    obligation Lean discharged to accept `Timelog.dayBreak`.) -/
theorem C20.daybreak_terminates (b out : Int) (h1 : b < out) (h2 : ¬ out ≤ daysEnd b) :
    b < daysEnd b ∧ (out - daysEnd b).toNat < (out - b).toNat := by
  have := daysEnd_gt b
  exact ⟨this, (Int.toNat_lt_toNat (Int.sub_pos.mpr h1)).mpr (Int.sub_lt_sub_left this out)⟩

/-- **For every event list, with or without `--day-break`, and every account: the account's
    reported time equals the sum of the lengths of its sessions.** -/
theorem C20.account_time_eq_sum_sessions (db : Bool) (evs : List Event) (now : Int) (a : String) :
    acctTotal a (runAll db evs now).posts = sessTotal a (runAll db evs now).sess := by
  obtain ⟨_, h⟩ := runAll_inv (db := db) (I := fun _ ps ss => acctTotal a ps = sessTotal a ss)
    (E := fun _ => True)
    (fun _ hc _ _ h => by rw [acctTotal_append, sessTotal_append, h, hc.total a])
    rfl evs now (fun _ _ => trivial) (fun _ => trivial)
  exact h

/-- **Sessions are the matched pairs of the input**: every session that is counted begins
    at a check-in line of the file for that same account and ends at a check-out line of the
    file (or at `now`, for sessions still open at end of input), and never has negative length. -/
theorem C20.sessions_from_events (db : Bool) (evs : List Event) (now : Int) :
    ∀ s ∈ (runAll db evs now).sess,
      s.tin ≤ s.tout ∧
      (∃ e ∈ evs, e.kind = .cin ∧ e.acct = some s.acct ∧ e.ts = s.tin) ∧
      ((∃ e ∈ evs, e.kind = .cout ∧ e.ts = s.tout) ∨ s.tout = now) := by
  obtain ⟨_, hb⟩ := runAll_inv (db := db) (I := fun st _ ss => Backed evs now st ss)
    (E := fun e => e ∈ evs ∨ ∃ a, e = closeEvent now a)
    (fun he hc _ _ hb => hc.backed he hb)
    ⟨fun _ h => (List.not_mem_nil h).elim, fun _ h => (List.not_mem_nil h).elim⟩ evs now (fun _ he => .inl he) (fun a => .inr ⟨a, rfl⟩)
  exact hb.2

/-- **`--day-break` changes nothing but the splitting**: the same sessions are matched, the same
    lines are rejected, and every account's reported time is the same with and without it. -/
theorem C20.daybreak_same_sessions (evs : List Event) (now : Int) :
    (runAll true evs now).sess = (runAll false evs now).sess ∧
    (runAll true evs now).errs = (runAll false evs now).errs ∧
    (runAll true evs now).closeErr = (runAll false evs now).closeErr ∧
    ∀ a, acctTotal a (runAll true evs now).posts = acctTotal a (runAll false evs now).posts := by
  have hcore : (readAll true evs).core = (readAll false evs).core := foldl_accStep_indep_dayBreak evs {} {} rfl
  simp only [Acc.core, Prod.mk.injEq] at hcore
  obtain ⟨hst, hss, her, _⟩ := hcore
  have hcl := closeLoop_indep_dayBreak now ((readAll false evs).st.map (·.acct)) (readAll false evs).st
    (readAll true evs).posts (readAll false evs).posts (readAll false evs).sess
  have hsess : (runAll true evs now).sess = (runAll false evs now).sess := by
    simp only [runAll, hst, hss]; rw [hcl.2]
  refine ⟨hsess, by simp only [runAll, her], ?_, ?_⟩
  · simp only [runAll, hst, hss]; rw [hcl.2]
  · intro a
    rw [C20.account_time_eq_sum_sessions, C20.account_time_eq_sum_sessions, hsess]

/-- **The three malformed kinds are errors** (whatever else is on the line, in both modes):
    (1) a check-out with nothing open; (2) a second check-in to an account that is open;
    (3) a check-out earlier than the check-in it is matched with (the session is consumed
    all the same, timelog.cc 86/104 before 118). -/
theorem C20.errors (db : Bool) :
    (∀ e, e.kind = .cout → step db [] e = ([], .error .outNoIn)) ∧
    (∀ st e a, e.kind = .cin → e.acct = some a → (∃ o ∈ st, o.acct = a) →
        step db st e = (st, .error .doubleIn)) ∧
    (∀ st e o rest, e.kind = .cout → matchOut st e.acct = .ok (o, rest) → e.ts < o.ts →
        step db st e = (rest, .error .outBeforeIn)) := by
  refine ⟨?_, ?_, ?_⟩
  · intro e hk
    rw [step_cout hk]
    rfl
  · intro st e a hk ha ⟨o, ho, hoa⟩
    have : st.any (fun o => o.acct = a) = true := List.any_eq_true.mpr ⟨o, ho, decide_eq_true hoa⟩
    rw [step_cin hk, clockIn, ha]
    exact if_pos this
  · intro st e o rest hk hm hlt
    rw [step_cout hk, clockOut, hm]
    exact if_pos hlt

/-- Two further rejected check-outs: several sessions open and no account on the line;
    several sessions open and an account that is not open. -/
theorem C20.errors_unmatched (db : Bool) (o1 o2 : Open) (os : List Open) (e : Event) (hk : e.kind = .cout) :
    (e.acct = none → step db (o1 :: o2 :: os) e = (o1 :: o2 :: os, .error .needAccount)) ∧
    (∀ a, e.acct = some a → (∀ o ∈ o1 :: o2 :: os, o.acct ≠ a) →
        step db (o1 :: o2 :: os) e = (o1 :: o2 :: os, .error .noMatch)) := by
  refine ⟨?_, ?_⟩
  · intro ha
    simp only [step_cout hk, clockOut, matchOut, ha]
  · intro a ha hno
    simp only [step_cout hk, clockOut, matchOut, ha, takeAcct_none a _ hno]

/-- **Errors are reported and nothing is printed**: if the line after any prefix `pre` is
    rejected, the error is recorded with that line's number and the run shows no register
    rows at all (ledger's exit status is then non-zero). -/
theorem C20.errors_reported (db : Bool) (pre post : List Event) (e : Event) (now : Int) (k : Timelog.Err)
    (h : (step db (readAll db pre).st e).2 = .error k) :
    (pre.length + 1, k) ∈ (runAll db (pre ++ e :: post) now).errs ∧
    (runAll db (pre ++ e :: post) now).rows = none := by
  have hmem : (pre.length + 1, k) ∈ (readAll db (pre ++ e :: post)).errs := by
    rw [show readAll db (pre ++ e :: post) = (e :: post).foldl (accStep db) (readAll db pre) from
      List.foldl_append, List.foldl_cons]
    apply foldl_errs_mono
    simp only [accStep, h, outErrs, readAll_line, List.mem_append, List.mem_singleton, or_true]
  refine ⟨hmem, if_neg fun hx => ?_⟩
  have he : (readAll db (pre ++ e :: post)).errs = [] := List.isEmpty_iff.mp hx.1
  rw [he] at hmem
  cases hmem

/-- Invariant of `step`: no account is open twice. -/
theorem C20.open_accounts_nodup (db : Bool) (evs : List Event) :
    ((readAll db evs).st.map (·.acct)).Nodup := by
  exact readAll_inv (db := db) (I := fun st _ _ => (st.map (·.acct)).Nodup) (E := fun _ => True)
    (fun _ hc _ _ h => hc.nodup h) List.nodup_nil evs (fun _ _ => trivial)

/-- **Matching refines "the open check-in of the same account"**, under the explicit guard
    that the check-out names an account that is open (`hopen`): the session that is closed
    is the open check-in `o` of exactly that account, and exactly it leaves the open list.
    (`hnd` is the invariant `C20.open_accounts_nodup`.) -/
theorem C20.match_refines_same_account (st : State) (hnd : (st.map (·.acct)).Nodup)
    (a : String) (o : Open) (ho : o ∈ st) (hopen : o.acct = a) :
    matchOut st (some a) = .ok (o, st.filter (fun x => x.acct ≠ a)) := by
  rcases st with _ | ⟨x, _ | ⟨y, xs⟩⟩
  · cases ho
  · cases List.mem_singleton.mp ho
    simp [matchOut, hopen]
  · simp only [matchOut]
    rw [takeAcct_of_nodup a _ o hnd ho hopen]

/-- … and a check-out without an account, with exactly one session open, closes that one. -/
theorem C20.match_accountless_single (o : Open) : matchOut [o] none = .ok (o, []) := rfl

/-- The consequence for the postings: under the guard, every posting of an accepted
    check-out naming `a` is on account `a`, and the rejected case is `out < in`. -/
theorem C20.checkout_posts_same_account (db : Bool) (st : State) (hnd : (st.map (·.acct)).Nodup)
    (e : Event) (hk : e.kind = .cout) (a : String) (ha : e.acct = some a) (o : Open) (ho : o ∈ st) (hopen : o.acct = a) :
    (step db st e).1 = st.filter (fun x => x.acct ≠ a) ∧
    (e.ts < o.ts → (step db st e).2 = .error .outBeforeIn) ∧
    (o.ts ≤ e.ts → ∃ ps, (step db st e).2 = .ok (ps, some ⟨a, o.ts, e.ts⟩) ∧ (∀ p ∈ ps, p.acct = a) ∧
        sumSecs ps = e.ts - o.ts) := by
  have hm := C20.match_refines_same_account st hnd a o ho hopen
  simp only [step_cout hk, clockOut, ha, hm]
  by_cases hlt : e.ts < o.ts
  · rw [if_pos hlt]
    exact ⟨rfl, fun _ => rfl, fun hle => absurd hle (Int.not_le.mpr hlt)⟩
  · rw [if_neg hlt]
    refine ⟨rfl, fun h => absurd h hlt, fun hle => ⟨mkPosts db o e, by rw [hopen], ?_, mkPosts_sum db o e hle⟩⟩
    intro p hp; rw [mkPosts_acct db o e p hp, hopen]

/-- The modelled behaviour outside the guard (timelog.cc 84-87): with exactly one session
    open, a check-out closes it **whatever account it names**. -/
theorem C20.single_open_closes_any (o : Open) (acct : Option String) : matchOut [o] acct = .ok (o, []) := rfl

/-- Full statement: the account a clock line designates is a function of the line alone. -/
def C20.AcctFieldFromLine (off : Nat) (bounded : Bool) : Prop :=
  ∀ line s1 s2 : List Char, readAcctAt off bounded line s1 = readAcctAt off bounded line s2

/-- It holds for the repaired read (offset limited by the length of the line). -/
theorem C20.acct_field_from_line_bounded (off : Nat) : C20.AcctFieldFromLine off true := by
  intro line s1 s2
  rw [readAcctAt_eq (.inl rfl) s1, readAcctAt_eq (.inl rfl) s2]

/-- It fails for the unbounded read at column 22 — witness: the 21-character line
    `o 2020/01/01 11:00:00` designates `A` or `B` depending on what an earlier line left
    behind its terminator. -/
theorem C20.acct_field_from_line_fails_unbounded : ¬ C20.AcctFieldFromLine 22 false := by
  intro h
  have := h "o 2020/01/01 11:00:00".toList "A".toList "B".toList
  revert this
  decide +kernel

/-- What is provable for the code as extracted (`Gen.Timelog.acctOffset`,
    `Gen.Timelog.acctOffsetBounded`): the account field depends on the line alone
    whenever the read is bounded **or** the line reaches the fixed column. -/
theorem C20.acct_field_from_line_partial (line s1 s2 : List Char)
    (guard : Gen.Timelog.acctOffsetBounded = true ∨ Gen.Timelog.acctOffset ≤ line.length) :
    readAcctAt Gen.Timelog.acctOffset Gen.Timelog.acctOffsetBounded line s1 =
    readAcctAt Gen.Timelog.acctOffset Gen.Timelog.acctOffsetBounded line s2 := by
  rw [readAcctAt_eq guard s1, readAcctAt_eq guard s2]

/-- A line that carries an account at the fixed column: the text read is that account
    (up to the first TAB / double space), whatever follows the terminator. -/
theorem C20.acct_field_reads_line (s : List Char) :
    readAcctAt 22 false ("o 2020/01/01 11:00:00 Proj:x  payee".toList) s = "Proj:x".toList := by
  rw [readAcctAt_eq (.inr (by decide +kernel)) s]
  decide +kernel

/-- 2020-02-28 23:59:59 → 2020-03-01 00:00:00 (leap day in between), no `--day-break`:
    one posting of 86401 s on day 18320 = 2020-02-28. -/
example :
    (runAll false [⟨.cin, false, 1582934399, (some "C"), ""⟩, ⟨.cout, true, 1583020800, none, ""⟩] 1583107200).rows =
      some [{ day := 18320, acct := "C", secs := 86401, payee := "", code := "", cleared := true,
              tin := 1582934399, tout := 1583020800 }] := by decide +kernel

example : Cal.toYMD 18320 = (2020, 2, 28) ∧ Cal.toYMD 18321 = (2020, 2, 29) ∧ Cal.toYMD 18322 = (2020, 3, 1) := by decide +kernel

/-- the same session under `--day-break`: 1 s on 02-28 and 86400 s on 02-29, nothing on 03-01. -/
example :
    (mkPosts true ⟨"C", 1582934399, ""⟩ (⟨.cout, true, 1583020800, none, ""⟩)).map (fun p => (p.day, p.secs)) =
      [(18320, 1), (18321, 86400)] := by
  simp only [mkPosts, if_true]
  rw [dayBreak_unfold, if_pos (by decide), if_neg (by decide),
      dayBreak_unfold, if_pos (by decide), if_pos (by decide)]
  decide +kernel

/-- the three malformed kinds and the account-less check-out with two sessions open, in one file -/
example :
    (runAll false [⟨.cout, false, 10, (some "A"), ""⟩, ⟨.cin, false, 20, (some "A"), ""⟩, ⟨.cin, false, 30, (some "A"), ""⟩,
                   ⟨.cout, false, 5, (some "A"), ""⟩, ⟨.cin, false, 40, (some "A"), ""⟩, ⟨.cin, false, 50, (some "B"), ""⟩,
                   ⟨.cout, false, 60, none, ""⟩] 100).errs =
      [(1, .outNoIn), (3, .doubleIn), (4, .outBeforeIn), (7, .needAccount)] := by decide +kernel

/-- hypotheses of `match_refines_same_account` are satisfiable with several sessions open -/
example : matchOut [⟨"A", 1, ""⟩, ⟨"B", 2, ""⟩, ⟨"C", 3, ""⟩] (some "B") = .ok (⟨"B", 2, ""⟩, [⟨"A", 1, ""⟩, ⟨"C", 3, ""⟩]) := by
  decide +kernel

/-- the guard of `acct_field_from_line_partial` is satisfiable / its second disjunct is what holds today -/
example : Gen.Timelog.acctOffset ≤ ("o 2020/01/01 11:00:00 A".toList).length := by decide +kernel

end Ledger
