/-
C14 — dates read and print consistently; impossible dates are rejected.

Two layers.

Calendar (`Model/Calendar.lean`, lemmas in `Lemmas/Calendar.lean`): day numbers ⇄ civil
dates is a bijection between the real proleptic-Gregorian dates and ALL integers, the order
of day numbers is the lexicographic (year, month, day) order, the weekday advances by one per
day from a fixed anchor.  No enumeration: `omega` case analysis on month / century / leap.

Reader and printer (`Model/DateParse.lean`, lemmas in `Lemmas/DateParse.lean`): ledger's
`parse_date` = strptime over the reader list re-extracted from times.cc (`Gen.dateReaders`),
separator normalisation, the re-format-and-compare acceptance test, year inference;
`format_date` = strftime.  Completeness (`parse_format`, `parse_year_month`,
`parse_mmdd_year_directive`): every real day 1400..9999 in every accepted spelling reads as
exactly that day.  Soundness (`parse_valid_only`): nothing else is accepted — hence
`impossible_rejected`, `trailing_rejected`.  Round trip: `format_parse`.

The tie to times.cc: `readers_pinned`, `date_consts_pinned`, `date_fns_pinned` (the reader
list, constants and function bodies re-extracted from the working tree are the ones this
model was written against), the interpreted flag `Gen.yearInferenceSnaps`, and the
exhaustive differential check tools/props/c14.py.
-/
import LedgerModel.Lemmas.Calendar
import LedgerModel.Lemmas.DateParse
import LedgerModel.Model.DateReadersPinned
import LedgerModel.Model.Proto

namespace Ledger
open Cal DateParse

/-- The reader list found in the working tree is the one the theorems below are about. -/
theorem C14.readers_pinned : Gen.dateReaders = Pinned.dateReaders := rfl

/-- Formats, separator rule, length limit, year-directive clock: as the model assumes. -/
theorem C14.date_consts_pinned :
    (Gen.writtenDateFormat, Gen.printedDateFormat, Gen.convertSeparatorsDefault,
      Gen.normalisedSeparators, Gen.separatorTarget, Gen.maxDateLen, Gen.yearDirectiveMonthDay) =
    (Pinned.writtenDateFormat, Pinned.printedDateFormat, Pinned.convertSeparatorsDefault,
      Pinned.normalisedSeparators, Pinned.separatorTarget, Pinned.maxDateLen,
      Pinned.yearDirectiveMonthDay) := rfl

/-- The bodies of the C++ functions the model mirrors are the ones it was written against. -/
theorem C14.date_fns_pinned : Gen.dateFns = Pinned.dateFns := rfl

/-- Printing then reading a day number: civil-from-days inverts days-from-civil on every real date. -/
theorem C14.toYMD_ofYMD (y m d : Int) (hv : validYMD y m d = true) :
    toYMD (ofYMD y m d) = (y, m, d) := Cal.toYMD_ofYMD y m d hv

/-- Every integer is the day number of the date computed for it. -/
theorem C14.ofYMD_toYMD (n : Int) : ofYMD (toYMD n).1 (toYMD n).2.1 (toYMD n).2.2 = n :=
  Cal.ofYMD_toYMD n

/-- The date computed for any day number is a real calendar date. -/
theorem C14.validYMD_toYMD (n : Int) : validYMD (toYMD n).1 (toYMD n).2.1 (toYMD n).2.2 = true :=
  Cal.validYMD_toYMD n

/-- Day order is Gregorian order: lexicographic in (year, month, day). -/
theorem C14.ofYMD_strict_mono (y m d y' m' d' : Int)
    (hv : validYMD y m d = true) (hv' : validYMD y' m' d' = true)
    (hlt : y < y' ∨ (y = y' ∧ (m < m' ∨ (m = m' ∧ d < d')))) :
    ofYMD y m d < ofYMD y' m' d' := Cal.ofYMD_strict_mono y m d y' m' d' hv hv' hlt

/-- Distinct real dates have distinct day numbers. -/
theorem C14.ofYMD_injective (y m d y' m' d' : Int)
    (hv : validYMD y m d = true) (hv' : validYMD y' m' d' = true)
    (h : ofYMD y m d = ofYMD y' m' d') : y = y' ∧ m = m' ∧ d = d' :=
  Cal.ofYMD_inj y m d y' m' d' hv hv' h

/-- The day after the last day of a month is the first of the next month (incl. leap February). -/
theorem C14.next_month_first (y m : Int) (hm1 : 1 ≤ m) (hm12 : m ≤ 12) :
    ofYMD y m (daysInMonth y m) + 1 =
      (if m = 12 then ofYMD (y + 1) 1 1 else ofYMD y (m + 1) 1) := Cal.next_month_first y m hm1 hm12

/-- The weekday advances by one per day, cyclically. -/
theorem C14.weekday_succ (n : Int) : weekday (n + 1) = (weekday n + 1) % 7 := Cal.weekday_succ n

/-- Anchor: 1970-01-01 is day 0 and a Thursday (0 = Sunday); with `weekday_succ` this fixes the
    weekday of every day. -/
theorem C14.weekday_anchor : ofYMD 1970 1 1 = 0 ∧ weekday (ofYMD 1970 1 1) = 4 := by decide

theorem C14.weekday_range (n : Int) : 0 ≤ weekday n ∧ weekday n < 7 := Cal.weekday_range n

/-- Full dates: `YYYY s MM s DD`, separators `/ - .` chosen independently, leading zeros of month
    and day optional independently (36 spellings), any clock. -/
theorem C14.parse_format (y m d : Nat) (hy1 : 1400 ≤ y) (hy2 : y ≤ 9999)
    (hv : validYMD y m d = true) (cur : Int × Int) (s : List Char) (hs : FullSpelling y m d s) :
    parseDate none cur s = .ok (ofYMD y m d) := by
  obtain ⟨mt, dt, hmt, hdt, hbuf⟩ := fullSpelling_iff.1 hs
  have hlen : s.length ≤ 127 := length_le_of_normSeps hbuf (by
    have := hmt.length_le
    have := hdt.length_le
    simp only [digits4, List.length_append, List.length_cons, List.length_nil]; omega)
  rw [parseDate_default, readLoop_cons_none (routine_md_on_year4 cur y _ hlen hbuf),
    readLoop_cons_some (routine_ymd_full cur hy1 hy2 hv hmt hdt hlen hbuf)]

/-- `YYYY s MM`: the first day of that month. -/
theorem C14.parse_year_month (y m : Nat) (hy1 : 1400 ≤ y) (hy2 : y ≤ 9999) (hm1 : 1 ≤ m)
    (hm12 : m ≤ 12) (cur : Int × Int) (s : List Char) (hs : YMSpelling y m s) :
    parseDate none cur s = .ok (ofYMD y m 1) := by
  obtain ⟨mt, hmt, hbuf⟩ := ymSpelling_iff.1 hs
  have hlen : s.length ≤ 127 := length_le_of_normSeps hbuf (by
    have := hmt.length_le
    simp only [digits4, List.length_append, List.length_cons, List.length_nil]; omega)
  rw [parseDate_default, readLoop_cons_none (routine_md_on_year4 cur y _ hlen hbuf),
    readLoop_cons_none (routine_ymd_on_ym cur hy2 hm1 hm12 hmt hlen hbuf),
    readLoop_cons_some (routine_ym cur hy1 hy2 hm1 hm12 hmt hlen hbuf)]

/-- `MM s DD` with the clock (year `Y`, month `cm`): how the model reads it. -/
theorem C14.parse_mmdd (Y cm : Int) (m d : Nat) (hY1 : 1400 ≤ Y) (hY2 : Y ≤ 9999)
    (hv : validYMD Y m d = true) (s : List Char) (hs : MDSpelling m d s) :
    parseDate none (Y, cm) s =
      if (m : Int) > cm then minusYear (ofYMD Y m d) else .ok (ofYMD Y m d) := by
  obtain ⟨mt, dt, hmt, hdt, hbuf⟩ := mdSpelling_iff.1 hs
  have hlen : s.length ≤ 127 := length_le_of_normSeps hbuf (by
    have := hmt.length_le
    have := hdt.length_le
    simp only [List.length_append, List.length_cons]; omega)
  rw [parseDate_default, readLoop_cons, routine_md Y cm hY1 hY2 hv hmt hdt hlen hbuf]
  by_cases hm : (m : Int) > cm
  · rw [if_pos hm, if_pos hm]
    cases minusYear (ofYMD Y m d) <;> rfl
  · rw [if_neg hm, if_neg hm]

/-- `MM s DD` under a year directive `Y` (which puts the clock in the last month of `Y`,
    `Gen.yearDirectiveMonthDay`): exactly that day of year `Y`. -/
theorem C14.parse_mmdd_year_directive (Y : Int) (m d : Nat) (hY1 : 1400 ≤ Y) (hY2 : Y ≤ 9999)
    (hv : validYMD Y m d = true) (s : List Char) (hs : MDSpelling m d s) :
    parseDate none (Y, Gen.yearDirectiveMonthDay.1) s = .ok (ofYMD Y m d) := by
  rw [C14.parse_mmdd Y _ m d hY1 hY2 hv s hs]
  obtain ⟨-, hm12, -⟩ := validYMD_bounds hv
  have : ¬ ((m : Int) > ((Gen.yearDirectiveMonthDay.1 : Nat) : Int)) := by
    simp [Gen.yearDirectiveMonthDay]; omega
  rw [if_neg this]

/-- FULL statement for a clock-inferred year (no year directive; `--now` or the real clock):
    `MM s DD` denotes that day of the clock's year, or of the year before when the month is
    after the clock's month — and is rejected when that day does not exist. -/
def C14.MmddClockExact : Prop :=
  ∀ (Y cm : Int) (m d : Nat) (s : List Char), 1401 ≤ Y → Y ≤ 9999 → validYMD Y m d = true →
    MDSpelling m d s → (m : Int) > cm →
    parseDate none (Y, cm) s =
      (if validYMD (Y - 1) m d then .ok (ofYMD (Y - 1) m d) else .error .badDay)

/-- The code as it stands (boost `years(1)` subtraction, `Gen.yearInferenceSnaps`) violates it:
    `02/28` read in January 2021 becomes 2020-02-29. -/
theorem C14.mmdd_clock_not_exact (h : Gen.yearInferenceSnaps = true) : ¬ C14.MmddClockExact := by
  intro hex
  have hs : MDSpelling 2 28 "02/28".toList :=
    ⟨'/', "02".toList, "28".toList, Or.inl rfl, Or.inl (by decide +kernel), Or.inl (by decide +kernel), by decide +kernel⟩
  have h1 := hex 2021 1 2 28 "02/28".toList (by decide) (by decide) (by decide) hs (by decide)
  have h2 := C14.parse_mmdd 2021 1 2 28 (by decide) (by decide) (by decide) "02/28".toList hs
  rw [h2] at h1
  simp only [minusYear, h] at h1
  revert h1
  decide +kernel

/-- What holds for a clock-inferred year: exact whenever the day is not a 28..31 February
    (explicit guard), or once the year is moved back without boost's end-of-month snap. -/
theorem C14.parse_mmdd_clock_partial (Y cm : Int) (m d : Nat) (s : List Char)
    (hY1 : 1401 ≤ Y) (hY2 : Y ≤ 9999) (hv : validYMD Y m d = true) (hs : MDSpelling m d s)
    (hm : (m : Int) > cm)
    (hg : Gen.yearInferenceSnaps = false ∨ (m ≠ 2 ∨ d < 28)) :
    parseDate none (Y, cm) s =
      (if validYMD (Y - 1) m d then .ok (ofYMD (Y - 1) m d) else .error .badDay) := by
  rw [C14.parse_mmdd Y cm m d (Int.le_trans (by decide) hY1) hY2 hv s hs, if_pos hm]
  unfold minusYear
  cases hf : Gen.yearInferenceSnaps
  · simp only [Bool.false_eq_true, if_false, Cal.toYMD_ofYMD Y m d hv]
  · rcases hg with hg | hg
    · rw [hf] at hg; cases hg
    · have hg' : (m : Int) ≠ 2 ∨ (d : Int) < 28 :=
        hg.imp (fun h e => h (Int.ofNat_inj.1 e)) Int.ofNat_lt.2
      simp only [if_true, validYMD_other_year (Y - 1) hv hg', addYears_ofYMD Y m d (-1) hv hg']
      rfl

/-- Soundness of the reader: if `parse_date` accepts a text, the text is one of the spellings of
    the day it returns (full date, year-month = first of the month, or month-day in the clock's
    year / the year before).  So month 13, day 32, 30 February, 29 February of a non-leap year,
    trailing characters, embedded blanks, signs … are all rejected. -/
theorem C14.parse_valid_only (cur : Int × Int) (s : List Char) (n : Int)
    (h : parseDate none cur s = .ok n) :
    (∃ y m d : Nat, 1400 ≤ y ∧ y ≤ 9999 ∧ validYMD y m d = true ∧ n = ofYMD y m d ∧
        FullSpelling y m d s) ∨
    (∃ y m : Nat, 1400 ≤ y ∧ y ≤ 9999 ∧ 1 ≤ m ∧ m ≤ 12 ∧ n = ofYMD y m 1 ∧ YMSpelling y m s) ∨
    (∃ m d : Nat, 1400 ≤ cur.1 ∧ cur.1 ≤ 9999 ∧ validYMD cur.1 m d = true ∧
        (if (m : Int) > cur.2 then minusYear (ofYMD cur.1 m d) = .ok n else n = ofYMD cur.1 m d) ∧
        MDSpelling m d s) := by
  rw [parseDate_default] at h
  obtain ⟨r, hr, h⟩ := readLoop_ok_inv h
  simp only [List.mem_cons, List.not_mem_nil, or_false] at hr
  rcases hr with hr | hr | hr <;> rw [hr] at h
  · exact Or.inr (Or.inr (routine_md_sound h))
  · exact Or.inl (routine_ymd_sound h)
  · exact Or.inr (Or.inl (routine_ym_sound h))

/-- Impossible dates are rejected: a text of the full-date shape (`YYYY s M[M] s D[D]`, any
    separators, optional leading zeros) whose numbers are not a real day of the years 1400..9999
    — month 0 or 13.., day 0 or 32.., 30 February, 31 April, 29 February of a non-leap year … —
    is an error under every clock; it is never shifted to a neighbouring date. -/
theorem C14.impossible_rejected (y m d : Nat) (hy1 : 1000 ≤ y) (hy2 : y ≤ 9999) (hm : m < 100)
    (hd : d < 100) (s : List Char) (hs : FullSpelling y m d s)
    (himp : validYMD y m d = false ∨ y < 1400) (cur : Int × Int) :
    ∃ e, parseDate none cur s = .error e := by
  cases hp : parseDate none cur s with
  | error e => exact ⟨e, rfl⟩
  | ok n =>
    exfalso
    obtain ⟨s1, s2, mt, dt, h1, h2, hmt, hdt, hs⟩ := hs
    rcases C14.parse_valid_only cur s n hp with
      ⟨y', m', d', hy1', hy2', hv', -, s1', s2', mt', dt', -, h2', hmt', hdt', hs'⟩ | ⟨y', m', -, -, -, -, -, hym⟩ |
      ⟨m', d', -, -, -, -, hmd⟩
    · obtain ⟨-, hm12', -, hd31'⟩ := validYMD_bounds_nat hv'
      rw [hs] at hs'
      obtain ⟨ey, em, er⟩ := full_prefix_unique hy2 hy2' hm (Nat.lt_of_le_of_lt hm12' (by decide))
        hmt hmt' h2 h2' hs'
      subst er
      have ed := numText_unique hd (Nat.lt_of_le_of_lt hd31' (by decide)) hdt hdt'
      subst ey em ed
      rcases himp with h | h
      · rw [hv'] at h; cases h
      · omega
    · exact full_not_ym h2 hs hym
    · exact full_not_md hs hmd

/-- Trailing characters are rejected: an accepted full spelling followed by anything that does not
    start with a digit is an error.  (A trailing digit either gives another well-formed date text
    or falls under `parse_valid_only`.) -/
theorem C14.trailing_rejected (y m d : Nat) (hy2 : y ≤ 9999) (hm : m < 100) (s : List Char)
    (hs : FullSpelling y m d s) (c : Char) (extra : List Char) (hc : isDigit c = false)
    (cur : Int × Int) : ∃ e, parseDate none cur (s ++ c :: extra) = .error e := by
  cases hp : parseDate none cur (s ++ c :: extra) with
  | error e => exact ⟨e, rfl⟩
  | ok n =>
    exfalso
    obtain ⟨s1, s2, mt, dt, h1, h2, hmt, hdt, hs⟩ := hs
    have hshape : s ++ c :: extra = digits4 y ++ s1 :: (mt ++ s2 :: (dt ++ c :: extra)) := by
      rw [hs]; simp
    rcases C14.parse_valid_only cur _ n hp with
      ⟨y', m', d', -, hy2', hv', -, s1', s2', mt', dt', -, h2', hmt', hdt', hs'⟩ | ⟨y', m', -, -, -, -, -, hym⟩ |
      ⟨m', d', -, -, -, -, hmd⟩
    · obtain ⟨-, hm12', -⟩ := validYMD_bounds_nat hv'
      rw [hshape] at hs'
      obtain ⟨-, -, er⟩ := full_prefix_unique hy2 hy2' hm (Nat.lt_of_le_of_lt hm12' (by decide))
        hmt hmt' h2 h2' hs'
      have : c ∈ dt' := er ▸ List.mem_append_right _ List.mem_cons_self
      have hdg := hdt'.allDigit c this
      rw [hc] at hdg; cases hdg
    · exact full_not_ym h2 hshape hym
    · exact full_not_md hshape hmd

/-- What `format_date` writes with the written format (`%Y/%m/%d`, `Gen.writtenDateFormat`) or
    with `%Y-%m-%d` / `%Y.%m.%d` reads back as the same day, for every day of the years
    1400..9999 and any clock. -/
theorem C14.format_parse (n : Int) (hy1 : 1400 ≤ (toYMD n).1) (hy2 : (toYMD n).1 ≤ 9999)
    (cur : Int × Int) (fmt : String) (t : List Char)
    (hf : fmt = Gen.writtenDateFormat ∨ fmt = "%Y-%m-%d" ∨ fmt = "%Y.%m.%d")
    (ht : formatDate fmt.toList n = some t) : parseDate none cur t = .ok n := by
  obtain ⟨sep, hsep, e⟩ : ∃ sep, IsSep sep ∧ fmt.toList = ['%', 'Y', sep, '%', 'm', sep, '%', 'd'] := by
    rcases hf with rfl | rfl | rfl
    · exact ⟨'/', Or.inl rfl, by decide +kernel⟩
    · exact ⟨'-', Or.inr (Or.inl rfl), by decide +kernel⟩
    · exact ⟨'.', Or.inr (Or.inr rfl), by decide +kernel⟩
  rw [e, formatDate_ymd_sep (by rcases hsep with rfl | rfl | rfl <;> decide +kernel)] at ht
  obtain rfl := Option.some.inj ht
  have hv := Cal.validYMD_toYMD n
  have hn := Cal.ofYMD_toYMD n
  generalize toYMD n = T at *
  obtain ⟨y, m, d⟩ := T
  simp only at hy1 hy2 hv hn ⊢
  obtain ⟨hm1, hm12, hd1, hd31⟩ := validYMD_bounds hv
  have h0 : 0 ≤ y := Int.le_trans (by decide) hy1
  have ey : ((y.toNat : Nat) : Int) = y := Int.toNat_of_nonneg h0
  have em : ((m.toNat : Nat) : Int) = m := Int.toNat_of_nonneg (Int.le_trans (by decide) hm1)
  have ed : ((d.toNat : Nat) : Int) = d := Int.toNat_of_nonneg (Int.le_trans (by decide) hd1)
  have hyt := yearText_nat y.toNat (Int.toNat_le.2 hy2)
  rw [ey] at hyt
  rw [hyt, C14.parse_format y.toNat m.toNat d.toNat ((Int.le_toNat h0).2 hy1) (Int.toNat_le.2 hy2)
    (by rw [ey, em, ed]; exact hv) cur _
    ⟨sep, sep, _, _, hsep, hsep, Or.inl rfl, Or.inl rfl, rfl⟩, ey, em, ed, hn]

/-! ### Non-vacuity and concrete instances (evaluated by the kernel) -/

example : validYMD 2020 2 29 = true ∧ validYMD 2019 2 29 = false ∧ validYMD 1900 2 29 = false ∧
    validYMD 2000 2 29 = true := by decide
example : toYMD (ofYMD 2020 2 29) = (2020, 2, 29) ∧ ofYMD 2020 3 1 = ofYMD 2020 2 29 + 1 := by decide
example : weekday (ofYMD 2020 2 29) = 6 ∧ weekday (ofYMD 1900 1 1) = 1 ∧
    weekday (ofYMD 2199 12 31) = 2 := by decide
example : FullSpelling 2020 2 9 "2020-2.09".toList :=
  ⟨'-', '.', "2".toList, "09".toList, Or.inr (Or.inl rfl), Or.inr (Or.inr rfl),
    Or.inr ⟨by decide, by decide +kernel⟩, Or.inl (by decide +kernel), by decide +kernel⟩
example : parseDate none (2030, 12) "2020-2.09".toList = .ok (ofYMD 2020 2 9) := by decide +kernel
example : parseDate none (2030, 12) "2020/02/29".toList = .ok (ofYMD 2020 2 29) := by decide +kernel
example : parseDate none (2030, 12) "2019/02/29".toList = .error .badDay := by decide +kernel
example : parseDate none (2030, 12) "2020/02/30".toList = .error .badDay := by decide +kernel
example : parseDate none (2030, 12) "2020/13/01".toList = .error .invalid := by decide +kernel
example : parseDate none (2030, 12) "2020/12/32".toList = .error .invalid := by decide +kernel
example : parseDate none (2030, 12) "2020/12/31x".toList = .error .invalid := by decide +kernel
example : parseDate none (2030, 12) "2020/12/311".toList = .error .invalid := by decide +kernel
example : parseDate none (2030, 12) "1399/12/31".toList = .error .badYear := by decide +kernel
example : parseDate none (2019, 12) "02/29".toList = .error .badDay := by decide +kernel
example : parseDate none (2020, 12) "2/29".toList = .ok (ofYMD 2020 2 29) := by decide +kernel
example : Gen.yearInferenceSnaps = true →
    parseDate none (2021, 1) "02/28".toList = .ok (ofYMD 2020 2 29) := by decide +kernel
example : Gen.yearInferenceSnaps = false →
    parseDate none (2021, 1) "02/28".toList = .ok (ofYMD 2020 2 28) ∧
    parseDate none (2020, 1) "02/29".toList = .error .badDay := by decide +kernel
example : formatDate "%Y-%m-%d %a".toList (ofYMD 2020 2 29) = some "2020-02-29 Sat".toList := by decide +kernel

example : FullSpelling 2019 2 29 "2019/02/29".toList ∧ validYMD 2019 2 29 = false :=
  ⟨⟨'/', '/', "02".toList, "29".toList, Or.inl rfl, Or.inl rfl, Or.inl (by decide +kernel), Or.inl (by decide +kernel),
    by decide +kernel⟩, by decide⟩
example : FullSpelling 2020 13 1 "2020-13-1".toList ∧ validYMD 2020 13 1 = false :=
  ⟨⟨'-', '-', "13".toList, "1".toList, Or.inr (Or.inl rfl), Or.inr (Or.inl rfl), Or.inl (by decide +kernel),
    Or.inr ⟨by decide, by decide +kernel⟩, by decide +kernel⟩, by decide⟩

end Ledger
