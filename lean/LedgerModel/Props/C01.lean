/-
C01 — a transaction is accepted if and only if its postings balance.

Model: `FinX.finalize env bucket enum x` (Model/Finalize.lean) mirrors
`xact_base_t::finalize` (src/xact.cc 158-423) step by step; `FinX.step` is the
journal step that drops a transaction whose finalize fails and counts one error
(journal.cc 365-372, textual.cc 258-300).  `env` is the commodity display
precision in force, `enum` the enumeration order of the residual's hash map
(assumed only to be an enumeration: `(enum b).Perm b`).

`FinX.residual ps c` is the exact per-commodity sum of cost-or-amount over the
must-balance postings (ordinary and [bracketed]); `FinX.displaysZero env c q`
says that the exact quantity `q` of commodity `c` prints as all zeros at `c`'s
display precision (`Amount.isZero` of an amount whose precision counter exceeds
the display precision; for the null commodity: `q = 0`).

Not modelled (kept out of the generators, see Model/Finalize.lean): lot
annotations and the gain/loss adjustment, scaling commodities.

The tie to the C++: `C01.finalize_shape_pinned` (every statement the model
mirrors, and the whole bodies of finalize / add_xact / the textual.cc error
path, re-extracted from the working tree) and the differential check of
`xact.fin` / `journal.fin` against the rebuilt binary (tools/props/c01.py).
-/
import LedgerModel.Lemmas.Finalize
import LedgerModel.Gen.Finalize
import LedgerModel.Model.FinalizePinned

namespace Ledger
open FinX

/-- The statements of finalize (must_balance filter, cost-or-amount, null-post
    errors, bucket, implicit exchange, null filling, the `is_zero` test and its
    error text), of add_balancing_post, sorted_amounts, compare_by_commodity,
    add_xact and the textual.cc error accounting found in the working tree are,
    token for token, the ones the model mirrors. -/
theorem C01.finalize_shape_pinned : Gen.finalizeShape = Pinned.finalizeShape := rfl

/-- An accepted transaction balances to within display precision: in every
    commodity — an annotated (lot) commodity is a commodity of its own — the exact
    residual of the RESULT (costs applied, lot-priced costs at their basis,
    inferred postings included) prints as zero at the display precision of the
    commodity's base. -/
theorem C01.finalize_ok_residual_zero (env : PrecEnv) (bucket : Option String)
    (enum : Balance → Balance) (henum : ∀ b, (enum b).Perm b) (x : LXact) (x' : FXact)
    (h : finalize env bucket enum x = .ok x') :
    ∀ c, displaysZero (liftEnv env) c (residual x'.posts c) = true :=
  finalizeF_ok (liftEnv env) bucket enum henum _ _ (ofPosting_cc _ x.posts) x' h

/-- Exact fragment: no posting carries a cost or a lot annotation and every
    amount is a commoditized decimal written with at most its commodity's display
    precision (`FinX.Exact`; the loader guarantees the precision part,
    `C01.step_precision_covers`).  Then an accepted transaction sums to EXACTLY
    zero in every commodity.  The implicit two-commodity exchange is covered
    (`y + |y/x|·x` is 0 or 2y, and 2y is a non-zero multiple of the display unit,
    which never prints as zero). -/
theorem C01.finalize_exact_of_migrated (env : PrecEnv) (bucket : Option String)
    (enum : Balance → Balance) (henum : ∀ b, (enum b).Perm b) (x : LXact) (x' : FXact)
    (hcost : ∀ p ∈ x.posts, p.post.cost = none) (hlot : ∀ p ∈ x.posts, p.lot = none)
    (hex : ∀ p ∈ x.posts, ∀ a, p.post.amount = some a → Exact (liftEnv env) a)
    (h : finalize env bucket enum x = .ok x') :
    ∀ c, residual x'.posts c = 0 :=
  finalizeF_exact (liftEnv env) bucket enum henum _ _
    (List.forall_mem_map.2 fun p hp => ofPosting_cost_of_none _ p (hcost p hp)) (ofPosting_cc _ x.posts)
    (List.forall_mem_map.2 fun p hp => ofPosting_lotPrice_of_none _ p (hlot p hp))
    (List.forall_mem_map.2 fun p hp a ha =>
      hex p hp a (by rw [ofPosting_amount_plain _ p (hlot p hp)] at ha; exact ha)) x' h

/-- once a transaction has been read, the display precision of every commodity
    covers each of its posting amounts (amount.cc 1190-1195) -/
theorem C01.step_precision_covers (env : PrecEnv) (x : LXact) (p : LPosting) (a : Amount)
    (hp : p ∈ x.posts) (ha : p.post.amount = some a) : a.prec ≤ observe env x a.comm :=
  observe_covers env x p a hp ha

/-- Rejection.  Every must-balance posting has an amount, no bucket posting is
    added, every written cost is in another commodity than its amount, the
    implicit two-commodity exchange does not apply (`FinX.implicitExchange`: exactly
    two residual commodities, both displaying non-zero, and no written cost), no
    posting has both a lot price and a cost (for those see `C01.lot_cost_consistent`:
    the residual is then taken at the basis cost), and in some commodity the exact
    residual does not print as zero (in particular: it is off by a whole unit)
    ⇒ "Transaction does not balance". -/
theorem C01.finalize_unbalanced_error (env : PrecEnv) (bucket : Option String)
    (enum : Balance → Balance) (henum : ∀ b, (enum b).Perm b) (x : LXact)
    (hnonull : ∀ p ∈ x.posts.map (FPost.ofPosting (liftEnv env)), p.mustBalance = true → (costOrAmt p).isSome = true)
    (hb : bucket = none ∨ x.posts.length ≠ 1)
    (hcosts : costsOk (x.posts.map (FPost.ofPosting (liftEnv env))) = true)
    (himp : implicitExchange (liftEnv env) (x.posts.map (FPost.ofPosting (liftEnv env))) = false)
    (hlot : ∀ p ∈ x.posts.map (FPost.ofPosting (liftEnv env)), p.lotPrice = none ∨ p.cost = none)
    (c : Comm)
    (hres : displaysZero (liftEnv env) c (residual (x.posts.map (FPost.ofPosting (liftEnv env))) c) = false) :
    finalize env bucket enum x = .error .unbalanced :=
  finalizeF_unbalanced (liftEnv env) bucket enum henum _ _ hnonull (by rw [List.length_map]; exact hb) hcosts himp hlot c hres

/-- a written cost rules the implicit exchange out -/
theorem C01.no_implicit_exchange_with_cost (env : PrecEnv) (x : LXact)
    (h : ∃ p ∈ x.posts, p.post.amount.isSome = true ∧ p.post.cost.isSome = true) :
    implicitExchange env (x.posts.map (FPost.ofPosting env)) = false := by
  apply implicitExchange_false_of_cost
  obtain ⟨p, hp, ha, hc⟩ := h
  obtain ⟨a, hpa⟩ := Option.isSome_iff_exists.1 ha
  obtain ⟨k, hpc⟩ := Option.isSome_iff_exists.1 hc
  exact ⟨FPost.ofPosting env p, List.mem_map.2 ⟨p, hp, rfl⟩, by rw [ofPosting_cost env p hpa hpc]; rfl, rfl⟩

/-- a whole unit (or more) never prints as zero: `|q| ≥ 1` in a commodity `c` -/
theorem C01.whole_unit_not_zero (env : PrecEnv) (c : Comm) (hc : c ≠ "") (n : Int) (hn : n ≠ 0) :
    displaysZero env c ((n : Rat)) = false := by
  have : ((n : Rat)) = mkRat (n * (10 : Int) ^ (env c)) (10 ^ env c) :=
    (Rat.mkRat_self (n : Rat)).symm.trans (mkRat_rescale n 0 (env c) (Nat.zero_le _))
  rw [this]
  apply displaysZero_grid_false env c hc
  intro h
  rcases Int.mul_eq_zero.1 h with h1 | h1
  · exact hn h1
  · exact absurd h1 (Int.pow_ne_zero (by decide))

/-- Lots (xact.cc 296-352).  A posting whose amount carries a lot price in the
    commodity of its cost leaves the cost loop with the BASIS cost
    `lot price × quantity` (exactly), its amount and annotation untouched; the
    balance receives exactly `basis − given cost` when the posting must balance
    (so a sale above or below the lot price has to be completed by a gain/loss
    posting, or is absorbed by an elided one).  [In this source the separate
    gain/loss posting is `#if 0`; the cost is adjusted instead.] -/
theorem C01.lot_cost_consistent (env : PrecEnv) (date : String) (p p' : FPost) (gl : Option Amount)
    (price amt cost : Amount)
    (h : lotStep env date p = .ok (p', gl)) (hl : p.lotPrice = some price) (ha : p.amount = some amt)
    (hc : p.cost = some cost) (hcomm : (Amount.mul env price amt).comm = cost.comm) :
    ∃ c', p'.cost = some c' ∧ c'.q = price.q * amt.q ∧ c'.comm = cost.comm ∧ p'.amount = some amt ∧
      (∀ g, gl = some g → g.q = price.q * amt.q - cost.q ∧ g.comm = cost.comm) ∧
      (gl = none → p.mustBalance = false ∨ price.q * amt.q = cost.q) := by
  rcases lotStep_priced_cases (env := env) (date := date) hc ha hl with
    ⟨v, e⟩ | ⟨e, hg⟩ | ⟨g, c', _, hsub, _, hadd, e⟩
  · cases e.symm.trans h
  · cases e.symm.trans h
    obtain ⟨g, hsub, hz⟩ := hg hcomm
    obtain ⟨gq, gk, _⟩ := amount_sub_ok hsub
    simp only [Amount.mul_q] at gq
    -- the basis cost keeps full precision, so its difference to the cost is tested exactly
    have : g.q = 0 := (isZero_iff_q_zero env g (Or.inr (Or.inl gk))).1 hz
    have e : price.q * amt.q = cost.q := by
      rw [← Rat.sub_add_cancel (a := price.q * amt.q) (b := cost.q), ← gq, this, Rat.zero_add]
    exact ⟨cost, hc, e.symm, rfl, ha, (fun g' hg' => nomatch hg'), fun _ => Or.inr e⟩
  · cases e.symm.trans h
    obtain ⟨gq, _, gc⟩ := amount_sub_ok hsub
    simp only [Amount.mul_q] at gq
    obtain ⟨cq, ccm⟩ := amount_add_ok hadd
    refine ⟨c', rfl, by rw [cq]; simp only; rw [gq, Rat.add_comm, Rat.sub_add_cancel], ccm, ha, ?_, ?_⟩
    · intro g' hg'
      split at hg'
      · cases hg'; exact ⟨gq, gc.trans hcomm⟩
      · cases hg'
    · intro hn
      split at hn
      · cases hn
      · rename_i hm; exact Or.inl (Bool.eq_false_iff.2 hm)

/-- … and a lot-priced posting WITHOUT `@` gets no cost at all: it stays an amount
    of its annotated commodity (and is balanced in that commodity). -/
theorem C01.lot_without_cost_untouched (env : PrecEnv) (date : String) (p : FPost) (h : p.cost = none) :
    lotStep env date p = .ok (p, none) :=
  lotStep_nocost env date p h

/-- whatever the cost loop does to a posting, its contribution to the residual
    moves by exactly what is handed to the balance; account, kind and the
    presence of an amount are unchanged -/
theorem C01.lot_step_residual (env : PrecEnv) (date : String) (p p' : FPost) (gl : Option Amount)
    (h : lotStep env date p = .ok (p', gl)) :
    p'.account = p.account ∧ p'.kind = p.kind ∧ p'.amount.isSome = p.amount.isSome ∧
    ∀ c, p'.bal c = p.bal c + glDen gl c := by
  obtain ⟨_, h2, h3, h4, _, h6, _⟩ := lotStep_spec env date p p' gl h
  exact ⟨h2, h3, h4, h6⟩

/-- Stripping lot annotations (any `s : Comm → Comm`, in particular C05's
    `stripComm k` over the same `BASE{price}[date](tag)` encoding) moves every
    quantity from its lot commodity `x` to `s x` and does nothing else: the
    residual of the stripped transaction at `c` is the residual of the original
    one summed over all lots that strip to `c` — the statement `C05.strip_den`
    makes about values, here about a transaction's balancing postings. -/
theorem C01.strip_residual (s : Comm → Comm) (ps : List FPost) (c : Comm) :
    residual (ps.map (stripPost s)) c = residualOn (fun x => decide (s x = c)) ps := by
  rw [residual_eq_residualOn, residualOn_strip]

/-- Journal step: a transaction whose finalize fails (other than the silent
    all-null case) is absent from the state and the error count grows by one. -/
theorem C01.step_rejects (enum : Balance → Balance) (st : JState) (x : LXact) (e : FinErr)
    (h : finalize (observe st.env x) st.bucket enum x = .error e) (he : e ≠ .ignored) :
    (step enum st (.xact x)).xacts = st.xacts ∧ (step enum st (.xact x)).errors = st.errors + 1 := by
  cases e <;> first | exact absurd rfl he | simp only [step, h, and_self]

/-- and an accepted one is appended, the error count unchanged -/
theorem C01.step_accepts (enum : Balance → Balance) (st : JState) (x : LXact) (fx : FXact)
    (h : finalize (observe st.env x) st.bucket enum x = .ok fx) :
    (step enum st (.xact x)).xacts = st.xacts ++ [fx] ∧ (step enum st (.xact x)).errors = st.errors := by
  simp only [step, h, and_self]

/-- The grand total at cost of all balancing postings of a loaded journal
    (accumulated posting by posting, as `bal -B` does) is the sum of the
    per-transaction residuals of the accepted transactions, each of which prints
    as zero at the display precision in force when it was accepted. -/
theorem C01.journal_total_at_cost (enum : Balance → Balance) (henum : ∀ b, (enum b).Perm b)
    (items : List JItem) (c : Comm) :
    grandTotal (load enum items) c
      = sumR ((load enum items).xacts.map (fun fx => residual fx.posts c)) ∧
    ∀ fx ∈ (load enum items).xacts, ∃ env, ∀ c, displaysZero env c (residual fx.posts c) = true := by
  refine ⟨residual_flatMap _ c, ?_⟩
  apply foldl_step_forall enum (fun fx => ∃ env, ∀ c, displaysZero env c (residual fx.posts c) = true) items
  · intro env bucket x fx _ hf
    exact ⟨liftEnv (observe env x), C01.finalize_ok_residual_zero _ bucket enum henum x fx hf⟩
  · intro fx hfx; cases hfx

/-- On the exact fragment (no costs, no lots; every posting amount a
    commoditized decimal as the reader produces it) the grand total of an
    accepted journal is EXACTLY zero in every commodity. -/
theorem C01.journal_total_exact (enum : Balance → Balance) (henum : ∀ b, (enum b).Perm b)
    (items : List JItem)
    (hcost : ∀ x, JItem.xact x ∈ items → ∀ p ∈ x.posts, p.post.cost = none ∧ p.lot = none)
    (hdec : ∀ x, JItem.xact x ∈ items → ∀ p ∈ x.posts, ∀ a, p.post.amount = some a →
      Decimal a ∧ hasAnn a.comm = false)
    (c : Comm) : grandTotal (load enum items) c = 0 := by
  rw [(C01.journal_total_at_cost enum henum items c).1]
  apply sumR_zero
  intro q hq
  obtain ⟨fx, hfx, rfl⟩ := List.mem_map.1 hq
  have := foldl_step_forall enum (fun fx => ∀ c, residual fx.posts c = 0) items
    (fun env bucket x fx hx hf =>
      C01.finalize_exact_of_migrated (observe env x) bucket enum henum x fx
        (fun p hp => (hcost x hx p hp).1) (fun p hp => (hcost x hx p hp).2)
        (fun p hp a ha => exact_of_decimal _ a (hdec x hx p hp a ha).1 (by
          show a.prec ≤ observe env x (lotBase a.comm)
          rw [lotBase_of_plain a.comm (hdec x hx p hp a ha).2]
          exact observe_covers env x p a hp ha)) hf)
    JState.init (fun fx h => by cases h)
  exact this fx hfx c

/-! ### non-vacuity -/

private def eur (n : Int) (d : Nat) : Amount := { q := mkRat n (10 ^ d), prec := d, keep := false, comm := "EUR" }
private def usd (n : Int) (d : Nat) : Amount := { q := mkRat n (10 ^ d), prec := d, keep := false, comm := "$" }
private def xx (n : Int) : Amount := { q := n, prec := 0, keep := false, comm := "XX" }
private def mkPost (acct : String) (k : PostKind) (a : Option Amount) (c : Option Cost) : Posting :=
  { account := acct, kind := k, state := 0, amount := a, cost := c, assert := none, note := "", line := 0 }
private def mkX (ps : List Posting) : LXact := { date := 18000, posts := ps.map (fun p => ⟨p, none⟩) }
private def aapl (n : Int) : Amount := { q := n, prec := 0, keep := false, comm := "AAPL" }
private def lot5 : LotSpec := { price := some (usd 500 2), total := false, fixated := false, date := none, tag := none }
private def mkL (ps : List (Posting × Option LotSpec)) : LXact := { date := 18262, posts := ps.map (fun p => ⟨p.1, p.2⟩) }
private def env2 : PrecEnv := fun c => if c = "EUR" ∨ c = "$" then 2 else 0

/-- a balanced transaction with a [bracketed] posting is accepted -/
example : (finalize env2 none id (mkX [mkPost "A" .real (some (eur 1000 2)) none,
    mkPost "B" .bvirtual (some (eur (-1000) 2)) none])).toBool = true := by decide +kernel

/-- `3 XX @ $0.333` against `$-1.00`: accepted with an exact residual of $-0.001 -/
example : (finalize env2 none id (mkX [mkPost "A" .real (some (xx 3)) (some ⟨usd 333 3, true⟩),
    mkPost "B" .real (some (usd (-100) 2)) none])).toBool = true := by decide +kernel

/-- off by one unit: rejected with `unbalanced` -/
example : finalize env2 none id (mkX [mkPost "A" .real (some (eur 1000 2)) none,
    mkPost "B" .real (some (eur (-900) 2)) none]) = .error .unbalanced := by decide +kernel

/-- the rejected transaction is dropped and counted -/
example : ((load id [.xact (mkX [mkPost "A" .real (some (eur 1000 2)) none,
      mkPost "B" .real (some (eur (-900) 2)) none]),
    .xact (mkX [mkPost "A" .real (some (eur 1000 2)) none, mkPost "B" .real none none])]).errors,
   (load id [.xact (mkX [mkPost "A" .real (some (eur 1000 2)) none,
      mkPost "B" .real (some (eur (-900) 2)) none]),
    .xact (mkX [mkPost "A" .real (some (eur 1000 2)) none, mkPost "B" .real none none])]).xacts.length) = (1, 1) := by
  decide +kernel

/-- the implicit exchange: 10.00 EUR against $-12.34 is accepted -/
example : (finalize env2 none id (mkX [mkPost "A" .real (some (eur 1000 2)) none,
    mkPost "B" .real (some (usd (-1234) 2)) none])).toBool = true := by decide +kernel

/-- hypotheses of `finalize_exact_of_migrated` are satisfiable -/
example : Exact (liftEnv env2) (eur 1000 2) := ⟨by decide, rfl, by decide +kernel, 1000, by decide +kernel⟩

/-- selling 10 AAPL {$5.00} @ $7.00 for $70.00 does not balance (the $20 gain is missing) … -/
example : finalize env2 none id (mkL [(mkPost "A" .real (some (aapl (-10))) (some ⟨usd 700 2, true⟩), some lot5),
    (mkPost "B" .real (some (usd 7000 2)) none, none)]) = .error .unbalanced := by decide +kernel

/-- … with the gain posted it does, and the lot posting is carried at its basis cost $-50 -/
example : (finalize env2 none id (mkL [(mkPost "A" .real (some (aapl (-10))) (some ⟨usd 700 2, true⟩), some lot5),
    (mkPost "B" .real (some (usd 7000 2)) none, none), (mkPost "G" .real (some (usd (-2000) 2)) none, none)])).toOption.map
      (fun fx => fx.posts.map (fun p => (p.account, (p.amount.map (·.comm)).getD "", ((costOrAmt p).map (·.q)).getD 0)))
    = some [("A", "AAPL{5/1 $}[]()", (-50 : Rat)), ("B", "$", (70 : Rat)), ("G", "$", (-20 : Rat))] := by
  decide +kernel

/-- a purchase `10 AAPL @ $5.00` is annotated with the computed price and the transaction date -/
example : (finalize env2 none id (mkL [(mkPost "A" .real (some (aapl 10)) (some ⟨usd 500 2, true⟩), none),
    (mkPost "B" .real none none, none)])).toOption.map
      (fun fx => fx.posts.map (fun p => (p.account, p.amount.map (fun a => (a.comm, a.q)))))
    = some [("A", some ("AAPL{5/1 $}[2020/01/01]()", 10)), ("B", some ("$", -50))] := by
  decide +kernel

end Ledger
