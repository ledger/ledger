/-
C03 — amount arithmetic is exact rational arithmetic.

Field laws of `Rat` are Lean's; the content here is that ledger's *dispatch*
(type promotion INTEGER → AMOUNT → BALANCE, balance entry bookkeeping,
simplification, precision counters) preserves the exact denotation
`den : Value → Comm → Rat` of every operand, for all operands.

The tie to value.cc is `C03.cells_pinned` (the dispatch cells re-extracted from
the working tree are the ones this model was written against), the two
interpreted cells of `Gen.Consts`, and the differential check of `Value.*`
against the rebuilt binary.
-/
import LedgerModel.Lemmas.Value
import LedgerModel.Lemmas.BalanceEq
import LedgerModel.Gen.ValueCells
import LedgerModel.Model.ValueCellsPinned
import LedgerModel.Gen.AmountFns
import LedgerModel.Model.AmountFnsPinned

namespace Ledger
open Value

/-- The dispatch cells found in the working tree are the ones the model mirrors. -/
theorem C03.cells_pinned : Gen.valueCells = Pinned.valueCells := rfl

/-- The amount_t / balance_t / value_t routines found in the working tree are, token for
    token, the ones `Model/Value.lean` mirrors. -/
theorem C03.amount_fns_pinned : Gen.amountFns = Pinned.amountFns := rfl

/-- The cells of `+` that add two amounts do so only when the commodities agree. -/
private theorem add_amt_cell {p q : Amount} {r : Value} (h : (Amount.add p q).map Value.amt = .ok r)
    (hc : p.comm = q.comm) (c : Comm) : r.den c = p.den c + q.den c := by
  obtain ⟨r', hr, rfl⟩ := Except.map_eq_ok h
  exact Amount.add_den hr hc c

private theorem sub_amt_cell {p q : Amount} {r : Value}
    (h : (Amount.sub p q).map (fun r => Value.simplify (.amt r)) = .ok r)
    (hc : p.comm = q.comm) (c : Comm) : r.den c = p.den c - q.den c := by
  obtain ⟨r', hr, rfl⟩ := Except.map_eq_ok h
  exact (Value.simplify_den _ c).trans (Amount.sub_den hr hc c)

/-- Addition preserves denotation, for every pair of operands on which it is defined
    (integers, plain and commoditized amounts, balances, in any combination). -/
theorem C03.add_den (a b r : Value) (h : Value.add a b = .ok r) (c : Comm) :
    r.den c = a.den c + b.den c := by
  unfold Value.add at h
  split at h
  · cases h; exact (Rat.zero_add _).symm
  · cases h; rename_i x y
    show (if "" = c then ((x + y : Int) : Rat) else 0) = _
    rw [Rat.intCast_add]
    exact Amount.den_mk_add (Amount.ofInt x) (Amount.ofInt y) 0 false rfl c
  · rename_i y
    by_cases hy : y.hasComm = true
    · cases (if_pos hy).symm.trans h
      exact (Balance.addAmt_den _ _ c).trans (by rw [Balance.den_ofAmt]; rfl)
    · exact add_amt_cell ((if_neg hy).symm.trans h) (Amount.not_hasComm_iff.mp hy).symm c
  · cases h; exact (Balance.add_den _ _ c).trans (by rw [Balance.den_ofAmt]; rfl)
  · rename_i x _
    by_cases hx : x.hasComm = true
    · cases (if_pos hx).symm.trans h
      exact (Balance.addAmt_den _ _ c).trans (by rw [Balance.den_ofAmt]; rfl)
    · exact add_amt_cell ((if_neg hx).symm.trans h) (Amount.not_hasComm_iff.mp hx) c
  · rename_i x y
    by_cases hxy : x.comm = y.comm
    · exact add_amt_cell ((if_neg (not_not_intro hxy)).symm.trans h) hxy c
    · cases (if_pos hxy).symm.trans h
      exact (Balance.addAmt_den _ _ c).trans (by rw [Balance.den_ofAmt]; rfl)
  · cases h; exact (Balance.add_den _ _ c).trans (by rw [Balance.den_ofAmt]; rfl)
  · cases h; exact Balance.addAmt_den _ _ c
  · cases h; exact Balance.addAmt_den _ _ c
  · cases h; exact Balance.add_den _ _ c
  · cases h

/-- Subtraction preserves denotation (including the erase-on-zero and
    simplify-to-integer-zero bookkeeping), provided the INTEGER − AMOUNT cell
    promotes a commoditized subtrahend to a balance as operator+= does
    (`Gen.intSubAmtPromotes`, read from the source; `C03.sub_flag` below is the
    obligation that it does). -/
theorem C03.sub_den (hflag : Gen.intSubAmtPromotes = true)
    (a b r : Value) (h : Value.sub a b = .ok r) (c : Comm) :
    r.den c = a.den c - b.den c := by
  unfold Value.sub at h
  split at h
  · cases h; rename_i x y
    show (if "" = c then ((x - y : Int) : Rat) else 0) = _
    rw [Rat.intCast_sub]
    exact Amount.den_mk_sub (Amount.ofInt x) (Amount.ofInt y) 0 false rfl c
  · rename_i y
    by_cases hy : Gen.intSubAmtPromotes = true ∧ y.hasComm = true
    · cases (if_pos hy).symm.trans h
      exact (Value.simplify_den _ c).trans ((Balance.subAmt_den _ _ c).trans (by rw [Balance.den_ofAmt]; rfl))
    · exact sub_amt_cell ((if_neg hy).symm.trans h)
        (Amount.not_hasComm_iff.mp fun hc => hy ⟨hflag, hc⟩).symm c
  · cases h
    exact (Value.simplify_den _ c).trans ((Balance.sub_den _ _ c).trans (by rw [Balance.den_ofAmt]; rfl))
  · rename_i x _
    by_cases hx : x.hasComm = true
    · cases (if_pos hx).symm.trans h
      exact (Value.simplify_den _ c).trans ((Balance.subAmt_den _ _ c).trans (by rw [Balance.den_ofAmt]; rfl))
    · exact sub_amt_cell ((if_neg hx).symm.trans h) (Amount.not_hasComm_iff.mp hx) c
  · rename_i x y
    by_cases hxy : x.comm = y.comm
    · exact sub_amt_cell ((if_neg (not_not_intro hxy)).symm.trans h) hxy c
    · cases (if_pos hxy).symm.trans h
      exact (Value.simplify_den _ c).trans ((Balance.subAmt_den _ _ c).trans (by rw [Balance.den_ofAmt]; rfl))
  · cases h
    exact (Value.simplify_den _ c).trans ((Balance.sub_den _ _ c).trans (by rw [Balance.den_ofAmt]; rfl))
  · cases h; exact (Value.simplify_den _ c).trans (Balance.subAmt_den _ _ c)
  · cases h; exact (Value.simplify_den _ c).trans (Balance.subAmt_den _ _ c)
  · cases h; exact (Value.simplify_den _ c).trans (Balance.sub_den _ _ c)
  · cases h

/-- Obligation on the working tree: INTEGER − (commoditized AMOUNT) promotes to a balance. -/
theorem C03.sub_flag : Gen.intSubAmtPromotes = true := by decide +kernel

/-- Without the promotion the commodity of the subtrahend is lost: the model of the
    unpromoted cell computes `int 5 − 2 EUR = 3` (no commodity). -/
theorem C03.sub_unpromoted_counterexample (hflag : Gen.intSubAmtPromotes = false) :
    ∃ a b r, Value.sub a b = .ok r ∧ ∃ c, r.den c ≠ a.den c - b.den c := by
  refine ⟨.int 5, .amt ⟨2, 0, false, "EUR"⟩, .amt ⟨3, 0, false, ""⟩, ?_, "EUR", ?_⟩
  · simp only [Value.sub, hflag]; decide +kernel
  · decide +kernel

/-- Negation negates every component. -/
theorem C03.neg_den (a r : Value) (h : Value.neg a = .ok r) (hb : ∀ b, a ≠ .bool b) (c : Comm) :
    r.den c = - a.den c := by
  unfold Value.neg at h
  split at h
  · exact absurd rfl (hb _)
  · cases h; simp only [Value.den]; split
    · exact Rat.intCast_neg _
    · exact Rat.neg_zero.symm
  · cases h; exact Amount.den_neg _ c
  · cases h; exact Balance.den_neg _ c
  · cases h

/-- balance × amount scales the total. -/
theorem C03.mulAmt_tot (env : PrecEnv) (x : Balance) (y : Amount) (r : Balance)
    (h : Balance.mulAmt env x y = .ok r) : r.tot = x.tot * y.q :=
  Balance.mulAmt_tot h

/-- balance ÷ amount: quotient × divisor = dividend on totals, and a non-zero dividend has a
    non-zero divisor. -/
theorem C03.divAmt_tot (env : PrecEnv) (x : Balance) (y : Amount) (r : Balance)
    (h : Balance.divAmt env x y = .ok r) : r.tot * y.q = x.tot ∧ (x.tot ≠ 0 → y.q ≠ 0) :=
  Balance.divAmt_tot h

/-- Multiplication is exact: the total quantity of the result is the product of the
    totals, in every cell where the code defines it. -/
theorem C03.mul_tot (env : PrecEnv) (a b r : Value) (h : Value.mul env a b = .ok r) :
    r.tot = a.tot * b.tot := by
  unfold Value.mul at h
  split at h
  · cases h; exact Rat.intCast_mul _ _
  · cases h; exact (Amount.mul_q env _ _).trans (Rat.mul_comm _ _)
  · cases h; exact Amount.mul_q env _ _
  · cases h; exact Amount.mul_q env _ _
  · cases h; exact (Amount.mul_q env _ _).trans (by rw [Value.tot_bal_singleton]; rfl)
  · obtain ⟨r', hr, rfl⟩ := Except.map_eq_ok h
    exact Balance.mulAmt_tot hr
  · cases h; exact (Amount.mul_q env _ _).trans (by rw [Value.tot_bal_singleton]; rfl)
  · split at h
    · obtain ⟨r', hr, rfl⟩ := Except.map_eq_ok h
      exact Balance.mulAmt_tot hr
    · cases h
  · cases h

/-- Multiplying a (multi-commodity) balance or an amount by a commodity-less scalar
    scales every commodity component. -/
theorem C03.mul_scalar_den (env : PrecEnv) (x : Balance) (s : Amount) (r : Value)
    (hs : s.hasComm = false)
    (h : Value.mul env (.bal x) (.amt s) = .ok r) (c : Comm) :
    r.den c = x.den c * s.q := by
  have hc : ¬ s.hasComm = true := by rw [hs]; exact Bool.false_ne_true
  -- outside the one-entry cell the dispatch hands the balance to `Balance.mulAmt`
  have rest : (Balance.mulAmt env x s).map Value.bal = .ok r → r.den c = x.den c * s.q := by
    intro h
    obtain ⟨r', hr, rfl⟩ := Except.map_eq_ok h
    exact Balance.mulAmt_den hs hr c
  cases x with
  | nil => exact rest ((if_pos hc).symm.trans h)
  | cons x0 xs =>
    cases xs with
    | nil =>
      cases h
      exact (Amount.mul_den env x0 s hs c).trans (by rw [Balance.den_singleton])
    | cons x1 xs => exact rest ((if_pos hc).symm.trans h)

/-- The cells of `/` that divide two amounts: quotient × divisor = dividend. -/
private theorem div_amt_cell {env : PrecEnv} {p q : Amount} {r : Value}
    (h : (Amount.div env p q).map Value.amt = .ok r) : r.tot * q.q = p.q ∧ (p.q ≠ 0 → q.q ≠ 0) := by
  obtain ⟨r', hr, rfl⟩ := Except.map_eq_ok h
  exact ⟨Amount.div_mul_cancel hr, fun _ => Amount.div_ok_ne hr⟩

/-- Division is exact with the INTEGER ÷ AMOUNT cell excluded, whatever that cell does
    (`…_partial`: what is proved about the pinned tree, where the cell is swapped and pinned
    by test/unit/t_value.cc:646-651). -/
theorem C03.div_mul_cancel_partial (env : PrecEnv) (a b r : Value) (h : Value.div env a b = .ok r)
    (hint : ¬ ∃ x y, a = .int x ∧ b = .int y) (hia : ¬ ∃ x y, a = .int x ∧ b = .amt y) :
    r.tot * b.tot = a.tot ∧ (a.tot ≠ 0 → b.tot ≠ 0) := by
  unfold Value.div at h
  split at h
  · exact absurd ⟨_, _, rfl, rfl⟩ hint
  · exact absurd ⟨_, _, rfl, rfl⟩ hia
  · exact div_amt_cell h
  · exact div_amt_cell h
  · rw [Value.tot_bal_singleton]; exact div_amt_cell h
  · obtain ⟨r', hr, rfl⟩ := Except.map_eq_ok h
    exact Balance.divAmt_tot hr
  · rw [Value.tot_bal_singleton]; exact div_amt_cell h
  · split at h
    · obtain ⟨r', hr, rfl⟩ := Except.map_eq_ok h
      exact Balance.divAmt_tot hr
    · cases h
  · cases h

/-- Division is exact: quotient × divisor = dividend on total quantities, in every
    cell except INTEGER ÷ INTEGER (C `long` division, truncating by design, see
    `C03.int_div_int`), provided the INTEGER ÷ AMOUNT cell does not swap its operands
    (`Gen.intDivAmtSwapped`, read from the source).  This is the full statement. -/
theorem C03.div_mul_cancel (hflag : Gen.intDivAmtSwapped = false)
    (env : PrecEnv) (a b r : Value) (h : Value.div env a b = .ok r)
    (hint : ¬ ∃ x y, a = .int x ∧ b = .int y) :
    r.tot * b.tot = a.tot ∧ (a.tot ≠ 0 → b.tot ≠ 0) := by
  by_cases hia : ∃ x y, a = .int x ∧ b = .amt y
  · obtain ⟨x, y, rfl, rfl⟩ := hia
    simp only [Value.div, hflag, Bool.false_eq_true, if_false] at h
    exact div_amt_cell h
  · exact C03.div_mul_cancel_partial env a b r h hint hia

/-- With the operands swapped the cell is not exact: `int 10 ÷ 2.5` gives `0.25`. -/
theorem C03.div_swapped_counterexample (hflag : Gen.intDivAmtSwapped = true) :
    ∃ env a b r, Value.div env a b = .ok r ∧ (¬ ∃ x y, a = .int x ∧ b = .int y) ∧
      r.tot * b.tot ≠ a.tot := by
  refine ⟨fun _ => 0, .int 10, .amt ⟨5/2, 1, false, ""⟩, .amt ⟨1/4, 7, false, ""⟩, ?_, ?_, ?_⟩
  · simp only [Value.div, hflag]; decide +kernel
  · rintro ⟨x, y, -, h⟩; cases h
  · decide +kernel

/-- The one deliberately inexact cell: INTEGER ÷ INTEGER is C `long` division
    (truncation toward zero); dividing by integer zero is an error, never a value. -/
theorem C03.int_div_int (env : PrecEnv) (x y : Int) :
    Value.div env (.int x) (.int y) =
      if y = 0 then .error .divZero else .ok (.int (Int.tdiv x y)) := rfl

/-- No division ever succeeds with a zero divisor. -/
theorem C03.div_ok_divisor_ne_zero (hflag : Gen.intDivAmtSwapped = false) (env : PrecEnv) (a b r : Value)
    (h : Value.div env a b = .ok r) (ha : a.tot ≠ 0) : b.tot ≠ 0 := by
  by_cases hint : ∃ x y, a = .int x ∧ b = .int y
  · obtain ⟨x, y, rfl, rfl⟩ := hint
    rw [C03.int_div_int] at h
    split at h
    · cases h
    · rename_i hy; simp only [Value.tot]; intro h0; apply hy; exact_mod_cast h0
  · exact (C03.div_mul_cancel hflag env a b r h hint).2 ha

/-- amount_t::compare decides the order of the exact quantities. -/
theorem C03.cmp_spec (p q : Amount) (h : ¬ (p.hasComm = true ∧ q.hasComm = true ∧ p.comm ≠ q.comm)) :
    Amount.cmp p q = .ok (if p.q < q.q then .lt else if p.q = q.q then .eq else .gt) :=
  Amount.cmp_of_compat h

/-- Equality of scalars of one commodity is equality of the exact quantities. -/
theorem C03.eq_iff (a b : Value) (x y : Rat) (ca : Comm)
    (ha : a.scalar? = some (x, ca)) (hb : b.scalar? = some (y, ca)) :
    Value.eq a b = .ok (decide (x = y)) := by
  cases a with
  | void | bool _ | bal _ => cases ha
  | int n =>
    cases ha
    cases b with
    | void | bool _ | bal _ => cases hb
    | int m => cases hb; exact congrArg Except.ok (decide_eq_decide.mpr Rat.intCast_inj.symm)
    | amt q =>
      obtain ⟨rfl, hc⟩ := Prod.mk.inj (Option.some.inj hb)
      exact congrArg Except.ok (decide_eq_decide.mpr ⟨fun h => h.2.symm, fun h => ⟨hc, h.symm⟩⟩)
  | amt p =>
    cases ha
    cases b with
    | void | bool _ | bal _ => cases hb
    | int m =>
      obtain ⟨rfl, -⟩ := Prod.mk.inj (Option.some.inj hb)
      exact Amount.cmp_map_eq (Amount.compat_ofInt p m)
    | amt q =>
      obtain ⟨rfl, hc⟩ := Prod.mk.inj (Option.some.inj hb)
      exact congrArg Except.ok (decide_eq_decide.mpr ⟨fun h => h.2, fun h => ⟨hc.symm, h⟩⟩)

/-- Ordering of scalars whose commodities agree (or one of which has none) is the
    ordering of the exact quantities. -/
theorem C03.lt_iff (a b : Value) (x y : Rat) (ca cb : Comm)
    (ha : a.scalar? = some (x, ca)) (hb : b.scalar? = some (y, cb))
    (hc : ca = cb ∨ ca = "" ∨ cb = "") :
    Value.lt a b = .ok (decide (x < y)) := by
  cases a with
  | void | bool _ | bal _ => cases ha
  | int n =>
    cases ha
    cases b with
    | void | bool _ | bal _ => cases hb
    | int m => cases hb; exact congrArg Except.ok (decide_eq_decide.mpr Rat.intCast_lt_intCast.symm)
    | amt q => cases hb; exact Amount.cmp_map_gt (Amount.compat_ofInt q n)
  | amt p =>
    cases ha
    cases b with
    | void | bool _ | bal _ => cases hb
    | int m => cases hb; exact Amount.cmp_map_lt (Amount.compat_ofInt p m)
    | amt q =>
      cases hb
      exact Value.lt_amt_amt
        (hc.imp_right (Or.imp Amount.not_hasComm_iff.mpr Amount.not_hasComm_iff.mpr))

/-- Full statement for balances: `==` decides equality of the exact denotations.
    It is FALSE for the code as it is (`C03.eq_bal_counterexample`): `balance_t::operator+=`
    keeps a component that cancels to zero (known finding `C03:zero-entry-balance`). -/
def C03.EqBalDecidesDen : Prop :=
  ∀ a b : Balance, Value.eq (.bal a) (.bal b) = .ok (decide (∀ c ∈ a.comms ++ b.comms, a.den c = b.den c))

/-- What is proved instead (`…_partial`): on balances satisfying the representation
    invariant `Balance.WF` (one entry per commodity, none zero) `==` decides equality
    of denotations. -/
theorem C03.eq_bal_iff_den_partial (a b : Balance) (ha : a.WF) (hb : b.WF) :
    Value.eq (.bal a) (.bal b) = .ok true ↔ ∀ c, a.den c = b.den c := by
  simp only [Value.eq, Except.ok.injEq]
  exact Balance.eqBal_iff_den a b ha hb

/-- The witness reported by the check: {2.50 EUR, 0 USD} and {2.50 EUR} denote the same
    function but are not `==`. -/
theorem C03.eq_bal_counterexample :
    ∃ a b : Balance, Value.eq (.bal a) (.bal b) = .ok false ∧ ∀ c, a.den c = b.den c := by
  refine ⟨[⟨5/2, 2, false, "EUR"⟩, ⟨0, 0, false, "USD"⟩], [⟨5/2, 2, false, "EUR"⟩], by decide +kernel, ?_⟩
  intro c
  simp only [Balance.den_cons, Balance.den_nil]
  rw [Amount.den_of_q_zero (a := ⟨0, 0, false, "USD"⟩) rfl, Rat.add_zero]

/-- `-=` maintains the invariant (it erases an entry that becomes zero); `+=` is the
    operation that does not. -/
theorem C03.sub_keeps_wf (b : Balance) (a : Amount) (h : b.WF) : (Balance.subAmt b a).WF :=
  Balance.subAmt_WF b a h

theorem C03.add_breaks_wf : ∃ (b : Balance) (a : Amount), b.WF ∧ ¬ (Balance.addAmt b a).WF := by
  refine ⟨[⟨3, 0, false, "USD"⟩], ⟨-3, 0, false, "USD"⟩, ?_, ?_⟩
  · refine ⟨by simp [Balance.comms], ?_⟩
    intro x hx; simp only [List.mem_singleton] at hx; subst hx; decide +kernel
  · intro h
    have hne : ¬ ((-3 : Rat) = 0) := by decide +kernel
    have := h.2 ⟨3 + -3, 0, false, "USD"⟩ (by simp [Balance.addAmt, Balance.addGo, hne])
    exact this (by decide +kernel)

/-- The derived comparison operators are the ones boost::operators builds from `<` and `==`. -/
theorem C03.derived_ops (a b : Value) :
    Value.gt a b = Value.lt b a ∧ Value.le a b = (Value.lt b a).map (!·) ∧
    Value.ge a b = (Value.lt a b).map (!·) ∧ Value.ne a b = (Value.eq a b).map (!·) :=
  ⟨rfl, rfl, rfl, rfl⟩

/-- Corollary: addition is commutative on denotations. -/
theorem C03.add_comm_den (a b r r' : Value) (h : Value.add a b = .ok r) (h' : Value.add b a = .ok r')
    (c : Comm) : r.den c = r'.den c := by
  rw [C03.add_den a b r h, C03.add_den b a r' h']; exact Rat.add_comm _ _

/-- Corollary: addition is associative on denotations. -/
theorem C03.add_assoc_den (a b c' ab bc r r' : Value)
    (h1 : Value.add a b = .ok ab) (h2 : Value.add ab c' = .ok r)
    (h3 : Value.add b c' = .ok bc) (h4 : Value.add a bc = .ok r') (c : Comm) :
    r.den c = r'.den c := by
  rw [C03.add_den _ _ _ h2, C03.add_den _ _ _ h1, C03.add_den _ _ _ h4, C03.add_den _ _ _ h3]
  exact Rat.add_assoc _ _ _

/-- Corollary: subtraction undoes addition exactly. -/
theorem C03.add_sub_cancel_den (a b ab r : Value)
    (h1 : Value.add a b = .ok ab) (h2 : Value.sub ab b = .ok r) (c : Comm) :
    r.den c = a.den c := by
  rw [C03.sub_den C03.sub_flag _ _ _ h2, C03.add_den _ _ _ h1]; exact Rat.add_sub_cancel

/-- Corollary: division undoes multiplication exactly (outside INTEGER ÷ INTEGER). -/
theorem C03.mul_div_cancel_tot (env : PrecEnv) (a b ab r : Value)
    (h1 : Value.mul env a b = .ok ab) (h2 : Value.div env ab b = .ok r)
    (hint : ¬ ∃ x y, ab = .int x ∧ b = .int y) (hia : ¬ ∃ x y, ab = .int x ∧ b = .amt y)
    (hb : b.tot ≠ 0) :
    r.tot = a.tot := by
  have := (C03.div_mul_cancel_partial env ab b r h2 hint hia).1
  rw [C03.mul_tot env a b ab h1] at this
  rw [← Rat.mul_div_cancel (a := r.tot) hb, this, Rat.mul_div_cancel hb]

/-- The precision counter and the keep-precision flag never influence a quantity:
    results on operands that differ only in those fields have the same denotation. -/
theorem C03.prec_irrelevant_add (q1 q2 : Rat) (p1 p1' p2 p2' : Nat) (k1 k1' k2 k2' : Bool)
    (c1 c2 : Comm) (r r' : Value)
    (h : Value.add (.amt ⟨q1, p1, k1, c1⟩) (.amt ⟨q2, p2, k2, c2⟩) = .ok r)
    (h' : Value.add (.amt ⟨q1, p1', k1', c1⟩) (.amt ⟨q2, p2', k2', c2⟩) = .ok r') (c : Comm) :
    r.den c = r'.den c := by
  rw [C03.add_den _ _ _ h, C03.add_den _ _ _ h']; rfl

/-- `operator+=` is total on numeric operands and yields a numeric value. -/
theorem C03.add_total (a b : Value) (ha : a.isNum = true ∨ a = .void) (hb : b.isNum = true) :
    ∃ r, Value.add a b = .ok r ∧ r.isNum = true := by
  -- the three cells that may add two amounts: they do so only when the commodities agree
  have amts : ∀ {p q : Amount} {v : Value} {c : Prop} [Decidable c], (¬ c →
      ¬ (p.hasComm = true ∧ q.hasComm = true ∧ p.comm ≠ q.comm)) → v.isNum = true →
      ∃ r, (if c then .ok v else (Amount.add p q).map Value.amt) = .ok r ∧ r.isNum = true := by
    intro p q v c _ hpq hv
    by_cases hc : c
    · exact ⟨v, if_pos hc, hv⟩
    · exact ⟨.amt _, (if_neg hc).trans (congrArg (Except.map Value.amt) (if_neg (hpq hc))), rfl⟩
  cases a with
  | bool _ => exact ha.elim (fun h => nomatch h) (fun h => nomatch h)
  | void => exact ⟨b, rfl, hb⟩
  | int x =>
    cases b with
    | void | bool _ => cases hb
    | int y => exact ⟨_, rfl, rfl⟩
    | amt y => exact amts (fun h => Amount.compat_of (.inr (.inr h))) rfl
    | bal y => exact ⟨_, rfl, rfl⟩
  | amt x =>
    cases b with
    | void | bool _ => cases hb
    | int y => exact amts (fun _ => Amount.compat_ofInt x y) rfl
    | amt y => exact amts (fun h => Amount.compat_of (.inl (Decidable.not_not.mp h))) rfl
    | bal y => exact ⟨_, rfl, rfl⟩
  | bal x =>
    cases b with
    | void | bool _ => cases hb
    | int y | amt y | bal y => exact ⟨_, rfl, rfl⟩

/-- A running total over arbitrarily many numeric posting values never fails. -/
theorem C03.sum_total (acc : Value) (vs : List Value) (hacc : acc.isNum = true ∨ acc = .void)
    (hvs : ∀ v ∈ vs, v.isNum = true) : ∃ r, Value.sumFrom acc vs = .ok r := by
  induction vs generalizing acc with
  | nil => exact ⟨acc, rfl⟩
  | cons v vs ih =>
    obtain ⟨r, hr, hn⟩ := C03.add_total acc v hacc (hvs v (List.mem_cons_self ..))
    simp only [Value.sumFrom, hr]
    exact ih r (Or.inl hn) (fun w hw => hvs w (List.mem_cons_of_mem _ hw))

/-- Report totals over arbitrarily many postings: the running total denotes, in every
    commodity, the exact sum of what was added — for any number of postings. -/
theorem C03.sum_den (acc : Value) (vs : List Value) (r : Value) (h : Value.sumFrom acc vs = .ok r)
    (c : Comm) : r.den c = acc.den c + (vs.map (fun v => v.den c)).sum := by
  induction vs generalizing acc with
  | nil => cases h; exact (Rat.add_zero _).symm
  | cons v vs ih =>
    simp only [Value.sumFrom] at h
    split at h
    · rename_i r' hr'
      rw [ih r' h, C03.add_den acc v r' hr' c, List.map_cons, List.sum_cons, Rat.add_assoc]
    · cases h

private theorem sum_perm_rat {l l' : List Rat} (h : l.Perm l') : l.sum = l'.sum := by
  induction h with
  | nil => rfl
  | cons x _ ih => rw [List.sum_cons, List.sum_cons, ih]
  | swap x y l => simp only [List.sum_cons]; exact Rat.add_left_comm _ _ _
  | trans _ _ ih1 ih2 => exact ih1.trans ih2

/-- The total does not depend on the order in which the postings are added. -/
theorem C03.sum_perm (acc : Value) (vs ws : List Value) (hp : vs.Perm ws) (r r' : Value)
    (h : Value.sumFrom acc vs = .ok r) (h' : Value.sumFrom acc ws = .ok r') (c : Comm) :
    r.den c = r'.den c := by
  rw [C03.sum_den acc vs r h c, C03.sum_den acc ws r' h' c,
      sum_perm_rat (hp.map (fun v => v.den c))]

/-- Adding a posting and its negation to a total leaves every commodity's quantity unchanged
    (cancelling pairs, however many postings lie between them). -/
theorem C03.sum_cancel (acc v nv : Value) (mid : List Value) (r r' : Value)
    (hneg : Value.neg v = .ok nv) (hb : ∀ b, v ≠ .bool b)
    (h : Value.sumFrom acc (v :: mid ++ [nv]) = .ok r) (h' : Value.sumFrom acc mid = .ok r')
    (c : Comm) : r.den c = r'.den c := by
  rw [C03.sum_den _ _ _ h c, C03.sum_den _ _ _ h' c]
  simp only [List.map_cons, List.map_append, List.map_nil, List.sum_cons, List.sum_append,
    List.sum_nil, C03.neg_den v nv hneg hb c]
  rw [Rat.add_zero, Rat.add_comm (v.den c), Rat.add_assoc, Rat.add_neg_cancel, Rat.add_zero]

/- Non-vacuity: concrete operands meet the hypotheses of the theorems above. -/
example : Value.add (.amt ⟨5/2, 2, false, "EUR"⟩) (.amt ⟨1/3, 6, false, "USD"⟩) =
    .ok (.bal [⟨5/2, 2, false, "EUR"⟩, ⟨1/3, 6, false, "USD"⟩]) := by decide +kernel
example : Value.div (fun _ => 2) (.amt ⟨10, 0, false, ""⟩) (.amt ⟨5/2, 1, false, ""⟩) =
    .ok (.amt ⟨4, 7, false, ""⟩) := by decide +kernel
example : Value.sub (.amt ⟨5, 0, false, ""⟩) (.amt ⟨2, 0, false, "EUR"⟩) =
    .ok (.bal [⟨5, 0, false, ""⟩, ⟨-2, 0, false, "EUR"⟩]) := by decide +kernel
example : Value.sumFrom .void [.amt ⟨5/2, 2, false, "EUR"⟩, .int 3, .amt ⟨-5/2, 2, false, "EUR"⟩] =
    .ok (.bal [⟨0, 2, false, "EUR"⟩, ⟨3, 0, false, ""⟩]) := by decide +kernel

end Ledger
