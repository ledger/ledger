/-
C04 — amounts print at commodity precision, correctly rounded, and re-read unchanged.

Model: Model/AmountText.lean (printer `printAmount`/`fmtNum`/`groupInt`, reader
`parseAmount`/`scan`/`parseSymbol`, learning `migrate`).  Everything below is for
all quantities, precisions, symbols and styles; the only hypotheses are the
decidable guards spelled out at `C04.print_parse_roundtrip_partial`, each of which
excludes inputs on which the *current reader really fails* (witness theorems
below, replayed on the binary by tools/props/c04.py).

Tie to the source: `C04.code_pinned` (text of every mirrored C++ function),
`C04.rounding_mode` (the MPFR conversion rounds to nearest), the facts about the
regenerated `Gen.invalidChars` table, `Gen.quantityBufMax`/`Gen.symbolBufMax`
inside the model, and the differential check.
-/
import LedgerModel.Lemmas.AmountText
import LedgerModel.Model.AmountTextPinned

namespace Ledger
open AmountText

/-- The functions the model mirrors still read as they did when it was written. -/
theorem C04.code_pinned : Gen.amountTextCode = Pinned.amountTextCode := rfl

/-- amount_t::print converts with `%.*RNf` / GMP_RNDN: round to nearest, not truncation. -/
theorem C04.rounding_mode :
    Gen.mpfrFormat = "%.*RNf" ∧ Gen.printRnd = "GMP_RNDN" ∧ Gen.defaultRnd = "GMP_RNDN" := ⟨rfl, rfl, rfl⟩

/-- Characters that must never be part of a bare symbol are "invalid" in the table found in
    commodity.cc now: every digit, white space, sign, both decimal marks, `@`, `;`. -/
theorem C04.invalid_chars_facts :
    (∀ c, isDigit c = true → invalidChar c = true) ∧
    invalidChar ' ' = true ∧ invalidChar '\t' = true ∧ invalidChar '\n' = true ∧ invalidChar '\r' = true ∧
    invalidChar '-' = true ∧ invalidChar '.' = true ∧ invalidChar ',' = true ∧
    invalidChar '@' = true ∧ invalidChar ';' = true :=
  ⟨invalid_of_digit, invalid_space, by decide +kernel, by decide +kernel, by decide +kernel, invalid_minus,
   invalid_period, invalid_comma, by decide +kernel, by decide +kernel⟩

/-- …while the double quote and the backslash are not: with the pinned `symbol_needs_quotes` a
    symbol containing them is printed bare (the cause of `C04.roundtrip_fails_backslash`). -/
theorem C04.quote_and_backslash_are_not_invalid : invalidChar '"' = false ∧ invalidChar '\\' = false :=
  ⟨by decide +kernel, by decide +kernel⟩

/-- When a symbol is quoted, as read from commodity.cc / pool.cc in the working tree
    (`Gen.symbolQuotesBackslashQuote`, `Gen.symbolQuotesReserved`, `Gen.symbolEscapesBackslashQuote`). -/
theorem C04.quoted_iff (sym : Text) :
    needsQuotes sym = (sym.any invalidChar
      || (Gen.symbolQuotesBackslashQuote && sym.any (fun c => c = '\\' || c = '"'))
      || (Gen.symbolQuotesReserved && isReserved sym)) ∧
    qualified sym = (if needsQuotes sym then
        '"' :: ((if Gen.symbolEscapesBackslashQuote then escapeSym sym else sym) ++ ['"']) else sym) :=
  ⟨rfl, rfl⟩

/-- Never off by more than half a unit in the last displayed place. -/
theorem C04.roundTo_nearest (q : Rat) (p : Nat) :
    (Amount.roundTo q p - q).abs ≤ 1 / (2 * (10 : Rat) ^ p) := by
  have hT := ten_pow_pos p
  have hD : (0 : Rat) < (q.den : Rat) := Rat.natCast_pos.mpr q.den_pos
  have h2 : (0 : Rat) < 2 := by decide
  have h := roundDiv_spec (q.num * (10 : Int) ^ p) q.den (rat_den_pos_int q)
  rw [← Amount.roundUnits_eq] at h
  have b1 := Rat.intCast_le_intCast.mpr h.1
  have b2 := Rat.intCast_le_intCast.mpr h.2.1
  simp only [Rat.intCast_mul, Rat.intCast_sub, Rat.intCast_pow, Rat.intCast_neg, Rat.intCast_natCast,
    Rat.intCast_ofNat] at b1 b2
  -- scaled by `2 · 10^p · den` the error is the integer `2 (u · den − num · 10^p)` and the bound is `den`
  have ex : (Amount.roundTo q p - q) * (2 * ((10 : Rat) ^ p * (q.den : Rat)))
      = 2 * ((Amount.roundUnits q p : Rat) * (q.den : Rat) - (q.num : Rat) * (10 : Rat) ^ p) := by
    rw [← Rat.mul_assoc, Rat.mul_comm _ 2, Rat.mul_assoc, roundTo_eq, Rat.sub_eq_add_neg, Rat.add_mul,
      Rat.neg_mul, ← Rat.sub_eq_add_neg, ← Rat.mul_assoc, Rat.div_mul_cancel (Rat.ne_of_gt hT),
      Rat.mul_comm ((10 : Rat) ^ p), ← Rat.mul_assoc, rat_mul_den]
  have ee : 1 / (2 * (10 : Rat) ^ p) * (2 * ((10 : Rat) ^ p * (q.den : Rat))) = (q.den : Rat) := by
    rw [← Rat.mul_assoc 2, ← Rat.mul_assoc, Rat.div_mul_cancel (Rat.ne_of_gt (Rat.mul_pos h2 hT)),
      Rat.one_mul]
  refine rat_abs_le_of_scaled (Rat.mul_pos h2 (Rat.mul_pos hT hD)) ?_ ?_
  · rw [ex, ee]; exact b1
  · rw [ex, ee]; exact b2

/-- The rounded value has at most `p` decimals. -/
theorem C04.roundTo_decimals (q : Rat) (p : Nat) :
    ∃ m : Int, Amount.roundTo q p * (10 : Rat) ^ p = (m : Rat) :=
  ⟨Amount.roundUnits q p, roundTo_mul_pow q p⟩

/-- Exactly at a tie (`q·10^p = k + ½`) the even neighbour is chosen. -/
theorem C04.roundTo_half_even (q : Rat) (p : Nat) (k : Int)
    (h : q * (10 : Rat) ^ p = (k : Rat) + 1 / 2) :
    Amount.roundTo q p * (10 : Rat) ^ p = ((if k % 2 = 0 then k else k + 1 : Int) : Rat) := by
  rw [roundTo_mul_pow, roundUnits_tie q p k h]

/-- A quantity that already has at most `p` decimals is left alone: never truncated, never moved. -/
theorem C04.roundTo_id_of_decimals (q : Rat) (p : Nat) (m : Int)
    (h : q * (10 : Rat) ^ p = (m : Rat)) : Amount.roundTo q p = q :=
  roundTo_id_aux q p m h

/-- The printed digits denote exactly the rounded value (sign · (integer digits + decimals/10^n)),
    with or without the trailing-zero trimming. -/
theorem C04.fmt_value (q : Rat) (p : Nat) (zeros : Option Nat) :
    (fmtNum q p zeros).val = Amount.roundTo q p :=
  fmtNum_val q p zeros

/-- Integer and fractional parts are decimal digits, at least one integer digit. -/
theorem C04.fmt_digits (q : Rat) (p : Nat) (zeros : Option Nat) :
    (fmtNum q p zeros).int ≠ [] ∧ (∀ c ∈ (fmtNum q p zeros).int, isDigit c = true) ∧
    (∀ c ∈ (fmtNum q p zeros).frac, isDigit c = true) :=
  ⟨(fmtNum_digits q p zeros).1, (fmtNum_digits q p zeros).2, (fmtNum_digits q p zeros).3⟩

/-- Exactly `p` decimals without trimming; with `zeros_prec = z` between `min z p` and `p`. -/
theorem C04.fmt_decimals (q : Rat) (p : Nat) :
    (fmtNum q p none).frac.length = p ∧
    ∀ z, min z p ≤ (fmtNum q p (some z)).frac.length ∧ (fmtNum q p (some z)).frac.length ≤ p := by
  refine ⟨fracDigits_length _ _, fun z => ?_⟩
  have h1 := trimFrac_length_ge (fracDigits ((Amount.roundUnits q p).natAbs % 10 ^ p) p) z
  have h2 := trimFrac_length_le (fracDigits ((Amount.roundUnits q p).natAbs % 10 ^ p) p) z
  rw [fracDigits_length] at h1 h2
  exact ⟨h1, h2⟩

/-- An amount that does not keep its precision is displayed with exactly the commodity's
    precision, whatever its own precision counter says. -/
theorem C04.display_is_commodity_precision (ci : CommInfo) (q : Rat) (amtPrec : Nat) :
    (printedNum ci q amtPrec false).frac.length = ci.prec ∧
    (printedNum ci q amtPrec false).val = Amount.roundTo q ci.prec := by
  have hd : displayPrec true ci.prec amtPrec false = ci.prec := if_pos ⟨rfl, Bool.false_ne_true⟩
  unfold printedNum
  rw [hd]
  have := (C04.fmt_decimals q ci.prec).2 ci.prec
  rw [Nat.min_self] at this
  exact ⟨Nat.le_antisymm this.2 this.1, fmtNum_val _ _ _⟩

/-- For a rounded commoditized amount carrying more decimals than its commodity displays,
    amount_t::is_zero holds exactly when the amount rounds to zero at the display precision: an
    amount below one that rounds UP to one (0.996 at two decimals) is not zero. -/
theorem C04.is_zero_iff (cp : Nat) (q : Rat) (ap : Nat) (hlt : cp < ap) :
    isZeroAmt true cp q ap false = true ↔ Amount.roundTo q cp = 0 := by
  rw [isZeroAmt_eq cp q ap hlt, decide_eq_true_iff, roundTo_eq_zero_iff]

/-- Otherwise (no commodity, precision kept, or no more decimals than displayed) it is exact. -/
theorem C04.is_zero_exact (hasComm : Bool) (cp : Nat) (q : Rat) (ap : Nat) (keep : Bool)
    (h : hasComm = false ∨ keep = true ∨ ap ≤ cp) :
    isZeroAmt hasComm cp q ap keep = decide (q = 0) :=
  isZeroAmt_exact hasComm cp q ap keep h

/-- value_t::print of an amount is amount_t::print of it (quotes elided), or a bare `0` — and the
    latter only when the amount rounds to zero at its display precision: the listing is never a
    whole unit off. -/
theorem C04.show_value (dcDefault : Bool) (sym : Text) (ci : CommInfo) (q : Rat) (amtPrec : Nat) (keep : Bool) :
    showAmount dcDefault sym ci q amtPrec keep = printAmountElided dcDefault sym ci q amtPrec keep ∨
    (showAmount dcDefault sym ci q amtPrec keep = ['0'] ∧
      Amount.roundTo q (displayPrec (decide (sym ≠ [])) ci.prec amtPrec keep) = 0) := by
  unfold showAmount
  by_cases h : isZeroAmt (decide (sym ≠ [])) ci.prec q amtPrec keep = true
  · right
    rw [if_pos h]
    exact ⟨rfl, isZeroAmt_sound _ _ _ _ _ h⟩
  · left
    rw [if_neg h]

/-- The listing spells the amount exactly as amount_t::print does unless the commodity is
    separated and its printed symbol starts with a quote (then only the symbol's quotes differ). -/
theorem C04.elided_eq_print (dcDefault : Bool) (sym : Text) (ci : CommInfo) (q : Rat) (amtPrec : Nat)
    (keep : Bool) (h : startsQuote (qualified sym) = false ∨ ci.style.separated = false ∨ sym = []) :
    printAmountElided dcDefault sym ci q amtPrec keep = printAmount dcDefault sym ci q amtPrec keep := by
  have he : elidedSymbol (if sym ≠ [] then ci.style else ({} : Style)).separated sym = qualified sym := by
    unfold elidedSymbol
    -- the quotes go only from a separated commodity whose printed symbol starts with one
    refine if_neg (fun ⟨hsep, hq, _⟩ => ?_)
    rcases h with h | h | h
    · exact Bool.false_ne_true (h.symm.trans hq)
    · by_cases hs : sym ≠ []
      · rw [if_pos hs, h] at hsep; exact Bool.false_ne_true hsep
      · rw [if_neg hs] at hsep; exact Bool.false_ne_true hsep
    · rw [if_neg (not_not_intro h)] at hsep; exact Bool.false_ne_true hsep
  unfold printAmountElided printAmount
  simp only [he]

/-- Removing the marks recovers the digits, and read from the right the marks sit after every
    third digit as long as digits follow (`groupRev` is that specification). -/
theorem C04.group_ungroup (sep : Char) (ds : Text) (h : ∀ c ∈ ds, c ≠ sep) :
    (groupInt sep ds).filter (fun c => decide (c ≠ sep)) = ds ∧
    (groupInt sep ds).reverse = groupRev sep ds.reverse ∧
    (groupInt sep ds).length = ds.length + (ds.length - 1) / 3 :=
  ⟨groupInt_filter sep ds h, groupInt_reverse sep ds, groupInt_length sep ds⟩

/-- The full claim, for the record: *whatever* the reader knows about the commodity beforehand
    (`dcOf`), a printed amount reads back as the printed value and the same commodity. -/
def C04.RoundtripFull : Prop :=
  ∀ (dcDefault : Bool) (sym : Text) (ci : CommInfo) (q : Rat) (amtPrec : Nat) (keep : Bool) (dcOf : Text → Bool),
    sym ≠ [] →
    ∃ p, parseAmount dcOf (printAmount dcDefault sym ci q amtPrec keep) = .ok p ∧
      p.q = Amount.roundTo q (displayPrec true ci.prec amtPrec keep) ∧ p.sym = sym

/-- What holds of the reader: for every quantity, precision, keep flag, every style
    (prefix/suffix × separated × thousands × decimal comma, `--decimal-comma` or not) and every
    symbol, parsing what `amount_t::print` wrote — followed by nothing or by a separator — yields
    the rounded value exactly, the number of decimals written, the same symbol and the style flags
    that are visible in the text, under three decidable guards:
    * `SymOK sym`: no newline in the symbol; and, where the source in the working tree does not
      protect them (`Gen.symbol…` flags), no `"`/`\\` and no bare reserved word;
    * the number fits parse_quantity's buffer (`Gen.quantityBufMax` characters);
    * the reader already knows the commodity's decimal mark, or it assumes a period and the
      number of decimals written is not a multiple of three. -/
theorem C04.print_parse_roundtrip_partial
    (dcDefault : Bool) (sym : Text) (ci : CommInfo) (q : Rat) (amtPrec : Nat) (keep : Bool)
    (dcOf : Text → Bool) (tail : Text)
    (hsym : SymOK sym)
    (hlen : ((printedNum ci q amtPrec keep).render ci.style.thousands
              (dcDefault || ci.style.decimalComma)).length ≤ Gen.quantityBufMax)
    (hdc : dcOf sym = (dcDefault || ci.style.decimalComma) ∨
           (dcOf sym = false ∧ (printedNum ci q amtPrec keep).frac.length % 3 ≠ 0))
    (ht : TailOK tail) :
    parseAmount dcOf (printAmount dcDefault sym ci q amtPrec keep ++ tail) =
      .ok { q := Amount.roundTo q (displayPrec true ci.prec amtPrec keep),
            prec := (printedNum ci q amtPrec keep).frac.length,
            sym := sym,
            flags := learnedStyle ci.style (dcDefault || ci.style.decimalComma) (printedNum ci q amtPrec keep),
            rest := tail } :=
  parse_print_main dcDefault sym ci q amtPrec keep dcOf tail hsym hlen hdc ht

/-- Printed at full precision (the quantity has no more decimals than are displayed), the amount
    reads back as exactly the same quantity and commodity. -/
theorem C04.print_parse_exact_partial
    (dcDefault : Bool) (sym : Text) (ci : CommInfo) (q : Rat) (amtPrec : Nat) (keep : Bool)
    (dcOf : Text → Bool) (m : Int)
    (hfull : q * (10 : Rat) ^ (displayPrec true ci.prec amtPrec keep) = (m : Rat))
    (hsym : SymOK sym)
    (hlen : ((printedNum ci q amtPrec keep).render ci.style.thousands
              (dcDefault || ci.style.decimalComma)).length ≤ Gen.quantityBufMax)
    (hdc : dcOf sym = (dcDefault || ci.style.decimalComma) ∨
           (dcOf sym = false ∧ (printedNum ci q amtPrec keep).frac.length % 3 ≠ 0)) :
    ∃ p, parseAmount dcOf (printAmount dcDefault sym ci q amtPrec keep) = .ok p ∧ p.q = q ∧ p.sym = sym := by
  have h := parse_print_main dcDefault sym ci q amtPrec keep dcOf [] hsym hlen hdc (Or.inl rfl)
  rw [List.append_nil] at h
  refine ⟨_, h, ?_, rfl⟩
  -- the field is projected first: unified as it stands, `Amount.roundTo` is unfolded before the record
  dsimp only
  exact roundTo_id_aux q _ m hfull

/-- In the session that printed it (the commodity's style is known to the reader) the decimal
    guard disappears; and re-reading its own rounded output teaches the commodity nothing new:
    style and precision stay as they were. -/
theorem C04.reread_same_session_partial
    (dcDefault : Bool) (sym : Text) (ci : CommInfo) (q : Rat) (amtPrec : Nat) (tail : Text)
    (hsym : SymOK sym)
    (hlen : ((printedNum ci q amtPrec false).render ci.style.thousands
              (dcDefault || ci.style.decimalComma)).length ≤ Gen.quantityBufMax)
    (hd : dcDefault = true → ci.style.decimalComma = true)
    (ht : TailOK tail) :
    ∃ p, parseAmount (fun _ => dcDefault || ci.style.decimalComma)
           (printAmount dcDefault sym ci q amtPrec false ++ tail) = .ok p ∧
      p.q = Amount.roundTo q ci.prec ∧ p.sym = sym ∧ p.rest = tail ∧ migrate ci p = ci := by
  have h := parse_print_main dcDefault sym ci q amtPrec false (fun _ => dcDefault || ci.style.decimalComma)
    tail hsym hlen (Or.inl rfl) ht
  refine ⟨_, h, rfl, rfl, rfl, migrate_eq_self ci _ ?_ ?_⟩
  · exact Style.union_learnedStyle ci.style _ _ (fun hdc => by
      cases hdd : dcDefault
      · rw [hdd] at hdc; exact hdc
      · exact hd hdd)
  · exact Nat.le_of_eq (C04.display_is_commodity_precision ci q amtPrec).1

/-- A plain number (no commodity) reads back too. -/
theorem C04.print_parse_plain_partial (q : Rat) (amtPrec : Nat) (keep : Bool)
    (hlen : (printAmount false [] {} q amtPrec keep).length ≤ Gen.quantityBufMax) :
    ∃ p, parseAmount (fun _ => false) (printAmount false [] {} q amtPrec keep) = .ok p ∧
      p.q = Amount.roundTo q amtPrec ∧ p.sym = [] := by
  rw [printAmount_nil] at hlen ⊢
  exact ⟨_, parse_plain (fun _ => false) _ false false (fmtNum_digits q amtPrec (some 0)) (Or.inl rfl) hlen,
    fmtNum_val q amtPrec (some 0), rfl⟩

/-! ### the inputs excluded by the guards really fail (replayed on the binary by the check) -/

/-- Decimal comma learned from the data, three decimals: `1,500 EUR` (= 1.5) is read by a fresh
    reader as one thousand five hundred. -/
theorem C04.roundtrip_fails_decimal_comma_3 :
    ∃ p, parseAmount (fun _ => false)
          (printAmount false "EUR".toList { style := { suffixed := true, separated := true, decimalComma := true }, prec := 3 }
            (3 / 2) 2 false) = .ok p ∧ p.q = 1500 ∧ Amount.roundTo (3 / 2 : Rat) 3 = 3 / 2 := by
  refine ⟨{ q := 1500, prec := 0, sym := "EUR".toList,
            flags := { suffixed := true, separated := true, thousands := true }, rest := [] }, ?_, rfl, ?_⟩
  · decide +kernel
  · decide +kernel

theorem C04.roundtrip_full_is_false : ¬ C04.RoundtripFull := by
  intro h
  obtain ⟨p, hp, hq, _⟩ := h false "EUR".toList
    { style := { suffixed := true, separated := true, decimalComma := true }, prec := 3 } (3 / 2) 2 false
    (fun _ => false) (by decide +kernel)
  obtain ⟨p', hp', hq', hr⟩ := C04.roundtrip_fails_decimal_comma_3
  rw [hp'] at hp
  cases hp
  rw [hq'] at hq
  have hd : displayPrec true 3 2 false = 3 := by decide
  simp only [hd] at hq
  rw [hr] at hq
  revert hq
  decide +kernel

/-- With the pinned quoting rule a symbol with a backslash is printed bare and unescaped; the
    reader takes the backslash as an escape and finds another commodity (`a\b` → `ab`). -/
theorem C04.roundtrip_fails_backslash :
    Gen.symbolQuotesBackslashQuote = false →
    parseAmount (fun _ => false)
      (printAmount false ['a', '\\', 'b'] { style := { suffixed := true, separated := true }, prec := 0 } 5 0 false)
      = .ok { q := 5, prec := 0, sym := ['a', 'b'], flags := { suffixed := true, separated := true }, rest := [] } := by
  decide +kernel

/-- With the pinned quoting rule a symbol spelled like a reserved word (`and`, `or`, `not`, `div`,
    `if`, `else`, `true`, `false`) is printed bare; the reader refuses it as a symbol, so the amount
    loses its commodity. -/
theorem C04.roundtrip_fails_reserved_word :
    Gen.symbolQuotesReserved = false →
    parseAmount (fun _ => false)
      (printAmount false "and".toList { style := { suffixed := true, separated := true }, prec := 0 } 5 0 false)
      = .ok { q := 5, prec := 0, sym := [], flags := { separated := true }, rest := " and".toList } := by
  decide +kernel

/-- With the repaired quoting rule (all three flags read as true from the working tree) every
    symbol without a newline — reserved words and symbols containing `"` or `\\` included — reads
    back; the remaining guards are the buffer sizes and the decimal-comma ambiguity. -/
theorem C04.print_parse_roundtrip_protected_partial
    (hr : Gen.symbolQuotesReserved = true) (hb : Gen.symbolQuotesBackslashQuote = true)
    (he : Gen.symbolEscapesBackslashQuote = true)
    (dcDefault : Bool) (sym : Text) (ci : CommInfo) (q : Rat) (amtPrec : Nat) (keep : Bool)
    (dcOf : Text → Bool) (tail : Text)
    (hne : sym ≠ []) (hslen : sym.length ≤ Gen.symbolBufMax)
    (hc : ∀ c ∈ sym, c ≠ '\n' ∧ c.toNat ≠ 11 ∧ c.toNat ≠ 12)
    (hlen : ((printedNum ci q amtPrec keep).render ci.style.thousands
              (dcDefault || ci.style.decimalComma)).length ≤ Gen.quantityBufMax)
    (hdc : dcOf sym = (dcDefault || ci.style.decimalComma) ∨
           (dcOf sym = false ∧ (printedNum ci q amtPrec keep).frac.length % 3 ≠ 0))
    (ht : TailOK tail) :
    parseAmount dcOf (printAmount dcDefault sym ci q amtPrec keep ++ tail) =
      .ok { q := Amount.roundTo q (displayPrec true ci.prec amtPrec keep),
            prec := (printedNum ci q amtPrec keep).frac.length,
            sym := sym,
            flags := learnedStyle ci.style (dcDefault || ci.style.decimalComma) (printedNum ci q amtPrec keep),
            rest := tail } :=
  parse_print_main dcDefault sym ci q amtPrec keep dcOf tail
    (symOK_of_protected hr hb he sym hne hslen hc) hlen hdc ht

/-- …for instance the two witnesses above. -/
theorem C04.roundtrip_protected_examples :
    Gen.symbolQuotesReserved = true → Gen.symbolQuotesBackslashQuote = true →
    Gen.symbolEscapesBackslashQuote = true →
    (parseAmount (fun _ => false)
      (printAmount false ['a', '\\', 'b'] { style := { suffixed := true, separated := true }, prec := 0 } 5 0 false)
      = .ok { q := 5, prec := 0, sym := ['a', '\\', 'b'], flags := { suffixed := true, separated := true }, rest := [] }) ∧
    (parseAmount (fun _ => false)
      (printAmount false "and".toList { style := { suffixed := true, separated := true }, prec := 0 } 5 0 false)
      = .ok { q := 5, prec := 0, sym := "and".toList, flags := { suffixed := true, separated := true }, rest := [] }) := by
  decide +kernel

/-- A decimal text of any length within the reader's buffer denotes its positional value, and the
    precision recorded is the number of decimals written. -/
theorem C04.parse_decimal_exact_partial (ints frac : Text) (hine : ints ≠ [])
    (hi : ∀ c ∈ ints, isDigit c = true) (hf : ∀ c ∈ frac, isDigit c = true)
    (hlen : (ints ++ (if frac = [] then [] else '.' :: frac)).length ≤ Gen.quantityBufMax) :
    parseAmount (fun _ => false) (ints ++ (if frac = [] then [] else '.' :: frac)) =
      .ok { q := ((decVal (ints ++ frac) : Int) : Rat) / (10 : Rat) ^ frac.length, prec := frac.length,
            sym := [], flags := {}, rest := [] } := by
  have e : ints ++ (if frac = [] then [] else '.' :: frac) = (⟨false, ints, frac⟩ : Num).render false false := rfl
  rw [e] at hlen ⊢
  rw [parse_plain (fun _ => false) ⟨false, ints, frac⟩ false false ⟨hine, hi, hf⟩ (Or.inl rfl) hlen, decVal_div]
  rfl

/-- A commodity's display precision is the largest number of decimals seen, and is attained… -/
theorem C04.precision_is_max_seen (c : CommInfo) (ps : List Parsed) (h : c.noMigrate = false) :
    c.prec ≤ (learnAll c ps).prec ∧ (∀ p ∈ ps, p.prec ≤ (learnAll c ps).prec) ∧
    ((learnAll c ps).prec = c.prec ∨ ∃ p ∈ ps, (learnAll c ps).prec = p.prec) := by
  rw [learnAll_eq c ps h]
  exact foldl_max_prec c.prec ps

/-- …unless fixed by a `format` directive (NO_MIGRATE): then nothing read later changes it. -/
theorem C04.precision_fixed_by_format (c : CommInfo) (ps : List Parsed) (h : c.noMigrate = true) :
    learnAll c ps = c := by
  induction ps with
  | nil => rfl
  | cons p ps ih => exact (congrArg (learnAll · ps) (migrate_of_noMigrate c p h)).trans ih

/-- Style flags are or-ed together over everything read. -/
theorem C04.style_is_union_seen (c : CommInfo) (ps : List Parsed) (h : c.noMigrate = false) :
    (learnAll c ps).style = ps.foldl (fun s p => s.union p.flags) c.style := by
  rw [learnAll_eq c ps h]

example : SymOK "A B".toList ∧ SymOK "EUR".toList ∧ SymOK "2020".toList ∧
    (Gen.symbolQuotesReserved = false → ¬ SymOK "and".toList) ∧
    (Gen.symbolQuotesReserved = true → SymOK "and".toList) := by decide +kernel

example : printAmount false "$".toList { style := { thousands := true }, prec := 2 } (-1234567891 / 1000) 3 false
    = "$-1,234,567.89".toList := by decide +kernel

example : printAmount false "A B".toList
    { style := { suffixed := true, separated := true, thousands := true, decimalComma := true }, prec := 2 }
    (1234567891 / 1000) 3 true = "1.234.567,891 \"A B\"".toList := by decide +kernel

example : parseAmount (fun _ => true) "1.234.567,891 \"A B\"".toList =
    .ok { q := 1234567891 / 1000, prec := 3, sym := "A B".toList,
          flags := { suffixed := true, separated := true, thousands := true, decimalComma := true }, rest := [] } := by
  decide +kernel

example : showAmount false "$".toList { style := { thousands := true }, prec := 2 } (996 / 1000) 3 false = "$1.00".toList ∧
    showAmount false "$".toList { style := { thousands := true }, prec := 2 } (-9951 / 10000) 4 false = "$-1.00".toList ∧
    showAmount false "$".toList { style := { thousands := true }, prec := 2 } (4 / 1000) 3 false = "0".toList := by
  decide +kernel

example : TailOK " ; note".toList := by decide +kernel

example : Amount.roundTo (5 / 1000 : Rat) 2 = 0 ∧ Amount.roundTo (15 / 1000 : Rat) 2 = 2 / 100 := by
  decide +kernel

end Ledger
