/-
MODEL COHERENCE — the independently written fragments of the same C++ routines
agree on their common domain.  For ALL inputs (no size bound); every guard is an
explicit decidable predicate on the parsed postings (Lemmas/CoherenceCore.lean).

1. `xact_base_t::finalize` (xact.cc 158-423) exists four times:
     `FinX.finalize`      Model/Finalize.lean   C01/C02
     `AutoXact.finalize`  Model/AutoXact.lean   C16
     `Assert.finalize`    Model/Assert.lean     C09
     `OF.finalize`        Model/OrderFree.lean  C08  (`acceptNoNull`, `inferred`, `stepX`)
   Results are compared as `Coh.Verdict`s — accepted with the finalised postings
   as `Coh.Row`s (account, kind, exact amount incl. precision counter and flag) /
   unbalanced / two nulls / null left — through the translations `Coh.verdictFin`,
   `verdictAuto`, `verdictAssert`, `verdictOF`, `Row.toAssert` (kind ↦ POST_VIRTUAL),
   `Row.toOF` (kind forgotten, date stamped).  FinX, AutoXact and OF keep the
   posting order; Assert appends the filled-in elided posting last, so it is
   compared up to a permutation (`Verdict.PermEq`).

   Guards (each shown NECESSARY below by a `decide`d witness on which the models
   differ; `tools/coherence_run.py` replays the witnesses on the real binary):
     `noVirtNull`     no `(virtual)` posting with an elided amount
     `someAmount`     not the all-null transaction            (AutoXact, Assert only)
     `noKeepAmt`      posting amounts carry no keep-precision flag   (FinX only)
     `noKeepCost`     cost amounts are handed over without the flag  (Assert only)
     `costHasAmount`  a cost only on a posting with an amount        (FinX only)
     `costOtherComm`  cost commodity ≠ amount commodity              (FinX only)
     `exchangeGuard`  in the implied two-commodity exchange the amounts are exact
                      decimals at their display precision            (FinX only)
     `noCostAssert`, `impliedCase = false`    AutoXact compared on the no-cost fragment only
                      (with a cost it annotates the amount with a lot, which the others do not model)
     `noLotAmt`, `noLotCost`   unannotated commodities (`Coh.plain`: no `{` in the symbol).  C01/C02
                      and C16 model lots (each in its own encoding), C08/C09 do not; on plain symbols
                      `FinX.commLe` is the plain symbol order (`COH.commLe_plain`), `FinX.liftEnv` is
                      the identity, and the lot FinX computes for a posting with a cost has the
                      posting's commodity as base (`COH.lotBase_annotate`), which is what a row keeps
2. with costs: the per-posting contribution to the residual and the residual
   balance per commodity agree in FinX / OF / Assert with NO guard
   (`cost_contribution_agree`, `cost_residual_agree`); as `Value`s under the flag guards;
   the lot a posting with a cost is annotated with agrees between FinX (`lotStep`) and
   AutoXact (`annotateCost`) in price quantity, price commodity and base symbol
   (`cost_lot_agree`).
3. per-account per-commodity sums: C05 `Reports`, C08 `OF`, C17 `Regroup` denote
   the same `Coh.jsum`.
   The four re-statements of `add_or_set_value` are one function, precision counters
   included (`add_or_set_value_agree`, `ownBalance_is_value_sum`).
4. every re-statement of the display-zero test is `Amount.isZero`.
-/
import LedgerModel.Lemmas.CoherenceCost
import LedgerModel.Lemmas.CoherenceSums
import LedgerModel.Model.Expr

namespace Ledger
open Coh

/-- C08 refines C01/C02: on the common domain `OF.finalize` returns exactly the
    verdict of `FinX.finalize` (no bucket, any enumeration of the hash map) on the
    lifted plain transaction, the rows in the same order with the posting kind
    forgotten (and, for a posting with a cost, the base commodity of the lot FinX
    computes).  Costs included. -/
theorem COH.finx_of_agree (env : PrecEnv) (enum : Balance → Balance) (henum : ∀ b, (enum b).Perm b)
    (x : Xact) (hk : noKeepAmt x.posts = true) (hvn : noVirtNull x.posts = true)
    (hco : costOtherComm x.posts = true) (hca : costHasAmount x.posts = true)
    (hla : noLotAmt x.posts = true) (hlc : noLotCost x.posts = true)
    (hg : exchangeGuard env x.posts = true) :
    verdictOF (OF.finalize env x.date x.posts)
      = (verdictFin (FinX.finalize env none enum (FinX.LXact.ofXact x))).map (Row.toOF x.date) := by
  rw [of_eq_ref env x.date x.posts hvn]
  exact congrArg _ (finalize_eq_ref env enum henum x hk hvn hco hca hla hlc hg).symm

/-- C09 refines C01/C02 (kinds reduced to POST_VIRTUAL, rows up to order).  Costs included. -/
theorem COH.finx_assert_agree (cx : Assert.Ctx) (enum : Balance → Balance) (henum : ∀ b, (enum b).Perm b)
    (x : Xact) (hk : noKeepAmt x.posts = true) (hkc : noKeepCost x.posts = true)
    (hvn : noVirtNull x.posts = true) (hsa : someAmount x.posts = true)
    (hco : costOtherComm x.posts = true) (hca : costHasAmount x.posts = true)
    (hla : noLotAmt x.posts = true) (hlc : noLotCost x.posts = true)
    (hg : exchangeGuard cx.env x.posts = true) :
    (verdictAssert (Assert.finalize cx x.posts)).PermEq
      ((verdictFin (FinX.finalize cx.env none enum (FinX.LXact.ofXact x))).map Row.toAssert) := by
  have h := assert_eq_ref cx x.posts hvn hsa hkc
  rw [← finalize_eq_ref cx.env enum henum x hk hvn hco hca hla hlc hg] at h
  exact h

theorem COH.noCost_guards (ps : List Posting) (h : noCostAssert ps = true) :
    costOtherComm ps = true ∧ costHasAmount ps = true :=
  have hg := cost_guards_of_noCost (noCost_of_noCostAssert h)
  ⟨hg.2.2.1, hg.2.2.2.1⟩

/-- C16 refines C01/C02: wherever `AutoXact.finalize` does not answer
    `unsupported` (no cost/assertion, no implied exchange) it returns exactly the
    verdict and the rows — account, kind, exact amount, in order — of `FinX.finalize`. -/
theorem COH.finx_autoxact_agree (env : PrecEnv) (enum : Balance → Balance) (henum : ∀ b, (enum b).Perm b)
    (x : Xact) (hca : noCostAssert x.posts = true) (hk : noKeepAmt x.posts = true)
    (hlot : noLotAmt x.posts = true)
    (hvn : noVirtNull x.posts = true) (hsa : someAmount x.posts = true)
    (himp : impliedCase env x.posts = false) :
    verdictAuto (AutoXact.finalize env x)
      = verdictFin (FinX.finalize env none enum (FinX.LXact.ofXact x)) := by
  rw [auto_eq_ref env x hca hk hlot hvn hsa himp]
  obtain ⟨h1, h2⟩ := COH.noCost_guards x.posts hca
  exact (finalize_eq_ref env enum henum x hk hvn h1 h2 hlot
    (cost_guards_of_noCost (noCost_of_noCostAssert hca)).1 (by unfold exchangeGuard; rw [himp]; rfl)).symm

/-- C16 and C08 agree. -/
theorem COH.autoxact_of_agree (env : PrecEnv) (x : Xact) (hca : noCostAssert x.posts = true)
    (hk : noKeepAmt x.posts = true) (hlot : noLotAmt x.posts = true)
    (hvn : noVirtNull x.posts = true) (hsa : someAmount x.posts = true)
    (himp : impliedCase env x.posts = false) :
    verdictOF (OF.finalize env x.date x.posts)
      = (verdictAuto (AutoXact.finalize env x)).map (Row.toOF x.date) := by
  rw [of_eq_ref env x.date x.posts hvn, auto_eq_ref env x hca hk hlot hvn hsa himp]

/-- C16 and C09 agree. -/
theorem COH.autoxact_assert_agree (cx : Assert.Ctx) (x : Xact) (hca : noCostAssert x.posts = true)
    (hk : noKeepAmt x.posts = true) (hlot : noLotAmt x.posts = true)
    (hvn : noVirtNull x.posts = true) (hsa : someAmount x.posts = true)
    (himp : impliedCase cx.env x.posts = false) :
    (verdictAssert (Assert.finalize cx x.posts)).PermEq
      ((verdictAuto (AutoXact.finalize cx.env x)).map Row.toAssert) := by
  rw [auto_eq_ref cx.env x hca hk hlot hvn hsa himp]
  exact assert_eq_ref cx x.posts hvn hsa (cost_guards_of_noCost (noCost_of_noCostAssert hca)).2.1

/-- C08 and C09 agree, costs and the implied exchange included: both are the
    image of one verdict over rows. -/
theorem COH.of_assert_agree (cx : Assert.Ctx) (date : Int) (ps : List Posting)
    (hvn : noVirtNull ps = true) (hsa : someAmount ps = true) (hkc : noKeepCost ps = true) :
    ∃ v : Verdict Coh.Row, verdictOF (OF.finalize cx.env date ps) = v.map (Row.toOF date) ∧
      (verdictAssert (Assert.finalize cx ps)).PermEq (v.map Row.toAssert) :=
  ⟨Coh.ref cx.env ps, of_eq_ref cx.env date ps hvn, assert_eq_ref cx ps hvn hsa hkc⟩

/-- `OF.stepX` of a plain transaction (no `= AMOUNT`) is reading the postings
    followed by `OF.finalize` under the precisions learned so far: the theorems
    above carry over to C08's journal step. -/
theorem COH.stepX_is_finalize (st : OF.State) (x : OF.WXact) (ps : List Posting) (pool : OF.Pool)
    (hr : OF.readPosts st.pool x.posts = .ok (ps, pool)) (hplain : ∀ q ∈ ps, q.assert = none) :
    OF.stepX st x = (OF.finalize pool.precEnv x.date ps).map
      (fun es => { st with pool := pool, entries := st.entries ++ es }) := by
  unfold OF.stepX
  rw [hr]
  simp only
  rw [OF.assignPosts_id ps st.entries hplain, OF.checkAsserts_true ps st.entries x.date hplain]
  simp only [if_true]
  cases OF.finalize pool.precEnv x.date ps <;> rfl

/-- The guards `noKeepAmt` and `exchangeGuard` hold for every transaction as the
    journal reader produces it: amounts written as decimals, flag clear, the
    display precision raised to cover them (`FinX.observe`, amount.cc 1190-1195). -/
theorem COH.reader_amounts_exact (env : PrecEnv) (x : Xact)
    (hdec : ∀ p ∈ x.posts, ∀ a, p.amount = some a → FinX.Decimal a) :
    ∀ p ∈ x.posts, ∀ a, p.amount = some a → FinX.Exact (FinX.observe env (FinX.LXact.ofXact x)) a :=
  fun p hp a ha => FinX.exact_of_decimal _ a (hdec p hp a ha)
    (FinX.observe_covers env (FinX.LXact.ofXact x) ⟨p, none⟩ a
      (by unfold FinX.LXact.ofXact; exact List.mem_map.2 ⟨p, hp, rfl⟩) ha)

/-- THE coincidence lemma behind the guard `noLotAmt`: on unannotated commodities
    `commodity_t::compare_by_commodity` as C01/C02 models it (`FinX.commLe`: base
    symbol, price, date, tag) is the plain order of the symbols that C08, C09 and
    (on base symbols) C16 sort by. -/
theorem COH.commLe_plain (a b : Comm) (ha : plain a = true) (hb : plain b = true) :
    FinX.commLe a b = decide (a ≤ b) := Coh.commLe_plain a b ha hb

/-- … and the computed lot annotation `BASE{price}[date]` has base symbol `BASE`
    (what `rowOfFin` projects to). -/
theorem COH.lotBase_annotate (c : Comm) (pu : Amount) (date : String) (h : plain c = true) :
    FinX.lotBase (FinX.annotate c pu date) = c := Coh.lotBase_annotate c pu date h

/-- The display precision the zero test reads is learned the same way in C16's
    journal (`PrecTable.bumpAll` over the transaction's amounts) and in C01/C02's
    (`FinX.observe`), for every commodity but the null one (which `Amount.isZero`
    never looks up); without lot annotations (C16 files a lot under its base symbol). -/
theorem COH.prec_env_agree (t : AutoXact.PrecTable) (x : Xact) (c : Comm) (hc : c ≠ "")
    (hcl : plain c = true) (hl : noLotAmt x.posts = true) :
    (t.bumpAll (x.posts.filterMap (·.amount))).get c = FinX.observe t.get (FinX.LXact.ofXact x) c := by
  have hl' := noLotAmt_iff.1 hl
  unfold AutoXact.PrecTable.bumpAll FinX.observe FinX.LXact.ofXact
  rw [List.foldl_map]
  generalize x.posts = ps at hl'
  induction ps generalizing t with
  | nil => rfl
  | cons p ps ih =>
    obtain ⟨hp, hps⟩ := List.forall_mem_cons.1 hl'
    cases ha : p.amount with
    | none =>
      rw [List.filterMap_cons_none ha, List.foldl_cons]
      simp only [ha]
      exact ih t hps
    | some a =>
      rw [List.filterMap_cons_some ha, List.foldl_cons, List.foldl_cons, ih _ hps]
      refine congrArg (List.foldl _ · ps) ?_
      simp only [ha]
      rw [get_bump, baseComm_of_plain c hcl, baseComm_of_plain a.comm (hp a ha)]
      by_cases hac : a.comm = c
      · subst hac
        rw [if_pos ⟨decide_eq_true hc, rfl⟩, if_pos rfl, Nat.max_comm]
      · rw [if_neg (fun h => hac h.2.symm), if_neg hac]

/-! ### the guards are necessary: concrete disagreements between the models -/

private def eur (n : Int) (d : Nat) : Amount := { q := mkRat n (10 ^ d), prec := d, keep := false, comm := "EUR" }
private def usd (n : Int) (d : Nat) : Amount := { q := mkRat n (10 ^ d), prec := d, keep := false, comm := "USD" }
private def bare (n : Int) : Amount := { q := n, prec := 0, keep := false, comm := "" }
private def mkPost (acct : String) (k : PostKind) (a : Option Amount) (c : Option Cost) : Posting :=
  { account := acct, kind := k, state := 0, amount := a, cost := c, assert := none, note := "", line := 0 }
private def mkX (ps : List Posting) : Xact :=
  { date := 18000, aux := none, state := 0, code := "", payee := "p", note := "", posts := ps, line := 1, endLine := 3 }
private def env2 : PrecEnv := fun c => if c = "EUR" ∨ c = "USD" then 2 else 0
private def cx2 : Assert.Ctx := { env := env2, permissive := false }

/-- FINDING 1 (`someAmount`).  `2020/01/01 p⏎  A` — one posting, amount elided.
    ledger drops the transaction silently (finalize returns false, xact.cc 413-414);
    so do FinX and OF; AutoXact and Assert report an error. -/
private def wAllNull : Xact := mkX [mkPost "A" .real none none]
theorem COH.witness_all_null :
    verdictFin (FinX.finalize env2 none id (FinX.LXact.ofXact wAllNull)) = .accepted [] ∧
    verdictOF (OF.finalize env2 0 wAllNull.posts) = .accepted [] ∧
    verdictAuto (AutoXact.finalize env2 wAllNull) = .nullLeft ∧
    verdictAssert (Assert.finalize cx2 wAllNull.posts) = .nullLeft := by decide +kernel

/-- FINDING 2 (`costOtherComm`).  `A 10.00 EUR @ 1.00 EUR⏎ B -10.00 EUR`: ledger throws
    "A posting's cost must be of a different commodity than its amount" (xact.cc
    288-294); only FinX has the check, OF and Assert accept. -/
private def wSameComm : Xact :=
  mkX [mkPost "A" .real (some (eur 1000 2)) (some ⟨eur 100 2, true⟩), mkPost "B" .real (some (eur (-1000) 2)) none]
theorem COH.witness_same_comm_cost :
    FinX.finalize env2 none id (FinX.LXact.ofXact wSameComm) = .error .sameCommCost ∧
    (OF.finalize env2 0 wSameComm.posts).toBool = true ∧
    (Assert.finalize cx2 wSameComm.posts).toBool = true := by decide +kernel

/-- FINDING 3 (`exactAmts`, the null commodity).  `A -5 BTC⏎ B 3` (a bare number):
    the implicit exchange prices the BTC posting in … BTC (`amount_t` division keeps the
    left commodity when the dividend has none), and ledger throws the same-commodity
    error; FinX follows, OF and Assert accept because the signs are opposite. -/
private def wBare : Xact :=
  mkX [mkPost "A" .real (some { q := -5, prec := 0, keep := false, comm := "BTC" }) none,
       mkPost "B" .real (some (bare 3)) none]
theorem COH.witness_bare_implied :
    FinX.finalize env2 none id (FinX.LXact.ofXact wBare) = .error .sameCommCost ∧
    (OF.finalize env2 0 wBare.posts).toBool = true ∧
    (Assert.finalize cx2 wBare.posts).toBool = true := by decide +kernel

/-- FINDING 4 (`noVirtNull`).  `A 5.00 EUR⏎ (V)` — ledger (and FinX) stop at
    "does not balance" (ledger fails while rendering that very error); AutoXact
    and OF answer "null amount" first.  With `A⏎ (V)` ledger and FinX drop the
    transaction silently, the other three report an error. -/
private def wVirtNull : Xact := mkX [mkPost "A" .real (some (eur 500 2)) none, mkPost "V" .virtual none none]
private def wVirtNull2 : Xact := mkX [mkPost "A" .real none none, mkPost "V" .virtual none none]
theorem COH.witness_virtual_null :
    verdictFin (FinX.finalize env2 none id (FinX.LXact.ofXact wVirtNull)) = .unbalanced ∧
    verdictAssert (Assert.finalize cx2 wVirtNull.posts) = .unbalanced ∧
    verdictOF (OF.finalize env2 0 wVirtNull.posts) = .nullLeft ∧
    verdictAuto (AutoXact.finalize env2 wVirtNull) = .nullLeft ∧
    verdictFin (FinX.finalize env2 none id (FinX.LXact.ofXact wVirtNull2)) = .accepted [] ∧
    verdictOF (OF.finalize env2 0 wVirtNull2.posts) = .nullLeft ∧
    verdictAuto (AutoXact.finalize env2 wVirtNull2) = .nullLeft ∧
    verdictAssert (Assert.finalize cx2 wVirtNull2.posts) = .nullLeft := by decide +kernel

/-- (`noKeepAmt`) an amount that carries the keep-precision flag — which the
    reader never sets on a posting amount — is tested exactly by OF/AutoXact/Assert
    and at display precision by FinX, which clears the flag first (`rounded()`). -/
private def wKeep : Xact :=
  mkX [mkPost "A" .real (some { q := mkRat 4 1000, prec := 3, keep := true, comm := "EUR" }) none]
theorem COH.witness_keep_flag :
    (FinX.finalize env2 none id (FinX.LXact.ofXact wKeep)).toBool = true ∧
    OF.finalize env2 0 wKeep.posts = .error .unbalanced := by decide +kernel

/-- (`exchangeGuard`) an "amount" whose quantity is not a multiple of its own
    precision (1/5 with precision counter 0 — nothing the reader can produce):
    same signs, so OF/Assert reject; FinX doubles it to 2/5 under a larger
    precision counter, which now rounds to zero. -/
private def wInexact : Xact :=
  mkX [mkPost "A" .real (some { q := 1, prec := 0, keep := false, comm := "AAA" }) none,
       mkPost "B" .real (some { q := mkRat 1 5, prec := 0, keep := false, comm := "BBB" }) none]
theorem COH.witness_inexact_exchange :
    (FinX.finalize env2 none id (FinX.LXact.ofXact wInexact)).toBool = true ∧
    OF.finalize env2 0 wInexact.posts = .error .unbalanced ∧
    exchangeGuard env2 wInexact.posts = false := by decide +kernel

/-- What one posting contributes to its transaction's residual in commodity `c`
    is the same rational in C01/C02 (`parseCost`), C08 (`totalCost`) and C09
    (`costTotal`).  No guard. -/
theorem COH.cost_contribution_agree (env : PrecEnv) (c : Comm) (p : Posting) :
    contribFin env c p = contribOF c p ∧ contribAssert c p = contribOF c p :=
  ⟨contribFin_eq_contribOF env c p, contribAssert_eq_contribOF c p⟩

/-- The residual balance per commodity: C01's exact `residual` of the parsed
    postings, the denotation of C08's `xbalance`, and the denotation of whatever
    C09's `residual` scan returns, coincide.  No guard. -/
theorem COH.cost_residual_agree (env : PrecEnv) (x : Xact) (c : Comm) :
    FinX.residual ((FinX.LXact.ofXact x).posts.map (FinX.FPost.ofPosting env)) c
      = (OF.xbalance x.posts).den c ∧
    ∀ v np, Assert.residual x.posts .void none = .ok (v, np) → v.den c = (OF.xbalance x.posts).den c := by
  refine ⟨by rw [ofXact_posts]; exact residual_fin_eq env x.posts c, ?_⟩
  intro v np h
  rw [residual_assert_den c x.posts .void none v np h trivial, OF.xbalance_den]
  exact Rat.zero_add _

/-- As `Value`s (entries with precision counters and flags, the input of the
    display-zero test): with the flag guards and nothing elided, C01's scan and
    C09's scan both return C08's `xbalance`. -/
theorem COH.cost_residual_value_agree (env : PrecEnv) (ps : List Posting) (hnull : OF.nullPosts ps = [])
    (hk : noKeepAmt ps = true) (hkc : noKeepCost ps = true) :
    FinX.scan (ps.map (fun p => FinX.FPost.ofPosting env ⟨p, none⟩)) 0 .void none = .ok (OF.xbalance ps, none) ∧
    Assert.residual ps .void none = .ok (OF.xbalance ps, none) := by
  refine ⟨scan_noNull env ps hk hnull, ?_⟩
  rw [residual_eq ps .void none trivial (noKeepCost_iff.1 hkc), hnull]
  rfl

/-- The lot a posting `a @ k` is annotated with (xact.cc 334-343, pool.cc 263-309):
    C01/C02's `lotStep` on the parsed posting and C16's `annotateCost` both keep
    quantity and total cost, and compute a per-unit price with the same exact
    quantity `|cost / amount|` and commodity; the annotated commodity has the
    posting's commodity as base symbol in either encoding.  Guards: unannotated
    commodities, amount not display-zero, cost in another commodity.  NOT equal:
    the precision counter of the price (C01/C02: that of `amount_t` division,
    C16: the cost's), which no report reads — the commodity key carries the exact ratio. -/
theorem COH.cost_lot_agree (env : PrecEnv) (ds : String) (day : Int) (p : Posting) (a : Amount) (k : Cost)
    (ha : p.amount = some a) (hk : p.cost = some k) (hz : a.isZero env = false)
    (hpa : plain a.comm = true) (hpk : plain k.amt.comm = true) (hne : a.comm ≠ k.amt.comm) :
    ∃ pu p1 p2,
      FinX.lotStep env ds (FinX.FPost.ofPosting env ⟨p, none⟩) = .ok (p1, none) ∧
      AutoXact.annotateCost env day (AutoXact.toPPost env p) = .ok p2 ∧
      p1.amount = some { a with comm := FinX.annotate a.comm pu ds } ∧
      p2.amount = some { a with comm := AutoXact.lotComm a.comm (autoPrice env a k) day } ∧
      p1.cost = some (FinX.parseCost env a k) ∧ p2.cost = some (FinX.parseCost env a k) ∧
      pu.q = (autoPrice env a k).q ∧ pu.comm = (autoPrice env a k).comm ∧
      FinX.lotBase (FinX.annotate a.comm pu ds) = a.comm ∧
      AutoXact.baseComm (AutoXact.lotComm a.comm (autoPrice env a k) day) = a.comm :=
  Coh.cost_lot_agree env ds day p a k ha hk hz hpa hpk hne

/-- An account's own sum: C05 `acctAmount` (plain valuation, no limit), C08
    `ownBalance` and C17's plain register restricted to the account denote the
    same rational in every commodity.  The C08/C17 equality needs no guard; the
    C05 one needs the path/account-string correspondence on this journal. -/
theorem COH.own_sum_agree (j : Journal) (a : String) (c : Comm) :
    (OF.ownBalance (entriesOf j) a).den c
      = (Regroup.sumValue ((Regroup.plainPosts {} j).filter (fun p => decide (p.account = a)))).den c ∧
    ∀ r, pathFaithful j a = true →
      Reports.acctAmount Reports.valAmount (fun _ => true) (Reports.posts j) (pathOf a) = .ok r →
      r.den c = (OF.ownBalance (entriesOf j) a).den c := by
  refine ⟨?_, ?_⟩
  · rw [ownBalance_jsum]
    exact (sumValue_jsum j (fun s => decide (s = a)) c).symm
  · intro r hg h
    rw [acctAmount_jsum j a c r hg h, ownBalance_jsum]

/-- Without any guard: C05's sum for a path `q` is C08's sum over the entries
    whose account string has path `q` (`RPost.path` is `pathOf` of the account
    string).  What `pathFaithful` adds is only that `pathOf` is injective on the
    journal's account names. -/
theorem COH.own_sum_by_path (j : Journal) (q : Reports.Path) (c : Comm) (r : Value)
    (h : Reports.acctAmount Reports.valAmount (fun _ => true) (Reports.posts j) q = .ok r) :
    r.den c = OF.sumDen (fun e => decide (pathOf e.account = q)) c (entriesOf j) := by
  rw [acctAmount_jsum_path j q c r h]
  exact (sumDen_entriesOf j (fun s => decide (pathOf s = q)) c).symm

theorem COH.family_sum_by_path (j : Journal) (q : Reports.Path) (c : Comm) (r : Value)
    (h : Reports.acctTotal Reports.valAmount (fun _ => true) (Reports.posts j) q = .ok r) :
    r.den c = OF.sumDen (fun e => Reports.under q (pathOf e.account)) c (entriesOf j) := by
  rw [acctTotal_jsum_path j q c r h]
  exact (sumDen_entriesOf j (fun s => Reports.under q (pathOf s)) c).symm

/-- An account's total including sub-accounts: C05 `acctTotal`, C08 `familyBalance`, C17. -/
theorem COH.family_sum_agree (j : Journal) (a : String) (c : Comm) :
    (OF.familyBalance (entriesOf j) a).den c
      = (Regroup.sumValue ((Regroup.plainPosts {} j).filter (fun p => accountUnder p.account a))).den c ∧
    ∀ r, underFaithful j a = true →
      Reports.acctTotal Reports.valAmount (fun _ => true) (Reports.posts j) (pathOf a) = .ok r →
      r.den c = (OF.familyBalance (entriesOf j) a).den c := by
  refine ⟨?_, ?_⟩
  · rw [familyBalance_jsum]
    exact (sumValue_jsum j (fun s => accountUnder s a) c).symm
  · intro r hg h
    rw [acctTotal_jsum j a c r hg h, familyBalance_jsum]

/-- The grand total: C05's recursion over the account tree, the sum of all C08
    entries and the last running total of C17's plain register.  No guard. -/
theorem COH.grand_total_agree (j : Journal) (c : Comm) (r : Value)
    (h : Reports.grandTotal Reports.valAmount (fun _ => true) (Reports.posts j) = .ok r) :
    r.den c = (Regroup.sumValue (Regroup.plainPosts {} j)).den c ∧
    r.den c = OF.sumDen (fun _ => true) c (entriesOf j) := by
  have h1 := sumValue_jsum j (fun _ => true) c
  have hf : (Regroup.plainPosts {} j).filter (fun _ => true) = Regroup.plainPosts {} j :=
    List.filter_eq_self.2 (fun _ _ => rfl)
  rw [hf] at h1
  rw [grandTotal_jsum j c r h]
  exact ⟨h1.symm, (sumDen_entriesOf j (fun _ => true) c).symm⟩

/-- Precision counters of sums.  The four re-statements of `add_or_set_value`
    — C08 `OF.vadd`, C09 `Assert.accAdd`, C17 `Regroup.vplus`, and `Value.add`
    itself (C03) — are one function on VOID / AMOUNT / BALANCE: same entries, same
    precision counters (`max`), same flags. -/
theorem COH.add_or_set_value_agree (v : Value) (a : Amount) (h : VAB v) :
    Value.add v (.amt a) = .ok (OF.vadd v a) ∧ Assert.accAdd v a = OF.vadd v a ∧
    Regroup.vplus v (.amt a) = OF.vadd v a := by
  refine ⟨add_eq_vadd v a h, accAdd_eq_vadd v a h, ?_⟩
  unfold Regroup.vplus
  rw [add_eq_vadd v a h]

/-- … and C08's account balance (whose entries the driver now prints with their
    precision counters, `comm~q~prec`) is literally C03's `balance_t +=` fold. -/
theorem COH.ownBalance_is_value_sum (es : List OF.Entry) (a : String) :
    (es.filter (fun e => e.account = a)).foldl (fun v e => Regroup.vplus v (.amt e.amt)) (.bal [])
      = .bal (OF.ownBalance es a) := by
  unfold OF.ownBalance
  generalize es.filter (fun e => e.account = a) = l
  generalize ([] : Balance) = b
  induction l generalizing b with
  | nil => rfl
  | cons e l ih =>
    simp only [List.foldl_cons]
    exact ih (Balance.addAmt b e.amt)

/-- The `value_t::is_zero` of C01/C02, C16 and C08 are one function … -/
theorem COH.valueIsZero_agree :
    FinX.valueIsZero = OF.valueIsZero ∧ AutoXact.valueIsZero = OF.valueIsZero :=
  ⟨valueIsZero_FinX_eq_OF, valueIsZero_AutoXact_eq_OF⟩

/-- … which on an amount IS `Amount.isZero` and on a balance asks it of every entry; -/
theorem COH.valueIsZero_is_isZero (env : PrecEnv) (a : Amount) (b : Balance) :
    OF.valueIsZero env (.amt a) = a.isZero env ∧
    OF.valueIsZero env (.bal b) = b.all (Amount.isZero env) ∧
    Assert.balIsZero env b = b.all (Amount.isZero env) := ⟨rfl, rfl, rfl⟩

/-- C09's version agrees on VOID / AMOUNT / BALANCE (all the residual fold reaches) … -/
theorem COH.valueIsZero_assert_agree (env : PrecEnv) (v : Value) (h : VAB v) :
    Assert.valueIsZero env v = OF.valueIsZero env v := by
  cases v <;> first | rfl | cases h

/-- … and differs on a non-zero INTEGER, which it calls zero (unreachable in C09). -/
theorem COH.valueIsZero_assert_differs_on_int :
    Assert.valueIsZero (fun _ => 0) (.int 1) = true ∧ OF.valueIsZero (fun _ => 0) (.int 1) = false :=
  ⟨rfl, rfl⟩

/-- C15's truth value (`value_t::operator bool`) is the negated zero test. -/
theorem COH.truth_is_not_isZero (env : PrecEnv) (v : Value) :
    Value.truth env v = !FinX.valueIsZero env v := by
  cases v with
  | void => rfl
  | bool b => cases b <;> rfl
  | int n => exact decide_not
  | amt a => rfl
  | bal b =>
    simp only [Value.truth, FinX.valueIsZero]
    induction b with
    | nil => rfl
    | cons x xs ih => simp only [List.any_cons, List.all_cons, ih, Bool.not_and]

/-- C01's `displaysZero` (the zero test of an exact residual) is `Amount.isZero` of
    any flag-free amount whose precision counter exceeds the display precision. -/
theorem COH.displaysZero_is_isZero (env : PrecEnv) (a : Amount) (hk : a.keep = false)
    (hp : env a.comm < a.prec) : FinX.displaysZero env a.comm a.q = a.isZero env := by
  unfold FinX.displaysZero Amount.isZero
  have hcomm : ({ q := a.q, prec := env a.comm + 1, keep := false, comm := a.comm } : Amount).hasComm
      = a.hasComm := rfl
  rw [hcomm]
  cases a.hasComm with
  | false => rfl
  | true =>
    rw [if_pos rfl, if_pos rfl]
    have h1 : ¬ (false = true ∨ env a.comm + 1 ≤ env a.comm) :=
      fun h => h.elim Bool.false_ne_true (Nat.not_succ_le_self _)
    have h2 : ¬ (a.keep = true ∨ a.prec ≤ env a.comm) :=
      fun h => h.elim (fun e => Bool.false_ne_true (hk ▸ e)) (Nat.not_le_of_lt hp)
    rw [if_neg h1, if_neg h2]

/-- The condition under which the implied two-commodity exchange applies
    (`*x && *y`, xact.cc 257) is stated with `Amount.isZero` in all four models;
    C16's and C09's versions coincide when no cost is written. -/
theorem COH.implied_condition_agree (env : PrecEnv) (ps : List Posting) (v : Value)
    (hc : ps.any (fun p => p.cost.isSome) = false) :
    (Assert.impliedPrice env ps v).isSome = AutoXact.impliedPrice env v := by
  unfold Assert.impliedPrice AutoXact.impliedPrice
  cases v with
  | bal b =>
    rcases b with _ | ⟨x, _ | ⟨y, _ | _⟩⟩
    · rfl
    · rfl
    · simp only [hc, Bool.false_eq_true, if_false]
      cases (!x.isZero env && !y.isZero env) <;> rfl
    · rfl
  | void => rfl
  | amt _ => rfl
  | int _ => rfl
  | bool _ => rfl

/-! ## non-vacuity: the guards hold on real transactions and every verdict occurs -/

/-- elided posting, two commodities (one generated posting): all four accept with the same rows -/
private def xFill : Xact :=
  mkX [mkPost "A" .real (some (eur 1000 2)) none, mkPost "C" .bvirtual (some (usd 250 2)) none,
       mkPost "B" .real none none]
example : noKeepAmt xFill.posts = true ∧ noKeepCost xFill.posts = true ∧ noVirtNull xFill.posts = true ∧
    someAmount xFill.posts = true ∧ costOtherComm xFill.posts = true ∧ costHasAmount xFill.posts = true ∧
    exchangeGuard env2 xFill.posts = true ∧ noCostAssert xFill.posts = true ∧
    noLotAmt xFill.posts = true ∧ impliedCase env2 xFill.posts = false := by decide +kernel
example : verdictFin (FinX.finalize env2 none id (FinX.LXact.ofXact xFill))
    = .accepted [⟨"A", .real, eur 1000 2⟩, ⟨"C", .bvirtual, usd 250 2⟩, ⟨"B", .real, (eur 1000 2).neg⟩,
                 ⟨"B", .real, (usd 250 2).neg⟩] := by decide +kernel
example : verdictAuto (AutoXact.finalize env2 xFill) = verdictFin (FinX.finalize env2 none id (FinX.LXact.ofXact xFill)) := by
  decide +kernel

/-- the implied exchange: guards hold (`exchangeGuard` through `exactAmts`), opposite signs accepted -/
private def xImplied : Xact :=
  mkX [mkPost "A" .real (some (eur 1000 2)) none, mkPost "B" .real (some (usd (-1234) 2)) none]
example : impliedCase env2 xImplied.posts = true ∧ exchangeGuard env2 xImplied.posts = true ∧
    noKeepAmt xImplied.posts = true ∧ noVirtNull xImplied.posts = true := by decide +kernel
example : (verdictFin (FinX.finalize env2 none id (FinX.LXact.ofXact xImplied))).map (Row.toOF 18000)
    = verdictOF (OF.finalize env2 18000 xImplied.posts) := by decide +kernel
/-- same signs: unbalanced everywhere -/
example : verdictFin (FinX.finalize env2 none id (FinX.LXact.ofXact
    (mkX [mkPost "A" .real (some (eur 1000 2)) none, mkPost "B" .real (some (usd 1234 2)) none]))) = .unbalanced := by
  decide +kernel

/-- a cost: `3 XX @ 0.333 USD` against `-1.00 USD`, residual -0.001 displays as zero: FinX, OF, Assert accept -/
private def xCost : Xact :=
  mkX [mkPost "A" .real (some { q := 3, prec := 0, keep := false, comm := "XX" }) (some ⟨usd 333 3, true⟩),
       mkPost "B" .real (some (usd (-100) 2)) none]
example : noKeepAmt xCost.posts = true ∧ noKeepCost xCost.posts = true ∧ costOtherComm xCost.posts = true ∧
    costHasAmount xCost.posts = true ∧ exchangeGuard env2 xCost.posts = true ∧
    noVirtNull xCost.posts = true ∧ someAmount xCost.posts = true := by decide +kernel
example : (FinX.finalize env2 none id (FinX.LXact.ofXact xCost)).toBool = true ∧ (OF.finalize env2 0 xCost.posts).toBool = true ∧
    (Assert.finalize cx2 xCost.posts).toBool = true := by decide +kernel

/-- two elided postings: the two-nulls verdict in all four -/
private def xTwo : Xact :=
  mkX [mkPost "A" .real (some (eur 1000 2)) none, mkPost "B" .real none none, mkPost "C" .real none none]
example : verdictFin (FinX.finalize env2 none id (FinX.LXact.ofXact xTwo)) = .twoNulls ∧
    verdictAuto (AutoXact.finalize env2 xTwo) = .twoNulls ∧
    verdictOF (OF.finalize env2 0 xTwo.posts) = .twoNulls ∧
    verdictAssert (Assert.finalize cx2 xTwo.posts) = .twoNulls := by decide +kernel

/-- the path guards of §3 hold on a journal with nested accounts -/
private def jSums : Journal :=
  { xacts := [mkX [mkPost "Assets:Bank" .real (some (eur 1000 2)) none,
                   mkPost "Assets:Bank:Savings" .real (some (eur 500 2)) none,
                   mkPost "Assets" .virtual (some (usd 100 2)) none,
                   mkPost "Assets:Banker" .real (some (eur (-1500) 2)) none]] }
-- `String.splitOn` does not reduce in the kernel, so the path guards are evaluated (not proved) here:
#guard pathFaithful jSums "Assets:Bank" && underFaithful jSums "Assets:Bank" && underFaithful jSums "Assets"
#guard pathFaithful jSums "Assets:Banker" && underFaithful jSums "Assets:Banker"
example : (OF.familyBalance (entriesOf jSums) "Assets:Bank").den "EUR" = 15 := by decide +kernel

end Ledger
