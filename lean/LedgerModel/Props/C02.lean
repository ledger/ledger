/-
C02 — an elided amount is inferred as the exact negation of the rest.

Same model as C01 (`FinX.finalize`, Model/Finalize.lean, mirroring
`xact_base_t::finalize`, src/xact.cc 158-423, and `add_balancing_post`,
xact.cc 125-155).  `FinX.residual ps c` is the exact per-commodity sum of
cost-or-amount over the must-balance postings — ordinary and [bracketed]
postings share ONE residual, so a real null posting also offsets bracketed
amounts (as the binary does).  `FinX.fillPosts ps i n amts` is the transaction
after `add_balancing_post`: posting `i` (= `n`) gets `-amts[0]`, one copy of `n`
per further amount is appended (same account, kind and state; flagged
calculated and generated).

`enum` is the enumeration order of the residual's hash map; the theorems assume
only `(enum b).Perm b`, and `C02.fill_order_free` shows the result does not
depend on it (the C++ sorts with compare_by_commodity, balance.cc 273-300).
-/
import LedgerModel.Lemmas.Finalize
import LedgerModel.Gen.Finalize
import LedgerModel.Model.FinalizePinned

namespace Ledger
open FinX

/-- C02 rests on the same statements of the C++ as C01 (null-post detection and
    its error texts, bucket, `add_balancing_post`, `map_sorted_amounts`,
    `compare_by_commodity`, the cost computation of textual.cc). -/
theorem C02.finalize_shape_pinned : Gen.finalizeShape = Pinned.finalizeShape := rfl

/-- Exactly one must-balance posting `n` has no amount, at index `pre.length`
    (any position).  If the transaction is accepted then, with `ps'` the postings
    after the cost loop of xact.cc 288-352 (amounts that have a cost annotated with
    the computed price and date, lot-priced costs at their basis — see
    `C01.lot_cost_consistent`; the elided posting itself untouched, at the same
    index) and `amts` the entries of the residual of those postings:
    * the result is `fillPosts …`: posting `i` carries `-amts[0]`, and one
      generated posting per further amount is appended, each on `n`'s account
      with `n`'s kind, all flagged calculated;
    * `amts` has one entry per commodity — annotated (lot) commodities are
      commodities of their own — in `compare_by_commodity` order, and the entry
      of commodity `c` is exactly the sum over the other must-balance postings of
      cost-or-amount in `c` (a commodity without entry sums to 0);
    * the result sums to exactly zero in every commodity. -/
theorem C02.finalize_fills_null (env : PrecEnv) (bucket : Option String)
    (enum : Balance → Balance) (henum : ∀ b, (enum b).Perm b) (x : LXact) (x' : FXact)
    (pre post : List FPost) (n : FPost)
    (hx : x.posts.map (FPost.ofPosting (liftEnv env)) = pre ++ n :: post)
    (hpre : ∀ p ∈ pre, p.mustBalance = true → (costOrAmt p).isSome = true)
    (hpost : ∀ p ∈ post, p.mustBalance = true → (costOrAmt p).isSome = true)
    (hn : n.mustBalance = true ∧ n.cost = none ∧ n.amount = none)
    (h : finalize env bucket enum x = .ok x') :
    ∃ (bal0 : Value) (ps' : List FPost) (bal' : Value) (amts : List Amount),
      lotLoop (liftEnv env) (dateText x.date) (pre ++ n :: post) bal0 = .ok (ps', bal') ∧
      ps'[pre.length]? = some n ∧
      x'.posts = fillPosts ps' pre.length n amts ∧
      (∀ a ∈ amts, a.q = residual ps' a.comm) ∧
      (∀ c, c ∉ amts.map (·.comm) → residual ps' c = 0) ∧
      (amts.map (·.comm)).Nodup ∧ amts.Pairwise (fun a b => commLe a.comm b.comm = true) ∧
      (∀ c, residual x'.posts c = 0) := by
  unfold finalize at h
  rw [hx] at h
  obtain ⟨bal0, ps', bal', amts, h0, hi, h1, h2, h3, h4, h5⟩ :=
    finalizeF_fills_null (liftEnv env) bucket enum henum _ pre post n hpre hpost hn
      (hx ▸ ofPosting_cc _ x.posts) x' h
  refine ⟨bal0, ps', bal', amts, h0, hi, h1, ?_, ?_, h3, h4, h5⟩
  · intro a ha
    rw [← h2 a.comm, Balance.den_of_mem h3 ha]
  · intro c hc
    rw [← h2 c, Balance.den_eq_zero_of_not_mem amts c hc]

/-- without costs the cost loop changes nothing: `ps'` above is the transaction as written -/
theorem C02.no_cost_no_change (env : PrecEnv) (date : String) (ps : List FPost) (bal : Value)
    (h : ∀ p ∈ ps, p.cost = none) : lotLoop env date ps bal = .ok (ps, bal) := by
  induction ps with
  | nil => rfl
  | cons q qs ih =>
    rw [lotLoop_cons (lotStep_nocost env date q (h q List.mem_cons_self)) rfl,
      ih (fun r hr => h r (List.mem_cons_of_mem _ hr))]

/-- what `fillPosts` is, spelled out: the null posting filled in place, the rest
    appended on the same account, all calculated -/
theorem C02.fillPosts_spec (ps : List FPost) (i : Nat) (n : FPost) (a : Amount) (rest : List Amount) :
    fillPosts ps i n (a :: rest) =
      ps.set i { n with amount := some a.neg, calculated := true } ++
      rest.map (fun r => { n with amount := some r.neg, calculated := true, generated := true }) ∧
    (∀ p ∈ rest.map (fun r => ({ n with amount := some r.neg, calculated := true, generated := true } : FPost)),
      p.account = n.account ∧ p.kind = n.kind ∧ p.calculated = true) ∧
    fillPosts ps i n [] = ps := by
  refine ⟨rfl, ?_, rfl⟩
  intro p hp
  obtain ⟨r, _, rfl⟩ := List.mem_map.1 hp
  exact ⟨rfl, rfl, rfl⟩

/-- Two (or more) must-balance postings without amount: the transaction is
    rejected with "Only one posting with null amount allowed per transaction"
    (or its "account may be misspelled" variant). -/
theorem C02.finalize_two_nulls (env : PrecEnv) (bucket : Option String) (enum : Balance → Balance)
    (x : LXact) (pre rest : List FPost) (n₁ : FPost)
    (hx : x.posts.map (FPost.ofPosting (liftEnv env)) = pre ++ n₁ :: rest)
    (h₁ : n₁.mustBalance = true ∧ costOrAmt n₁ = none)
    (h₂ : ∃ p ∈ rest, p.mustBalance = true ∧ costOrAmt p = none) :
    finalize env bucket enum x = .error .twoNulls ∨
    finalize env bucket enum x = .error .misspelled := by
  unfold finalize
  rw [hx]
  exact finalizeF_two_nulls (liftEnv env) bucket enum _ pre rest n₁ h₁.1 h₁.2 h₂

/-- A transaction with a single posting (must-balance, with an amount and no
    cost; the amount may carry a lot) while a bucket account `b` is in force: a
    posting on the bucket account carrying the exact negation of the amount — in
    its own, possibly annotated, commodity — is appended, flagged calculated. -/
theorem C02.finalize_bucket (env : PrecEnv) (b : String) (enum : Balance → Balance) (x : LXact)
    (p : LPosting) (a : Amount) (hx : x.posts = [p])
    (hm : p.post.kind ≠ .virtual)
    (ha : (FPost.ofPosting (liftEnv env) p).amount = some a)
    (hc : p.post.cost = none) :
    finalize env (some b) enum x =
      .ok ⟨[FPost.ofPosting (liftEnv env) p,
            bucketPost b p.post.state (some ({ a with keep := false } : Amount).neg) true]⟩ := by
  unfold finalize
  rw [hx]
  have hcn := ofPosting_cost_of_none (liftEnv env) p hc
  have hck : costsOk [FPost.ofPosting (liftEnv env) p] = true := by
    simp only [costsOk, List.all_cons, List.all_nil, hcn, ha, Bool.and_true]
  exact finalizeF_bucket (liftEnv env) b enum _ _ _ a (ofPosting_mustBalance _ p hm)
    (by rw [costOrAmt_of_cost_none _ hcn, ha]) (by rw [ha]; rfl) hck (lotStep_nocost _ _ _ hcn)

/-- With a cost, the COST commodity is what the elided posting offsets: a
    posting `a @ k` / `a @@ k` (no lot price) followed by an elided one yields the
    exact negation of the total cost, in the cost's commodity; the priced posting
    comes back annotated with the computed per-unit price and the date. -/
theorem C02.cost_commodity_offset (env : PrecEnv) (enum : Balance → Balance) (x : LXact)
    (p n : LPosting) (a : Amount) (k : Cost) (pu : Amount) (hx : x.posts = [p, n])
    (hp : p.post.kind ≠ .virtual ∧ p.post.amount = some a ∧ p.post.cost = some k ∧ p.lot = none)
    (hak : a.comm ≠ k.amt.comm)
    (hpu : perUnitCost (liftEnv env) a (parseCost (liftEnv env) a k) = .ok pu)
    (hn : n.post.kind ≠ .virtual ∧ n.post.amount = none) :
    finalize env none enum x =
      .ok ⟨[annotatedPost (FPost.ofPosting (liftEnv env) p) a pu (dateText x.date),
            { FPost.ofPosting (liftEnv env) n with
              amount := some ({ parseCost (liftEnv env) a k with keep := false } : Amount).neg,
              calculated := true }]⟩ ∧
    ({ parseCost (liftEnv env) a k with keep := false } : Amount).neg.comm = k.amt.comm ∧
    ({ parseCost (liftEnv env) a k with keep := false } : Amount).neg.q =
      - (if k.perUnit then k.amt.q * a.q else if a.q < 0 then - k.amt.q else k.amt.q) := by
  have hcomm := parseCost_comm (liftEnv env) a k
  refine ⟨?_, hcomm, by rw [← parseCost_q (liftEnv env) a k]; rfl⟩
  unfold finalize
  rw [hx]
  have hnull := ofPosting_null (liftEnv env) n hn.2
  exact finalizeF_pair (liftEnv env) enum _ _ _ a _ pu (ofPosting_mustBalance _ p hp.1)
    (by rw [ofPosting_amount_plain _ p hp.2.2.2]; exact hp.2.1) (ofPosting_cost _ p hp.2.1 hp.2.2.1)
    (ofPosting_lotPrice_of_none _ p hp.2.2.2) hpu (by rw [hcomm]; exact hak)
    ⟨ofPosting_mustBalance _ n hn.1, hnull.2, hnull.1⟩

/-- With a null posting present the result does not depend on the order in which
    the hash map of the residual is enumerated (`balance_t::map_sorted_amounts`
    sorts by `compare_by_commodity` and each commodity occurs once). -/
theorem C02.fill_order_free (env : PrecEnv) (bucket : Option String) (e₁ e₂ : Balance → Balance)
    (h₁ : ∀ b, (e₁ b).Perm b) (h₂ : ∀ b, (e₂ b).Perm b) (x : LXact)
    (hnull : ∃ p ∈ x.posts, p.post.kind ≠ .virtual ∧ p.post.amount = none) :
    finalize env bucket e₁ x = finalize env bucket e₂ x := by
  unfold finalize
  apply finalizeF_order_free (liftEnv env) bucket e₁ e₂ h₁ h₂
  obtain ⟨p, hp, hk, ha⟩ := hnull
  have hnull := ofPosting_null (liftEnv env) p ha
  exact ⟨FPost.ofPosting (liftEnv env) p, List.mem_map.2 ⟨p, hp, rfl⟩, ofPosting_mustBalance _ p hk,
    nullMB.costOrAmt ⟨ofPosting_mustBalance _ p hk, hnull.2, hnull.1⟩⟩

/-- Default-account declarations.  For any directive list, whatever the spelling
    of each declaration (`A X`, `bucket X`, `account X` + `default`): the bucket
    in force when a transaction is read is the account of the LAST declaration
    preceding it (none if there is none), and that is the bucket its `finalize`
    is run with. -/
theorem C02.bucket_last_declaration_wins (enum : Balance → Balance) (pre : List JItem) (x : LXact) :
    (load enum pre).bucket = lastBucket pre ∧
    load enum (pre ++ [.xact x]) = step enum (load enum pre) (.xact x) ∧
    (∀ fx, finalize (observe (load enum pre).env x) (lastBucket pre) enum x = .ok fx →
      (load enum (pre ++ [.xact x])).xacts = (load enum pre).xacts ++ [fx]) := by
  have hb := load_bucket enum pre
  have hl : load enum (pre ++ [.xact x]) = step enum (load enum pre) (.xact x) := by
    simp [load, List.foldl_append]
  refine ⟨hb, hl, fun fx hf => ?_⟩
  rw [hl]
  simp only [step, hb, hf]

/-- a later declaration replaces an earlier one, in every combination of spellings -/
theorem C02.bucket_redeclared (enum : Balance → Balance) (pre mid : List JItem) (h₁ h₂ : BucketDecl) (a b : String)
    (hmid : lastBucket mid = none) :
    (load enum (pre ++ [.bucket h₁ a] ++ mid ++ [.bucket h₂ b])).bucket = some b ∧
    (load enum (pre ++ [.bucket h₁ a] ++ mid)).bucket = some a := by
  constructor
  · rw [load_bucket, lastBucket_append]; rfl
  · rw [load_bucket, lastBucket_append, hmid]
    simp only
    rw [lastBucket_append]; rfl

/-- the sort itself: any two enumerations of a residual with one entry per
    commodity are sorted into the same list (shared with C19) -/
theorem C02.sortedAmounts_perm (l₁ l₂ : List Amount) (hp : l₁.Perm l₂)
    (hw : (l₁.map (·.comm)).Nodup) : sortByComm l₁ = sortByComm l₂ :=
  sortByComm_eq_of_perm hp hw

/-! ### non-vacuity -/

private def eur (n : Int) (d : Nat) : Amount := { q := mkRat n (10 ^ d), prec := d, keep := false, comm := "EUR" }
private def usd (n : Int) (d : Nat) : Amount := { q := mkRat n (10 ^ d), prec := d, keep := false, comm := "$" }
private def aaa (n : Int) : Amount := { q := n, prec := 0, keep := false, comm := "AAA" }
private def mkPost (acct : String) (k : PostKind) (a : Option Amount) (c : Option Cost) : Posting :=
  { account := acct, kind := k, state := 0, amount := a, cost := c, assert := none, note := "", line := 0 }
private def mkX (ps : List Posting) : LXact := { date := 18262, posts := ps.map (fun p => ⟨p, none⟩) }
private def lot (price : Int) (d : Option String) : LotSpec :=
  { price := some (usd price 2), total := false, fixated := false, date := d, tag := none }
private def mkL (ps : List (Posting × Option LotSpec)) : LXact := { date := 18262, posts := ps.map (fun p => ⟨p.1, p.2⟩) }
private def env2 : PrecEnv := fun c => if c = "EUR" ∨ c = "$" then 2 else 0

/-- null posting first, three commodities (one of them on a [bracketed] posting):
    `$` goes into the null posting, `AAA` and `EUR` are appended in that order -/
example : (finalize env2 none List.reverse (mkX [mkPost "N" .real none none,
      mkPost "A" .real (some (eur 1000 2)) none, mkPost "B" .bvirtual (some (usd 500 2)) none,
      mkPost "C" .real (some (aaa 7)) none])).toOption.map
      (fun fx => fx.posts.map (fun p => (p.account, p.amount.map (fun a => (a.comm, a.q)), p.calculated)))
    = some [("N", some ("$", -5), true), ("A", some ("EUR", 10), false), ("B", some ("$", 5), false),
            ("C", some ("AAA", 7), false), ("N", some ("AAA", -7), true), ("N", some ("EUR", -10), true)] := by
  decide +kernel

/-- elided posting next to two lots of one commodity: one inferred posting per lot,
    each in its own annotated commodity, the cheaper lot first -/
example : (finalize env2 none List.reverse (mkL [(mkPost "A" .real (some (aaa 5)) none, some (lot 600 none)),
      (mkPost "A" .real (some (aaa 10)) none, some (lot 500 (some "2019/02/01"))),
      (mkPost "N" .real none none, none)])).toOption.map
      (fun fx => fx.posts.map (fun p => (p.account, (p.amount.map (·.comm)).getD "", (p.amount.map (·.q)).getD 0, p.calculated)))
    = some [("A", "AAA{6/1 $}[]()", (5 : Rat), false), ("A", "AAA{5/1 $}[2019/02/01]()", (10 : Rat), false),
            ("N", "AAA{5/1 $}[2019/02/01]()", (-10 : Rat), true), ("N", "AAA{6/1 $}[]()", (-5 : Rat), true)] := by
  decide +kernel

/-- two null postings -/
example : finalize env2 none id (mkX [mkPost "N" .real none none,
      mkPost "A" .real (some (eur 1000 2)) none, mkPost "M" .bvirtual none none]) = .error .twoNulls := by
  decide +kernel

/-- bucket -/
example : (finalize env2 (some "Bucket") id (mkX [mkPost "A" .real (some (eur 1000 2)) none])).toOption.map
      (fun fx => fx.posts.map (fun p => (p.account, p.amount.map (fun a => (a.comm, a.q)), p.calculated)))
    = some [("A", some ("EUR", 10), false), ("Bucket", some ("EUR", -10), true)] := by
  decide +kernel

/-- cost commodity is offset: 10 AAA @ $2.50 and an elided posting gives $-25 -/
example : (finalize env2 none id (mkX [mkPost "A" .real (some (aaa 10)) (some ⟨usd 250 2, true⟩),
      mkPost "N" .real none none])).toOption.map
      (fun fx => fx.posts.map (fun p => (p.account, p.amount.map (fun a => (a.comm, a.q)), p.calculated)))
    = some [("A", some ("AAA{5/2 $}[2020/01/01]()", 10), false), ("N", some ("$", -25), true)] := by
  decide +kernel

end Ledger
