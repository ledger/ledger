import LedgerModel.Gen.AmountFns
import LedgerModel.Gen.AmountText
import LedgerModel.Gen.Assert
import LedgerModel.Gen.AssertFns
import LedgerModel.Gen.AutoXact
import LedgerModel.Gen.BeginEnd
import LedgerModel.Gen.BufferFns
import LedgerModel.Gen.BufferSites
import LedgerModel.Gen.Chain
import LedgerModel.Gen.Consts
import LedgerModel.Gen.DateReaders
import LedgerModel.Gen.Emit
import LedgerModel.Gen.EmitFns
import LedgerModel.Gen.ErrorFns
import LedgerModel.Gen.ExitStatus
import LedgerModel.Gen.ExprFlags
import LedgerModel.Gen.ExprFns
import LedgerModel.Gen.Finalize
import LedgerModel.Gen.InvalidChars
import LedgerModel.Gen.Ladder
import LedgerModel.Gen.OrderFree
import LedgerModel.Gen.OrderSourceFns
import LedgerModel.Gen.OrderSources
import LedgerModel.Gen.PeriodCode
import LedgerModel.Gen.PeriodKeywords
import LedgerModel.Gen.Prices
import LedgerModel.Gen.Print
import LedgerModel.Gen.QueryFns
import LedgerModel.Gen.QueryKeywords
import LedgerModel.Gen.Regroup
import LedgerModel.Gen.ReportFns
import LedgerModel.Gen.Timelog
import LedgerModel.Gen.TokenSpellings
import LedgerModel.Gen.ValueCells
import LedgerModel.Model.AmountFnsPinned
import LedgerModel.Model.AmountText
import LedgerModel.Model.AmountTextPinned
import LedgerModel.Model.AmountTextProto
import LedgerModel.Model.Assert
import LedgerModel.Model.AssertFnsPinned
import LedgerModel.Model.AssertPinned
import LedgerModel.Model.AssertProto
import LedgerModel.Model.AutoXact
import LedgerModel.Model.AutoXactPinned
import LedgerModel.Model.AutoXactProto
import LedgerModel.Model.BeginEndPinned
import LedgerModel.Model.BufferFnsPinned
import LedgerModel.Model.Buffers
import LedgerModel.Model.BuffersProto
import LedgerModel.Model.Calendar
import LedgerModel.Model.DateParse
import LedgerModel.Model.DateParseProto
import LedgerModel.Model.DateReadersPinned
import LedgerModel.Model.Emit
import LedgerModel.Model.EmitFnsPinned
import LedgerModel.Model.EmitProto
import LedgerModel.Model.ErrorFnsPinned
import LedgerModel.Model.Errors
import LedgerModel.Model.ErrorsProto
import LedgerModel.Model.Expr
import LedgerModel.Model.ExprFnsPinned
import LedgerModel.Model.ExprProto
import LedgerModel.Model.Finalize
import LedgerModel.Model.FinalizePinned
import LedgerModel.Model.FinalizeProto
import LedgerModel.Model.Journal
import LedgerModel.Model.JournalProto
import LedgerModel.Model.OrderFree
import LedgerModel.Model.OrderFreePinned
import LedgerModel.Model.OrderFreeProto
import LedgerModel.Model.OrderSourceFnsPinned
import LedgerModel.Model.OrderSources
import LedgerModel.Model.OrderSourcesPinned
import LedgerModel.Model.OrderSourcesProto
import LedgerModel.Model.Period
import LedgerModel.Model.PeriodCodePinned
import LedgerModel.Model.PeriodProto
import LedgerModel.Model.PriceRoute
import LedgerModel.Model.Prices
import LedgerModel.Model.PricesPinned
import LedgerModel.Model.PricesProto
import LedgerModel.Model.Print
import LedgerModel.Model.PrintPinned
import LedgerModel.Model.PrintProto
import LedgerModel.Model.Proto
import LedgerModel.Model.Query
import LedgerModel.Model.QueryFnsPinned
import LedgerModel.Model.QueryKeywordsPinned
import LedgerModel.Model.QueryParse
import LedgerModel.Model.QueryProto
import LedgerModel.Model.Regroup
import LedgerModel.Model.RegroupGuard
import LedgerModel.Model.RegroupPinned
import LedgerModel.Model.RegroupProto
import LedgerModel.Model.ReportFnsPinned
import LedgerModel.Model.Reports
import LedgerModel.Model.ReportsProto
import LedgerModel.Model.Timelog
import LedgerModel.Model.TimelogPinned
import LedgerModel.Model.TimelogProto
import LedgerModel.Model.Value
import LedgerModel.Model.ValueCellsPinned
import LedgerModel.Model.ValueProto
import LedgerModel.Lemmas.AmountText
import LedgerModel.Lemmas.Assert
import LedgerModel.Lemmas.AssertCore
import LedgerModel.Lemmas.AssertRun
import LedgerModel.Lemmas.AssertWitness
import LedgerModel.Lemmas.AutoXact
import LedgerModel.Lemmas.BalanceEq
import LedgerModel.Lemmas.Buffers
import LedgerModel.Lemmas.Calendar
import LedgerModel.Lemmas.CoherenceCore
import LedgerModel.Lemmas.CoherenceCost
import LedgerModel.Lemmas.CoherenceExch
import LedgerModel.Lemmas.CoherenceFinX
import LedgerModel.Lemmas.CoherenceModels
import LedgerModel.Lemmas.CoherenceSums
import LedgerModel.Lemmas.DateParse
import LedgerModel.Lemmas.Emit
import LedgerModel.Lemmas.Equity
import LedgerModel.Lemmas.Errors
import LedgerModel.Lemmas.ExceptBind
import LedgerModel.Lemmas.ExprBasic
import LedgerModel.Lemmas.ExprEval
import LedgerModel.Lemmas.ExprParam
import LedgerModel.Lemmas.ExprParse
import LedgerModel.Lemmas.ExprScope
import LedgerModel.Lemmas.Finalize
import LedgerModel.Lemmas.FinalizeSort
import LedgerModel.Lemmas.FinalizeSteps
import LedgerModel.Lemmas.FinalizeValue
import LedgerModel.Lemmas.ListExtra
import LedgerModel.Lemmas.OrderFree
import LedgerModel.Lemmas.OrderSources
import LedgerModel.Lemmas.Period
import LedgerModel.Lemmas.PeriodInterval
import LedgerModel.Lemmas.PriceRoute
import LedgerModel.Lemmas.Prices
import LedgerModel.Lemmas.Print
import LedgerModel.Lemmas.PrintInst
import LedgerModel.Lemmas.PrintToy
import LedgerModel.Lemmas.Query
import LedgerModel.Lemmas.QueryParse
import LedgerModel.Lemmas.RegroupGroups
import LedgerModel.Lemmas.RegroupRuns
import LedgerModel.Lemmas.RegroupSort
import LedgerModel.Lemmas.RegroupSortX
import LedgerModel.Lemmas.RegroupSums
import LedgerModel.Lemmas.Reports
import LedgerModel.Lemmas.ReportsDefined
import LedgerModel.Lemmas.ReportsRows
import LedgerModel.Lemmas.ReportsTree
import LedgerModel.Lemmas.Timelog
import LedgerModel.Lemmas.Value
import LedgerModel.Props.C01
import LedgerModel.Props.C02
import LedgerModel.Props.C03
import LedgerModel.Props.C04
import LedgerModel.Props.C05
import LedgerModel.Props.C06
import LedgerModel.Props.C07
import LedgerModel.Props.C08
import LedgerModel.Props.C09
import LedgerModel.Props.C10
import LedgerModel.Props.C11
import LedgerModel.Props.C12
import LedgerModel.Props.C13
import LedgerModel.Props.C14
import LedgerModel.Props.C15
import LedgerModel.Props.C16
import LedgerModel.Props.C17
import LedgerModel.Props.C18
import LedgerModel.Props.C19
import LedgerModel.Props.C20
import LedgerModel.Props.Coherence
import LedgerModel.Registry
